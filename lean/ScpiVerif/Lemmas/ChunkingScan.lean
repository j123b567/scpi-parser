/-
C08: the parts of a unit (Lemmas/UnitForm.lean) when more bytes arrive.  With a line terminator at index `J` of `w`,
each part that ends at or before `J` is the same in `w ++ y` as in `w` (`unit_parts_stable`): no word of a token
language other than a string contains a line terminator (`longest_stable`), a string does not by hypothesis
(Lemmas/ChunkingQuote.lean), and a definite-length block that is complete in `w` is the same block in `w ++ y`.  What
ends the unit behind its data list is the same too, except that a CR at the very end of `w` and a line feed at the
start of `y` make one terminator (`unitEnd_append`).
-/
import ScpiVerif.Lemmas.ChunkingDefs
import ScpiVerif.Lemmas.UnitForm
import ScpiVerif.Lemmas.ChunkingQuote

namespace ScpiVerif.Lemmas.Chunking
open ScpiVerif ScpiVerif.Lexer ScpiVerif.Spec ScpiVerif.Props.C08 ScpiVerif.Parser ScpiVerif.Lemmas.Lexer

def nlFree : Re → Bool
  | .chr p => !p 10 && !p 13
  | .seq a b | .alt a b => nlFree a && nlFree b
  | .star a => nlFree a
  | _ => true

theorem nlFree_all {r : Re} (h : nlFree r = true) : Regex.reAll (fun b => b ≠ 10 ∧ b ≠ 13) r := by
  induction r with
  | empty | eps => trivial
  | chr p =>
    rw [nlFree, Bool.and_eq_true, Bool.not_eq_true', Bool.not_eq_true'] at h
    intro b hb
    refine ⟨fun e => ?_, fun e => ?_⟩
    · rw [e, h.1] at hb; cases hb
    · rw [e, h.2] at hb; cases hb
  | seq a b iha ihb | alt a b iha ihb =>
    rw [nlFree, Bool.and_eq_true] at h
    exact ⟨iha h.1, ihb h.2⟩
  | star a ih => exact ih h

theorem NLat.ne_nil {s : Bytes} {i : Nat} (h : NLat s i) : s ≠ [] := by
  intro h0; subst h0; rcases h with h | h <;> simp at h

theorem NLat.kill {r : Re} (hr : nlFree r = true) {s : Bytes} {i m : Nat} (h : NLat s i) (hm : i < m) :
    ¬ Matches r (s.take m) := by
  intro hmat
  rcases h with h | h
  · exact (Regex.matches_all hmat (nlFree_all hr) 10 (ByteList.mem_take_idx h hm)).1 rfl
  · exact (Regex.matches_all hmat (nlFree_all hr) 13 (ByteList.mem_take_idx h hm)).2 rfl

theorem longest_stable (r : Re) (hr : nlFree r = true) (s y : Bytes) (i : Nat) (hi : NLat s i) :
    r.longest (s ++ y) = r.longest s := by
  have hil := hi.lt
  have kill : ∀ m, s.length < m → ¬ Matches r ((s ++ y).take m) := by
    intro m hm
    exact NLat.kill hr (hi.append y) (by omega)
  cases h : r.longest s with
  | some n =>
    rw [Regex.longest_is_longest] at h ⊢
    obtain ⟨h1, h2, h3⟩ := h
    refine ⟨by rw [List.length_append]; omega, by rw [List.take_append_of_le_length h1]; exact h2, ?_⟩
    intro m hm hml
    by_cases hms : m ≤ s.length
    · rw [List.take_append_of_le_length hms]; exact h3 m hm hms
    · exact kill m (by omega)
  | none =>
    rw [Regex.longest_none] at h ⊢
    intro m hml
    by_cases hms : m ≤ s.length
    · rw [List.take_append_of_le_length hms]; exact h m hms
    · exact kill m (by omega)

theorem ne_nil_of_getElem? {s : Bytes} {i : Nat} {b : UInt8} (h : s[i]? = some b) : s ≠ [] :=
  List.ne_nil_of_mem (List.mem_of_getElem? h)

/-- the largest of some candidates, as `specToken .header` takes it, is bounded as they are -/
theorem best_le (l : List (Option Nat)) (L : Nat) (h : ∀ n, some n ∈ l → n ≤ L) :
    List.foldl max 0 (l.filterMap id) ≤ L := by
  have hf : ∀ (xs : List Nat) (a : Nat), a ≤ L → (∀ n ∈ xs, n ≤ L) → xs.foldl max a ≤ L := by
    intro xs
    induction xs with
    | nil => intro a ha _; exact ha
    | cons x xs ih =>
      intro a ha hx
      exact ih _ (Nat.max_le.2 ⟨ha, hx x (List.mem_cons_self ..)⟩) fun n hn => hx n (List.mem_cons_of_mem _ hn)
  refine hf _ 0 (Nat.zero_le _) fun n hn => h n ?_
  obtain ⟨o, ho, rfl⟩ := List.mem_filterMap.1 hn
  exact ho

theorem specToken_header_stable (s y : Bytes) (i : Nat) (hi : NLat s i) :
    specToken .header (s ++ y) = specToken .header s := by
  have hne := hi.ne_nil
  have hl := hi.lt
  have hb := best_le [headerComplete.longest s, headerIncompleteCommon.longest s, headerIncompleteCompound.longest s]
    s.length fun n hn => by
      simp only [List.mem_cons, List.not_mem_nil, or_false] at hn
      rcases hn with h | h | h <;> exact Lemmas.Lexer.longest_le h.symm
  simp only [specToken, longest_stable headerComplete (by decide) s y i hi,
    longest_stable headerIncompleteCommon (by decide) s y i hi, longest_stable headerIncompleteCompound (by decide) s y i hi,
    ByteList.head_append_of_ne s y hne]
  rw [List.getElem?_append_left (by omega)]

theorem specToken_plain_stable (s y : Bytes) (i : Nat) (hi : NLat s i) :
    specToken .ws (s ++ y) = specToken .ws s ∧ specToken .chr (s ++ y) = specToken .chr s ∧
    specToken .decimal (s ++ y) = specToken .decimal s ∧ specToken .suffix (s ++ y) = specToken .suffix s ∧
    specToken .expression (s ++ y) = specToken .expression s ∧ specToken .nondecimal (s ++ y) = specToken .nondecimal s := by
  refine ⟨?_, ?_, ?_, ?_, ?_, ?_⟩
  · simp only [specToken, longest_stable wsRe (by decide) s y i hi]
  · simp only [specToken, longest_stable mnemonic (by decide) s y i hi]
  · simp only [specToken, longest_stable decimal (by decide) s y i hi]
  · simp only [specToken, longest_stable Spec.suffix (by decide) s y i hi]
  · simp only [specToken, longest_stable expression (by decide) s y i hi]
  · simp only [specToken, longest_stable hexnum (by decide) s y i hi, longest_stable octnum (by decide) s y i hi,
      longest_stable binnum (by decide) s y i hi]

/-- a block that is complete in `s`, or refused there, is the same in `s ++ y`: the length digits of `s ++ y` are those of `s`
unless `s` ends inside them (`tw_take`), which is the verdict `incomplete` -/
theorem specBlock_stable (s y : Bytes) (hne : s ≠ []) :
    (∀ h n, specBlock s = .valid h n → specBlock (s ++ y) = .valid h n) ∧
    (specBlock s = .invalid → specBlock (s ++ y) = .invalid) := by
  cases s with
  | nil => exact absurd rfl hne
  | cons b t =>
    by_cases hb : b = 35
    · subst hb
      cases t with
      | nil => exact ⟨fun _ _ => nofun, nofun⟩
      | cons d r =>
        have htw := tw_le_length isDigit r
        obtain ⟨hle, hin⟩ : tw isDigit r ≤ tw isDigit (r ++ y) ∧
            (tw isDigit r < r.length → tw isDigit (r ++ y) = tw isDigit r) := by
          have := tw_take isDigit (r ++ y) r.length
          rw [List.take_left' rfl] at this
          omega
        rw [List.cons_append, List.cons_append, block_specBlock_hash, block_specBlock_hash, List.length_append]
        by_cases hdig : (isDigit d && d != 48) = true
        · rw [if_pos hdig, if_pos hdig]
          by_cases hk : d.toNat - 48 ≤ tw isDigit r
          · rw [if_pos hk, if_pos (Nat.le_trans hk hle), List.take_append_of_le_length (Nat.le_trans hk htw)]
            split
            · rw [if_pos (by omega)]; exact ⟨fun _ _ he => he, nofun⟩
            · exact ⟨fun _ _ => nofun, nofun⟩
          · rw [if_neg hk]
            by_cases h2 : r.length ≤ tw isDigit r
            · rw [if_pos h2]; exact ⟨fun _ _ => nofun, nofun⟩
            · rw [if_neg h2, hin (by omega), if_neg hk, if_neg (by omega)]; exact ⟨fun _ _ => nofun, fun _ => rfl⟩
        · rw [if_neg hdig, if_neg hdig]; exact ⟨fun _ _ => nofun, fun _ => rfl⟩
    · have hi : ∀ t, specBlock (b :: t) = .invalid := fun t => block_specBlock_nohash (by simpa using hb)
      exact ⟨fun _ _ he => (nomatch (hi _).symm.trans he), fun _ => hi _⟩

theorem plain_le {r : Re} (hr : nlFree r = true) {ty : TokType} {s : Bytes} {i : Nat} {e : Expect} (hi : NLat s i)
    (h : plainSpec r ty s = some e) : e.consumed ≤ i := by
  obtain ⟨n, rfl, -, hP, -⟩ := plainSpec_cases h
  exact Nat.le_of_not_lt fun hn => NLat.kill hr hi hn hP.2

theorem decimal_le {s : Bytes} {i : Nat} {e : Expect} (hi : NLat s i) (h : specToken .decimal s = some e) :
    e.consumed ≤ i :=
  plain_le (r := decimal) (by decide) hi h

theorem wsLen_le {s : Bytes} {i : Nat} (hi : NLat s i) : wsLen s ≤ i := by
  unfold wsLen
  cases h : specToken .ws s with
  | none => simp
  | some e => simpa using plain_le (r := wsRe) (by decide) hi h

theorem drop_view (s y : Bytes) (i n : Nat) (hi : NLat s i) (hn : n ≤ i) :
    (s ++ y).drop n = s.drop n ++ y ∧ NLat (s.drop n) (i - n) := by
  have hl := hi.lt
  refine ⟨List.drop_append_of_le_length (by omega), ?_⟩
  unfold NLat
  rw [List.getElem?_drop]
  rw [show n + (i - n) = i by omega]; exact hi

theorem wsLen_stable (s y : Bytes) (i : Nat) (hi : NLat s i) : wsLen (s ++ y) = wsLen s := by
  unfold wsLen; rw [(specToken_plain_stable s y i hi).1]

theorem specData_stable (s y : Bytes) (i : Nat) (hi : NLat s i) (hq : StrOK (s ++ y))
    (hsw : specData s ≠ .swallow) : specData (s ++ y) = specData s := by
  obtain ⟨hws, hchr, hdec, hsuf, hexp, hnd⟩ := specToken_plain_stable s y i hi
  have hstr := specToken_string_stable s y i hi hq
  have hne := hi.ne_nil
  unfold specData at hsw ⊢
  simp only [hnd, hchr, hdec, hstr, hexp] at hsw ⊢
  cases h1 : specToken .nondecimal s with
  | some e => simp only
  | none =>
    cases h2 : specToken .chr s with
    | some e => simp only
    | none =>
      cases h3 : specToken .decimal s with
      | some e =>
        have hle := decimal_le hi h3
        obtain ⟨v1, v2⟩ := drop_view s y i e.consumed hi hle
        have hw := wsLen_stable _ y _ v2
        have hwl := wsLen_le v2
        obtain ⟨v3, v4⟩ := drop_view s y i (e.consumed + wsLen (s.drop e.consumed)) hi (by omega)
        have hs := (specToken_plain_stable _ y _ v4).2.2.2.1
        simp only [v1, hw, v3, hs]
      | none =>
        cases h5 : specToken .string s with
        | some e => simp only
        | none =>
          simp only [h1, h2, h3, h5] at hsw ⊢
          obtain ⟨b1, b2⟩ := specBlock_stable s y hne
          cases h4 : specBlock s with
          | valid h n => rw [b1 h n h4]
          | incomplete => rw [h4] at hsw; exact absurd rfl hsw
          | invalid => rw [b2 h4]


theorem afterWs_stable (w y : Bytes) (J : Nat) (hJ : NLat w J) {off : Nat} (h : off ≤ J) :
    afterWs (w ++ y) off = afterWs w off ∧ afterWs w off ≤ J := by
  obtain ⟨v1, v2⟩ := drop_view w y J off hJ h
  have := wsLen_le v2
  unfold afterWs
  rw [v1, wsLen_stable _ y _ v2]
  exact ⟨rfl, by omega⟩

theorem sepBefore_afterWs {w : Bytes} {off : Nat} (h : SepBefore w off ∨ off < afterWs w off) : SepBefore w (afterWs w off) := by
  by_cases hw0 : 0 < wsLen (w.drop off)
  · obtain ⟨b, hb, hs⟩ := wsLen_last hw0
    rw [List.getElem?_drop] at hb
    have := SepBefore.of_get hb hs
    rwa [show off + (wsLen (w.drop off) - 1) + 1 = afterWs w off by unfold afterWs; omega] at this
  · have h0 : afterWs w off = off := by unfold afterWs; omega
    rw [h0] at h ⊢
    exact h.resolve_right (Nat.lt_irrefl _)


theorem unit_listRes_inj {a b : ListSpec} (h : unit_listRes a = unit_listRes b) : a = b := by
  cases a <;> cases b <;> simp only [unit_listRes, Prod.mk.injEq] at h
  · rw [h.1, Int.ofNat_inj.1 h.2]
  · omega
  · omega
  · rw [h.1]

/-- any two sufficient iteration counts: both results are what `allDataLoop` computes (`Lexer.unit_loop`) -/
theorem specList_fuel (f1 f2 : Nat) (s : Bytes) (off cnt : Nat) (ho : off ≤ s.length) (h1 : s.length - off < f1)
    (h2 : s.length - off < f2) : specList f1 s off cnt = specList f2 s off cnt :=
  unit_listRes_inj ((unit_loop s off (s.length - off + 1) f1 off 0 0 cnt ho (Nat.le_refl _) h1 rfl).1.symm.trans
    (unit_loop s off (s.length - off + 1) f2 off 0 0 cnt ho (Nat.le_refl _) h2 rfl).1)

theorem specList_stable (w y : Bytes) (J : Nat) (hJ : NLat w J) (hq : QuotesLineLocal (w ++ y)) :
    ∀ (fuel off cnt : Nat), off ≤ J → SepBefore w off → (Lemmas.Lexer.unit_listRes (specList fuel w off cnt)).1 ≤ J →
    specList fuel (w ++ y) off cnt = specList fuel w off cnt := by
  have hJl := hJ.lt
  intro fuel
  induction fuel with
  | zero => intro off cnt _ _ _; rfl
  | succ fuel ih =>
    intro off cnt hoff hsep hend
    rw [specList_succ] at hend
    rw [specList_succ, specList_succ]
    obtain ⟨e0, l0⟩ := afterWs_stable w y J hJ hoff
    obtain ⟨v3, v4⟩ := drop_view w y J (afterWs w off) hJ l0
    have hsw : specData (w.drop (afterWs w off)) ≠ .swallow := by
      intro h; rw [h] at hend; simp only [Lemmas.Lexer.unit_listRes] at hend; omega
    -- the data element starts directly after a blank or a comma
    have ed : specData ((w ++ y).drop (afterWs w off)) = specData (w.drop (afterWs w off)) := by
      rw [v3]
      exact specData_stable _ y _ v4 (by rw [← v3]; exact qll_strOK hq (SepBefore.append (sepBefore_afterWs (Or.inl hsep)) y)) hsw
    rw [e0, ed]
    cases hd : specData (w.drop (afterWs w off)) with
    | swallow => exact absurd hd hsw
    | none => rfl
    | item n t po pl =>
      rw [hd] at hend
      dsimp only at hend ⊢
      have hm := fun (hc : (w.drop (afterWs w (afterWs w off + n))).head? = some 44) =>
        specList_mono fuel w (afterWs w (afterWs w off + n) + 1) (cnt + 1) (unit_head_lt hc)
      have hpw : afterWs w (afterWs w off + n) ≤ J := by
        split at hend
        · rename_i hc
          have := hm hc
          omega
        · exact hend
      obtain ⟨e1, _⟩ := afterWs_stable w y J hJ (Nat.le_trans (le_afterWs _ _) hpw)
      obtain ⟨v7, v8⟩ := drop_view w y J _ hJ hpw
      rw [e1, v7, ByteList.head_append_of_ne _ y v8.ne_nil]
      split
      · rename_i hc
        rw [if_pos hc] at hend
        have := hm hc
        have h44 : w[afterWs w (afterWs w off + n)]? = some 44 := by rw [← List.head?_drop]; exact hc
        exact ih _ _ (by omega) (SepBefore.of_get h44 (by decide)) hend
      · rfl


theorem nlLen_nl {r : Bytes} (h : 0 < nlLen r) : NLat r (nlLen r - 1) := by
  cases r with
  | nil => cases h
  | cons b t =>
    rw [nlLen_cons] at h ⊢
    by_cases hb : b = 10
    · rw [if_pos hb]; exact Or.inl (by rw [hb]; rfl)
    · rw [if_neg hb] at h ⊢
      by_cases hc : b = 13
      · rw [if_pos hc]
        by_cases ht : t.head? = some 10
        · rw [if_pos ht]
          cases t with
          | nil => cases ht
          | cons b' t' => exact Or.inl (by simpa using ht)
        · rw [if_neg ht]; exact Or.inr (by rw [hc]; rfl)
      · rw [if_neg hc] at h; cases h

theorem nlLen_append (r y : Bytes) (hne : r ≠ []) :
    nlLen (r ++ y) = nlLen r + if r = [13] ∧ y.head? = some 10 then 1 else 0 := by
  cases r with
  | nil => exact absurd rfl hne
  | cons b t =>
    cases t with
    | cons b' t' =>
      rw [if_neg (fun h => by cases h.1)]
      rfl
    | nil =>
      show (if b = 10 then 1 else if b = 13 then (if y.head? = some 10 then 2 else 1) else 0) =
        (if b = 10 then 1 else if b = 13 then 1 else 0) + _
      by_cases hb : b = 10
      · subst hb; rw [if_pos rfl, if_pos rfl, if_neg (fun h => by cases h.1)]
      · rw [if_neg hb, if_neg hb]
        by_cases hc : b = 13
        · subst hc
          by_cases hy : y.head? = some 10
          · rw [if_pos rfl, if_pos hy, if_pos rfl, if_pos ⟨rfl, hy⟩]
          · rw [if_pos rfl, if_neg hy, if_pos rfl, if_neg (fun h => hy h.2)]
        · rw [if_neg hc, if_neg hc, if_neg (fun h => hc (by cases h.1; rfl))]

theorem nlLen_all {r : Bytes} (hl : nlLen r = r.length) (h13 : r.getLast? = some 13) : r = [13] := by
  cases r with
  | nil => cases h13
  | cons b t =>
    rw [nlLen_cons] at hl
    by_cases hb : b = 10
    · rw [if_pos hb] at hl
      cases t with
      | nil => subst hb; cases h13
      | cons _ _ => cases hl
    · rw [if_neg hb] at hl
      by_cases hc : b = 13
      · rw [if_pos hc] at hl
        cases t with
        | nil => rw [hc]
        | cons b' t' =>
          by_cases ht : (b' :: t').head? = some 10
          · rw [if_pos ht] at hl
            cases t' with
            | nil =>
              have : b' = 10 := by simpa using ht
              subst this
              cases h13
            | cons _ _ => cases hl
          · rw [if_neg ht] at hl; cases hl
      · rw [if_neg hc] at hl; cases hl

theorem unitEnd_append (r y : Bytes) (hne : r ≠ []) :
    unitEnd (r ++ y) = ((unitEnd r).1 + (if r = [13] ∧ y.head? = some 10 then 1 else 0), (unitEnd r).2) := by
  have he : ∀ x : Bytes, x ≠ [] → x.isEmpty = false := by
    intro x hx; cases x with
    | nil => exact absurd rfl hx
    | cons _ _ => rfl
  by_cases h1 : 0 < nlLen r
  · unfold unitEnd
    rw [nlLen_append r y hne, if_pos h1, if_pos (Nat.lt_of_lt_of_le h1 (Nat.le_add_right _ _))]
  · have hd : (if r = [13] ∧ y.head? = some 10 then 1 else 0) = 0 := if_neg (fun h => h1 (by rw [h.1]; decide))
    unfold unitEnd
    rw [nlLen_append r y hne, hd, Nat.add_zero, if_neg h1, if_neg h1, ByteList.head_append_of_ne r y hne, he r hne,
      he (r ++ y) (by simp [hne])]
    split <;> rfl

theorem unitEnd_nl {r : Bytes} (h : (unitEnd r).2.1 = .nl) : 1 ≤ (unitEnd r).1 ∧ NLat r ((unitEnd r).1 - 1) := by
  unfold unitEnd at h ⊢
  by_cases h1 : 0 < nlLen r
  · rw [if_pos h1]; exact ⟨h1, nlLen_nl h1⟩
  · rw [if_neg h1] at h
    split at h
    · cases h
    · split at h <;> cases h

theorem unitEnd_cr {r : Bytes} : r = [13] ↔ (unitEnd r).2.1 = .nl ∧ (unitEnd r).1 = r.length ∧ r.getLast? = some 13 := by
  constructor
  · intro h; subst h; decide
  · intro ⟨ht, hl, h13⟩
    unfold unitEnd at ht hl
    by_cases h1 : 0 < nlLen r
    · rw [if_pos h1] at hl; exact nlLen_all hl h13
    · rw [if_neg h1] at ht
      split at ht
      · cases ht
      · split at ht <;> cases ht

/-- the parts `unitOf` is put together from, all but the last (`unitEnd_append`).
`hP2`: the terminator of the unit starts at or before a line terminator of `w` -/
theorem unit_parts_stable (w y : Bytes) (J : Nat) (hJ : NLat w J) (hq : QuotesLineLocal (w ++ y)) (hP2 : (uData w).1 ≤ J) :
    wsLen (w ++ y) = wsLen w ∧ uHdr (w ++ y) = uHdr w ∧ uData (w ++ y) = uData w ∧ dataSpec (w ++ y) = dataSpec w := by
  have hge := uData_ge w
  have hP1 : uP1 w ≤ J := by omega
  have hW0 : wsLen w ≤ J := by unfold uP1 at hP1; omega
  have e0 : wsLen (w ++ y) = wsLen w := wsLen_stable w y J hJ
  obtain ⟨v1, v2⟩ := drop_view w y J (wsLen w) hJ hW0
  have eH : uHdr (w ++ y) = uHdr w := by
    unfold uHdr
    rw [e0, v1, specToken_header_stable _ y _ v2]
  have eP : uP1 (w ++ y) = uP1 w := by unfold uP1; rw [e0, eH]
  obtain ⟨v3, v4⟩ := drop_view w y J (uP1 w) hJ hP1
  have eW : uW1 (w ++ y) = uW1 w := by
    unfold uW1; rw [eP, v3, wsLen_stable _ y _ v4]
  refine ⟨e0, eH, ?_⟩
  -- the end of the data list and its token are taken from one `specList`, looked at only behind a blank
  unfold uData dataSpec
  rw [eW, eP]
  by_cases hw : uW1 w > 0
  · have hl := hJ.lt
    have hf : specList ((w ++ y).length + 1) w (uP1 w + uW1 w) 0 = specList (w.length + 1) w (uP1 w + uW1 w) 0 :=
      specList_fuel _ _ w _ 0 (uW1_le w) (by rw [List.length_append]; omega) (by omega)
    have hE : (Lemmas.Lexer.unit_listRes (specList (w.length + 1) w (uP1 w + uW1 w) 0)).1 = (uData w).1 := by
      unfold uData; rw [if_pos hw]
    have hsep : SepBefore w (uP1 w + uW1 w) := sepBefore_afterWs (Or.inr (Nat.lt_add_of_pos_right hw))
    simp only [if_pos hw]
    rw [specList_stable w y J hJ hq _ _ 0 (by omega) hsep (by rw [hf, hE]; exact hP2), hf]
    exact ⟨rfl, rfl⟩
  · simp only [if_neg hw, and_self]

end ScpiVerif.Lemmas.Chunking
