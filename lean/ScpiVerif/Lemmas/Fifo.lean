/-
Helper lemmas for C10 (ring buffer fifo.c and the error-queue layer of error.c).  The ring: `Inv` is kept and each
operation is the list operation on `abs` (`inv_add`, `abs_add`, ..), seen by splitting the range of cells that `abs` reads
at its end or at its start (`filterMap_range_succ`, `filterMap_range_succ'`).  The queue layer: `push_eq` leaves of `EQ.push` only the
split full / not full; `R n q s`, queue `q` of capacity `n` denotes the abstract queue `s`, is kept by every operation with
equal observations (`step_refines`); `P n q`, every live allocation is referenced by exactly one entry (`OwnedL`), likewise
(`step_owned`).
-/
import ScpiVerif.Model.Fifo

namespace ScpiVerif.Lemmas.Fifo
open ScpiVerif ScpiVerif.Fifo

variable {α : Type}

theorem mod_sub {a n : Nat} (h0 : n ≤ a) (h : a < n + n) : a % n = a - n := by
  rw [Nat.mod_eq_sub_mod h0, Nat.mod_eq_of_lt (by omega)]

theorem mod_wrap {a n : Nat} (h : a < n + n) : a % n = if a < n then a else a - n := by
  split
  · exact Nat.mod_eq_of_lt ‹_›
  · exact mod_sub (by omega) h

theorem filterMap_range_succ (g : Nat → Option α) (n : Nat) :
    (List.range (n + 1)).filterMap g = (List.range n).filterMap g ++ (g n).toList := by
  rw [List.range_succ, List.filterMap_append]
  cases h : g n <;> simp [h]

theorem filterMap_range_length (g : Nat → Option α) (n : Nat) (hg : ∀ i, i < n → (g i).isSome) :
    ((List.range n).filterMap g).length = n := by
  induction n with
  | zero => rfl
  | succ n ih =>
    obtain ⟨v, hv⟩ := Option.isSome_iff_exists.mp (hg n (by omega))
    rw [filterMap_range_succ, List.length_append, ih (fun i hi => hg i (by omega)), hv]
    rfl

theorem filterMap_range_succ' (g : Nat → Option α) (n : Nat) :
    (List.range (n + 1)).filterMap g = (g 0).toList ++ (List.range n).filterMap fun i => g (i + 1) := by
  rw [List.range_succ_eq_map, List.filterMap_cons, List.filterMap_map]
  cases g 0 <;> rfl

theorem filterMap_congr {β : Type} {g g' : β → Option α} {l : List β} (h : ∀ i ∈ l, g i = g' i) :
    l.filterMap g = l.filterMap g' := by
  induction l with
  | nil => rfl
  | cons a l ih => rw [List.filterMap_cons, List.filterMap_cons, h a (by simp), ih fun i hi => h i (by simp [hi])]

theorem _root_.ScpiVerif.Fifo.Inv.count_le {f : Fifo α} (h : Inv f) : f.count ≤ f.size := h.2.2.2.2.1

theorem data_isSome (f : Fifo α) (h : Inv f) (i : Nat) : (f.data[(f.rd + i) % f.size]?).isSome := by
  obtain ⟨h1, h2, _⟩ := h
  have : (f.rd + i) % f.size < f.size := Nat.mod_lt _ (by omega)
  simp [h2, this]

theorem abs_length (f : Fifo α) (h : Inv f) : (abs f).length = f.count :=
  filterMap_range_length _ _ (fun i _ => data_isSome f h i)

theorem inv_init (n : Nat) (d : α) (hn : 1 ≤ n) : Inv (Fifo.init n d) := by
  simp [Fifo.Inv, Fifo.init]; omega

theorem inv_add (f : Fifo α) (v : α) (h : Inv f) : Inv (add f v).1 := by
  unfold add
  split
  · exact h
  · rename_i hf
    obtain ⟨h1, h2, h3, h4, h5, h6⟩ := h
    simp [isFull] at hf
    refine ⟨h1, by simpa using h2, h3, Nat.mod_lt _ (by omega), by simp; omega, ?_⟩
    simp only [h6, Nat.mod_add_mod]
    rfl

theorem inv_remove (f : Fifo α) (h : Inv f) : Inv (remove f).1 := by
  unfold remove
  split
  · exact h
  · rename_i hf
    obtain ⟨h1, h2, h3, h4, h5, h6⟩ := h
    simp [isEmpty] at hf
    refine ⟨h1, h2, Nat.mod_lt _ (by omega), h4, by simp; omega, ?_⟩
    simp only [h6, Nat.mod_add_mod]
    congr 1; omega

theorem inv_removeLast (f : Fifo α) (h : Inv f) : Inv (removeLast f).1 := by
  unfold removeLast
  split
  · exact h
  · rename_i hf
    obtain ⟨h1, h2, h3, h4, h5, h6⟩ := h
    simp [isEmpty] at hf
    refine ⟨h1, h2, h3, Nat.mod_lt _ (by omega), by simp; omega, ?_⟩
    show (f.wr + f.size - 1) % f.size = (f.rd + (f.count - 1)) % f.size
    rw [h6, Nat.add_sub_assoc h1, Nat.mod_add_mod,
      show f.rd + f.count + (f.size - 1) = f.rd + (f.count - 1) + f.size by omega, Nat.add_mod_right]

theorem inv_clear (f : Fifo α) (h : Inv f) : Inv (Fifo.clear f) := by
  obtain ⟨h1, h2, h3, h4, h5, h6⟩ := h
  refine ⟨h1, h2, ?_, ?_, ?_, ?_⟩ <;> simp [Fifo.clear] <;> omega

theorem abs_init (n : Nat) (d : α) : abs (Fifo.init n d) = [] := by
  simp [abs, Fifo.init]

theorem abs_clear (f : Fifo α) : abs (Fifo.clear f) = [] := by
  simp [abs, Fifo.clear]

theorem abs_count (f : Fifo α) (h : Inv f) : cnt f = (abs f).length := by
  rw [abs_length f h]; rfl

theorem abs_add (f : Fifo α) (v : α) (h : Inv f) :
    (add f v).2 = decide ((abs f).length < f.size) ∧
    abs (add f v).1 = if (abs f).length < f.size then abs f ++ [v] else abs f := by
  rw [abs_length f h]
  obtain ⟨h1, h2, h3, h4, h5, h6⟩ := h
  unfold add
  by_cases hf : f.count = f.size
  · simp [isFull, hf]
  · have hlt : f.count < f.size := by omega
    simp only [isFull, beq_iff_eq, hf, if_false, hlt, decide_true, if_true, true_and]
    -- the cell written lies behind the live cells, so they keep their values
    have hne : ∀ i ∈ List.range f.count, f.wr ≠ (f.rd + i) % f.size := by
      intro i hi
      have := List.mem_range.mp hi
      rw [h6, mod_wrap (show f.rd + f.count < f.size + f.size by omega),
        mod_wrap (show f.rd + i < f.size + f.size by omega)]
      split <;> split <;> omega
    simp only [abs]
    rw [filterMap_range_succ, filterMap_congr fun i hi => List.getElem?_set_ne (hne i hi), ← h6,
      List.getElem?_set_self (by omega)]
    rfl

theorem abs_eq_nil (f : Fifo α) (h : Inv f) (h0 : f.count = 0) : abs f = [] :=
  List.eq_nil_of_length_eq_zero (by rw [abs_length f h, h0])

theorem abs_remove (f : Fifo α) (h : Inv f) :
    (remove f).2 = (abs f).head? ∧ abs (remove f).1 = (abs f).tail := by
  unfold remove
  by_cases hf : f.count = 0
  · simp [isEmpty, hf, abs_eq_nil f h hf]
  · obtain ⟨c, hc⟩ : ∃ c, f.count = c + 1 := ⟨f.count - 1, by omega⟩
    obtain ⟨x, hx⟩ := Option.isSome_iff_exists.mp (data_isSome f h 0)
    -- the oldest cell is the one at `rd`; the others are read from one cell further on
    simp only [isEmpty, beq_iff_eq, hf, if_false]
    simp only [abs, hc, Nat.add_sub_cancel, filterMap_range_succ', hx, Nat.mod_add_mod]
    rw [Nat.add_zero, Nat.mod_eq_of_lt h.2.2.1] at hx
    exact ⟨hx, by simp only [Nat.add_assoc, Nat.add_comm 1]; rfl⟩

theorem abs_removeLast (f : Fifo α) (h : Inv f) :
    (removeLast f).2 = (abs f).getLast? ∧ abs (removeLast f).1 = (abs f).dropLast := by
  have hwr := (inv_removeLast f h).2.2.2.2.2
  unfold removeLast at hwr ⊢
  by_cases hf : f.count = 0
  · simp [isEmpty, hf, abs_eq_nil f h hf]
  · obtain ⟨c, hc⟩ : ∃ c, f.count = c + 1 := ⟨f.count - 1, by omega⟩
    obtain ⟨x, hx⟩ := Option.isSome_iff_exists.mp (data_isSome f h c)
    -- the newest cell is the last of the range
    simp only [isEmpty, beq_iff_eq, hf, if_false] at hwr ⊢
    simp only [hc, Nat.add_sub_cancel] at hwr
    simp only [abs, hc, Nat.add_sub_cancel, filterMap_range_succ, hwr, hx]
    exact ⟨List.getLast?_concat.symm, List.dropLast_concat.symm⟩

@[simp] theorem size_add (f : Fifo α) (v : α) : (add f v).1.size = f.size := by
  unfold add; split <;> rfl
@[simp] theorem size_remove (f : Fifo α) : (remove f).1.size = f.size := by
  unfold remove; split <;> rfl
@[simp] theorem size_removeLast (f : Fifo α) : (removeLast f).1.size = f.size := by
  unfold removeLast; split <;> rfl
@[simp] theorem size_clear (f : Fifo α) : (Fifo.clear f).size = f.size := rfl
@[simp] theorem count_clear (f : Fifo α) : (Fifo.clear f).count = 0 := rfl
theorem count_add (f : Fifo α) (v : α) : (add f v).1.count = if f.count = f.size then f.count else f.count + 1 := by
  unfold add isFull
  by_cases h : f.count = f.size <;> simp [h]
theorem count_remove (f : Fifo α) : (remove f).1.count = f.count - 1 := by
  unfold remove; split
  · rename_i h; simp [isEmpty] at h; simp [h]
  · rfl
theorem count_removeLast (f : Fifo α) : (removeLast f).1.count = f.count - 1 := by
  unfold removeLast; split
  · rename_i h; simp [isEmpty] at h; simp [h]
  · rfl

theorem abs_add_notfull (f : Fifo α) (v : α) (h : Inv f) (hf : f.count ≠ f.size) :
    abs (add f v).1 = abs f ++ [v] := by
  have := (abs_add f v h).2
  rw [abs_length f h] at this
  have hlt : f.count < f.size := by have := h.count_le; omega
  simpa [hlt] using this

theorem abs_overflow (f : Fifo α) (v : α) (h : Inv f) (hf : f.count = f.size) :
    abs (add (removeLast f).1 v).1 = (abs f).dropLast ++ [v] := by
  have hr := inv_removeLast f h
  rw [abs_add_notfull _ v hr, (abs_removeLast f h).2]
  rw [count_removeLast, size_removeLast]
  have := h.1; omega

theorem removeLast_some (f : Fifo α) (h : Inv f) (hf : f.count ≠ 0) :
    ∃ e, (removeLast f).2 = some e ∧ abs f = (abs f).dropLast ++ [e] := by
  have hl := abs_length f h
  have hne : abs f ≠ [] := by intro h0; rw [h0] at hl; simp at hl; omega
  refine ⟨(abs f).getLast hne, ?_, (List.dropLast_concat_getLast hne).symm⟩
  rw [(abs_removeLast f h).1, List.getLast?_eq_some_getLast hne]

theorem remove_some (f : Fifo α) (h : Inv f) (hf : f.count ≠ 0) :
    ∃ e, (remove f).2 = some e ∧ abs f = e :: (abs f).tail := by
  have hl := abs_length f h
  rw [(abs_remove f h).1]
  cases hab : abs f with
  | nil => rw [hab] at hl; simp at hl; omega
  | cons e t => exact ⟨e, rfl, rfl⟩

theorem remove_none (f : Fifo α) (hf : f.count = 0) : remove f = (f, none) := by
  simp [remove, isEmpty, hf]

def idsOf (l : List Entry) : List Nat := l.filterMap (fun e => e.info.map (·.1))

def OwnedL (l : List Entry) (a : Alloc) : Prop :=
  (idsOf l).Nodup ∧ (∀ id, id ∈ idsOf l ↔ id ∈ a.live) ∧ a.live.Nodup ∧ a.doubleFree = false ∧
  (∀ id ∈ a.live, id < a.next)

theorem owned_iff (q : EQ) : EQ.Owned q ↔ OwnedL (Fifo.abs q.fifo) q.alloc := Iff.rfl

theorem idsOf_append (l1 l2 : List Entry) : idsOf (l1 ++ l2) = idsOf l1 ++ idsOf l2 := by
  simp [idsOf]

theorem ownedL_append_none (l : List Entry) (a : Alloc) (c : Int) (h : OwnedL l a) :
    OwnedL (l ++ [⟨c, none⟩]) a := by
  have : idsOf (l ++ [⟨c, none⟩]) = idsOf l := by simp [idsOf]
  unfold OwnedL; rw [this]; exact h

theorem ownedL_append_malloc (l : List Entry) (a : Alloc) (c : Int) (t : Bytes) (h : OwnedL l a) :
    OwnedL (l ++ [⟨c, some (a.next, t)⟩]) a.malloc.1 := by
  have : idsOf (l ++ [⟨c, some (a.next, t)⟩]) = idsOf l ++ [a.next] := by simp [idsOf]
  obtain ⟨h1, h2, h3, h4, h5⟩ := h
  -- the new identifier is fresh: every live one is below `next`
  have hn : a.next ∉ a.live := fun hm => Nat.lt_irrefl _ (h5 _ hm)
  unfold OwnedL; rw [this]
  simp only [Alloc.malloc]
  refine ⟨?_, fun id => ?_, List.nodup_cons.2 ⟨hn, h3⟩, h4, ?_⟩
  · exact (List.perm_append_singleton _ _).nodup_iff.2 (List.nodup_cons.2 ⟨fun hx => hn ((h2 _).1 hx), h1⟩)
  · rw [List.mem_append, List.mem_singleton, List.mem_cons, h2 id, or_comm]
  · intro id hid
    rcases List.mem_cons.1 hid with rfl | hid
    · exact Nat.lt_succ_self _
    · exact Nat.lt_succ_of_lt (h5 id hid)

/-- Overflow path of SCPI_ErrorPushEx: the text was duplicated before `fifo_add` refused it and is freed at
once, so of the allocator only `next` moves. -/
theorem ownedL_bump (l : List Entry) (a : Alloc) (t : Bytes) (h : OwnedL l a) :
    OwnedL l (a.malloc.1.free (some (a.next, t))) := by
  obtain ⟨h1, h2, h3, h4, h5⟩ := h
  have hn : a.next ∉ a.live := fun hm => Nat.lt_irrefl _ (h5 _ hm)
  have : a.malloc.1.free (some (a.next, t)) = { a with next := a.next + 1 } := by
    simp [Alloc.malloc, Alloc.free]
  rw [this]
  exact ⟨h1, h2, h3, h4, fun id hid => by have := h5 id hid; simp; omega⟩

theorem ownedL_remove_free (l1 l2 : List Entry) (e : Entry) (a : Alloc) (h : OwnedL (l1 ++ e :: l2) a) :
    OwnedL (l1 ++ l2) (a.free e.info) := by
  obtain ⟨c, info⟩ := e
  cases info with
  | none =>
    have : idsOf (l1 ++ ⟨c, none⟩ :: l2) = idsOf (l1 ++ l2) := by simp [idsOf]
    unfold OwnedL at h; rw [this] at h; exact h
  | some p =>
    obtain ⟨id, t⟩ := p
    have e1 : idsOf (l1 ++ ⟨c, some (id, t)⟩ :: l2) = idsOf l1 ++ id :: idsOf l2 := by simp [idsOf]
    have e2 : idsOf (l1 ++ l2) = idsOf l1 ++ idsOf l2 := idsOf_append _ _
    obtain ⟨h1, h2, h3, h4, h5⟩ := h
    rw [e1] at h1 h2
    have hm : id ∈ a.live := (h2 id).mp (by simp)
    have hf : a.free (some (id, t)) = { a with live := a.live.erase id } := by
      simp [Alloc.free, hm]
    -- the freed identifier occurs once in the queue
    obtain ⟨hid, hnd⟩ := List.nodup_cons.1 (List.perm_middle.nodup_iff.1 h1)
    unfold OwnedL; rw [e2, hf]
    refine ⟨hnd, fun x => ?_, h3.erase _, h4, fun x hx => h5 x (List.mem_of_mem_erase hx)⟩
    rw [h3.mem_erase_iff, ← h2 x, List.mem_append, List.mem_append, List.mem_cons]
    exact ⟨fun hx => ⟨fun e => hid (e ▸ List.mem_append.2 hx), hx.imp_right .inr⟩,
      fun ⟨hne, hx⟩ => hx.imp_right fun hx => hx.resolve_left hne⟩

/-- allocator effect and stored pointer of a push -/
def pushAlloc (a : Alloc) (w : Bool) (info : Option Bytes) (l : Nat) (ok : Bool) : Alloc × Info :=
  match specText w info l ok with
  | some t => (a.malloc.1, some (a.next, t))
  | none => (a, none)

/-- `EQ.push` with the allocator effect factored into `pushAlloc`: what is left to split on in
`step_refines` and `step_owned` is only full / not full. -/
theorem push_eq (q : EQ) (w : Bool) (c : Int) (info : Option Bytes) (l : Nat) (ok : Bool) :
    q.push w c info l ok =
      if q.fifo.count = q.fifo.size then
        (⟨(add (removeLast q.fifo).1 ⟨overflowCode, none⟩).1,
          ((pushAlloc q.alloc w info l ok).1.free (pushAlloc q.alloc w info l ok).2).free
            (match (removeLast q.fifo).2 with
              | some e => e.info
              | none => (pushAlloc q.alloc w info l ok).2)⟩, [c, overflowCode])
      else (⟨(add q.fifo ⟨c, (pushAlloc q.alloc w info l ok).2⟩).1, (pushAlloc q.alloc w info l ok).1⟩, [c]) := by
  cases info with
  | none =>
    by_cases hf : q.fifo.count = q.fifo.size <;>
      (simp [EQ.push, pushAlloc, specText, add, isFull, hf]; try rfl)
  | some s =>
    by_cases hf : q.fifo.count = q.fifo.size <;> by_cases hw : (w && ok) = true <;>
      (simp [EQ.push, pushAlloc, specText, add, isFull, hf, hw, Alloc.malloc]; try rfl)

theorem sysErrNext_eq (q : EQ) :
    q.sysErrNext = (⟨(remove q.fifo).1, q.alloc.free ((remove q.fifo).2.getD ⟨0, none⟩).info⟩,
      (remove q.fifo).2.getD ⟨0, none⟩) := rfl

theorem clear_eq (q : EQ) :
    q.clear = ⟨Fifo.clear (EQ.clearLoop q.fifo.count q.fifo q.alloc).1,
      (EQ.clearLoop q.fifo.count q.fifo q.alloc).2⟩ := rfl

theorem clearLoop_inv (n : Nat) (f : Fifo Entry) (a : Alloc) (h : Inv f) :
    Inv (EQ.clearLoop n f a).1 ∧ (EQ.clearLoop n f a).1.size = f.size := by
  induction n generalizing f a with
  | zero => exact ⟨h, rfl⟩
  | succ n ih =>
    unfold EQ.clearLoop
    have hi := inv_remove f h
    have hs := size_remove f
    cases hr : remove f with
    | mk f' o =>
      rw [hr] at hi hs
      cases o with
      | none => exact ⟨hi, hs⟩
      | some e =>
        have := ih f' (a.free e.info) hi
        exact ⟨this.1, this.2.trans hs⟩

theorem clearLoop_owned (n : Nat) (f : Fifo Entry) (a : Alloc) (h : Inv f) (hc : f.count = n)
    (ho : OwnedL (abs f) a) :
    (EQ.clearLoop n f a).1.count = 0 ∧ OwnedL (abs (EQ.clearLoop n f a).1) (EQ.clearLoop n f a).2 := by
  induction n generalizing f a with
  | zero => exact ⟨hc, ho⟩
  | succ n ih =>
    unfold EQ.clearLoop
    obtain ⟨e, he, hab⟩ := remove_some f h (by omega)
    have hi := inv_remove f h
    have hcnt := count_remove f
    have htl := (abs_remove f h).2
    cases hr : remove f with
    | mk f' o =>
      rw [hr] at hi hcnt htl he
      simp only at he hi hcnt htl
      subst he
      simp only
      apply ih f' (a.free e.info) hi (by omega)
      rw [htl]
      rw [hab] at ho
      exact ownedL_remove_free [] _ e a ho

def toSpec (e : Entry) : Int × Option Bytes := (e.code, e.info.map (·.2))

theorem eqabs_eq (q : EQ) : EQ.abs q = (abs q.fifo).map toSpec := rfl

theorem eqabs_length (q : EQ) (h : Inv q.fifo) : (EQ.abs q).length = q.fifo.count := by
  rw [eqabs_eq, List.length_map, abs_length _ h]

theorem pushAlloc_text (a : Alloc) (w : Bool) (info : Option Bytes) (l : Nat) (ok : Bool) :
    (pushAlloc a w info l ok).2.map (·.2) = specText w info l ok := by
  unfold pushAlloc; split <;> simp [*]

def R (n : Nat) (q : EQ) (s : SpecQ) : Prop := Fifo.Inv q.fifo ∧ q.fifo.size = n ∧ EQ.abs q = s

theorem step_refines (n : Nat) (w : Bool) (q : EQ) (s : SpecQ) (op : Op) (h : R n q s) :
    (EQ.step w q op).2 = (specStep n w s op).2 ∧ R n (EQ.step w q op).1 (specStep n w s op).1 := by
  obtain ⟨hinv, hsz, rfl⟩ := h
  have hlen := eqabs_length q hinv
  cases op with
  | push c i l ok =>
    simp only [EQ.step, specStep, push_eq]
    by_cases hf : q.fifo.count = q.fifo.size
    · have hnl : ¬ (EQ.abs q).length < n := by omega
      simp only [hf, if_true, hnl, if_false, true_and, specPush]
      exact ⟨inv_add _ _ (inv_removeLast _ hinv), by simpa using hsz,
        by simp [eqabs_eq, abs_overflow _ _ hinv hf, toSpec, List.map_dropLast]⟩
    · have hnl : (EQ.abs q).length < n := by have := hinv.count_le; omega
      simp only [hf, if_false, hnl, if_true, true_and, specPush]
      exact ⟨inv_add _ _ hinv, by simpa using hsz,
        by simp [eqabs_eq, abs_add_notfull _ _ hinv hf, toSpec, pushAlloc_text]⟩
  | pop | sysErr =>
    simp only [EQ.step, specStep, specPop, sysErrNext_eq]
    have hr := abs_remove q.fifo hinv
    refine ⟨?_, inv_remove _ hinv, by simpa using hsz, by simp [eqabs_eq, hr.2]⟩
    rw [hr.1, eqabs_eq]
    cases abs q.fifo <;> simp [toSpec]
  | clear =>
    simp only [EQ.step, specStep, clear_eq, true_and]
    have hc := clearLoop_inv q.fifo.count q.fifo q.alloc hinv
    exact ⟨inv_clear _ hc.1, by simpa [hc.2] using hsz, by simp [eqabs_eq, abs_clear]⟩
  | count =>
    simp only [EQ.step, specStep, EQ.count, hlen, true_and]
    exact ⟨hinv, hsz, rfl⟩

theorem run_nil {σ : Type} (step : σ → Op → σ × Obs) (s : σ) : run step s [] = (s, []) := rfl
theorem run_cons {σ : Type} (step : σ → Op → σ × Obs) (s : σ) (op : Op) (ops : List Op) :
    run step s (op :: ops) =
      ((run step (step s op).1 ops).1, (step s op).2 :: (run step (step s op).1 ops).2) := rfl

theorem run_refines (n : Nat) (w : Bool) (ops : List Op) (q : EQ) (s : SpecQ) (h : R n q s) :
    (run (EQ.step w) q ops).2 = (run (specStep n w) s ops).2 ∧
    R n (run (EQ.step w) q ops).1 (run (specStep n w) s ops).1 := by
  induction ops generalizing q s with
  | nil => exact ⟨rfl, h⟩
  | cons op ops ih =>
    have hs := step_refines n w q s op h
    have := ih _ _ hs.2
    simp only [run_cons]
    exact ⟨by rw [hs.1, this.1], this.2⟩

theorem queue_refines (n : Nat) (hn : 1 ≤ n) (withInfo : Bool) (ops : List Op) :
    (run (EQ.step withInfo) (EQ.init n) ops).2 = (run (specStep n withInfo) [] ops).2 ∧
    EQ.abs (run (EQ.step withInfo) (EQ.init n) ops).1 = (run (specStep n withInfo) [] ops).1 := by
  have h0 : R n (EQ.init n) [] :=
    ⟨inv_init n _ hn, rfl, by rw [eqabs_eq]; simp [EQ.init, abs_init]⟩
  have := run_refines n withInfo ops _ _ h0
  exact ⟨this.1, this.2.2.2⟩

def P (n : Nat) (q : EQ) : Prop := Fifo.Inv q.fifo ∧ q.fifo.size = n ∧ OwnedL (abs q.fifo) q.alloc

theorem step_owned (n : Nat) (w : Bool) (q : EQ) (op : Op) (h : P n q) : P n (EQ.step w q op).1 := by
  obtain ⟨hinv, hsz, ho⟩ := h
  -- the ring invariant and the capacity are kept as in `step_refines`
  obtain ⟨hi', hs', -⟩ := (step_refines n w q _ op ⟨hinv, hsz, rfl⟩).2
  refine ⟨hi', hs', ?_⟩
  cases op with
  | push c i l ok =>
    simp only [EQ.step, push_eq]
    by_cases hf : q.fifo.count = q.fifo.size
    · simp only [hf, if_true]
      obtain ⟨e, he, hab⟩ := removeLast_some q.fifo hinv (by have := hinv.1; omega)
      rw [abs_overflow _ _ hinv hf, he]
      simp only
      apply ownedL_append_none
      have hb : OwnedL (abs q.fifo) ((pushAlloc q.alloc w i l ok).1.free (pushAlloc q.alloc w i l ok).2) := by
        unfold pushAlloc; split
        · exact ownedL_bump _ _ _ ho
        · exact ho
      rw [hab] at hb
      simpa using ownedL_remove_free _ [] e _ hb
    · simp only [hf, if_false]
      rw [abs_add_notfull _ _ hinv hf]
      unfold pushAlloc; split
      · exact ownedL_append_malloc _ _ _ _ ho
      · exact ownedL_append_none _ _ _ ho
  | pop | sysErr =>
    simp only [EQ.step, sysErrNext_eq]
    by_cases hc : q.fifo.count = 0
    · rw [remove_none _ hc]; exact ho
    · obtain ⟨e, he, hab⟩ := remove_some q.fifo hinv hc
      rw [(abs_remove _ hinv).2, he]
      rw [hab] at ho
      exact ownedL_remove_free [] _ e _ ho
  | clear =>
    simp only [EQ.step, clear_eq]
    have hc := clearLoop_inv q.fifo.count q.fifo q.alloc hinv
    have hw := clearLoop_owned q.fifo.count q.fifo q.alloc hinv rfl ho
    rw [abs_clear, ← abs_eq_nil _ hc.1 hw.1]
    exact hw.2
  | count => exact ho

theorem run_owned (n : Nat) (w : Bool) (ops : List Op) (q : EQ) (h : P n q) :
    P n (run (EQ.step w) q ops).1 := by
  induction ops generalizing q with
  | nil => exact h
  | cons op ops ih =>
    simp only [run_cons]
    exact ih _ (step_owned n w q op h)

theorem queue_owned (n : Nat) (hn : 1 ≤ n) (withInfo : Bool) (ops : List Op) :
    let q := (run (EQ.step withInfo) (EQ.init n) ops).1
    EQ.Owned q ∧ (EQ.abs q = [] → q.alloc.live = []) := by
  intro q
  have h0 : P n (EQ.init n) := by
    refine ⟨inv_init n _ hn, rfl, ?_⟩
    simp [EQ.init, abs_init, OwnedL, idsOf]
  have hp : P n q := run_owned n withInfo ops _ h0
  refine ⟨(owned_iff q).mpr hp.2.2, ?_⟩
  intro he
  have hnil : abs q.fifo = [] := by simpa [eqabs_eq] using he
  have hiff := hp.2.2.2.1
  rw [hnil] at hiff
  apply List.eq_nil_iff_forall_not_mem.mpr
  intro id hid
  have := (hiff id).mpr hid
  simp [idsOf] at this

end ScpiVerif.Lemmas.Fifo
