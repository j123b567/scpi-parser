/-
The calculus in which every scan over bytes is expressed (Lemmas/LexCalc.lean .. LexHeader.lean for the recognisers,
Lemmas/Strto.lean for the C library's conversions): `hd s p`, the first byte of `s` satisfies `p`, and `tw p s`, the length of the
longest prefix of bytes satisfying `p`, over `s = buf.drop pos`.  The namespace is `ScpiVerif.Lemmas.Lexer`, which the token modules
continue (there is no namespace `ByteScan`); the other users open it for `hd` and `tw`.
-/
import ScpiVerif.Lemmas.ByteClass

namespace ScpiVerif.Lemmas.Lexer
open ScpiVerif ScpiVerif.Lexer

def hd (s : Bytes) (p : UInt8 → Bool) : Bool :=
  match s with
  | b :: _ => p b
  | [] => false

def tw (p : UInt8 → Bool) (s : Bytes) : Nat := (s.takeWhile p).length

@[simp] theorem hd_nil (p : UInt8 → Bool) : hd [] p = false := rfl
@[simp] theorem hd_cons (b : UInt8) (s : Bytes) (p : UInt8 → Bool) : hd (b :: s) p = p b := rfl
@[simp] theorem tw_nil (p : UInt8 → Bool) : tw p [] = 0 := rfl
theorem tw_cons (p : UInt8 → Bool) (b : UInt8) (s : Bytes) :
    tw p (b :: s) = if p b = true then 1 + tw p s else 0 := by
  unfold tw; rw [List.takeWhile_cons]; split <;> simp [Nat.add_comm]

theorem length_takeWhile (p : UInt8 → Bool) (s : Bytes) : (s.takeWhile p).length = tw p s := rfl

theorem isEmpty_takeWhile (p : UInt8 → Bool) (s : Bytes) : (s.takeWhile p).isEmpty = decide (tw p s = 0) := by
  unfold tw
  cases h : s.takeWhile p <;> simp

theorem tw_le_length (p : UInt8 → Bool) (s : Bytes) : tw p s ≤ s.length := by
  induction s with
  | nil => simp
  | cons b s ih => rw [tw_cons]; split <;> simp <;> omega

theorem hd_length {s : Bytes} {p : UInt8 → Bool} (h : hd s p = true) : 0 < s.length := by
  cases s with
  | nil => simp at h
  | cons b s => simp

theorem hd_drop_length {s : Bytes} {p : UInt8 → Bool} {i : Nat} (h : hd (s.drop i) p = true) :
    i < s.length := by
  have := hd_length h
  simp at this; omega

theorem hd_drop_of_lt_tw {p : UInt8 → Bool} {s : Bytes} {j : Nat} (h : j < tw p s) :
    hd (s.drop j) p = true := by
  induction s generalizing j with
  | nil => simp at h
  | cons b s ih =>
    rw [tw_cons] at h
    by_cases hb : p b = true
    · rw [if_pos hb] at h
      cases j with
      | zero => simpa using hb
      | succ j => simp; exact ih (by omega)
    · rw [if_neg hb] at h; omega

theorem hd_drop_tw (p : UInt8 → Bool) (s : Bytes) : hd (s.drop (tw p s)) p = false := by
  induction s with
  | nil => simp
  | cons b s ih =>
    rw [tw_cons]
    by_cases hb : p b = true
    · rw [if_pos hb, Nat.add_comm]; simpa using ih
    · rw [if_neg hb]; simpa using hb

theorem tw_pos_iff {p : UInt8 → Bool} {s : Bytes} : 0 < tw p s ↔ hd s p = true := by
  cases s with
  | nil => simp
  | cons b s => rw [tw_cons]; by_cases hb : p b = true <;> simp [hb]; omega

theorem tw_eq_zero_iff {p : UInt8 → Bool} {s : Bytes} : tw p s = 0 ↔ hd s p = false := by
  have := @tw_pos_iff p s
  cases h : hd s p <;> simp [h] at this ⊢ <;> omega

theorem tw_succ {p : UInt8 → Bool} {s : Bytes} (h : hd s p = true) : tw p s = 1 + tw p (s.drop 1) := by
  cases s with
  | nil => simp at h
  | cons b s => rw [tw_cons]; simp at h; simp [h]

theorem tw_drop {p : UInt8 → Bool} {s : Bytes} {j : Nat} (h : j ≤ tw p s) :
    tw p (s.drop j) = tw p s - j := by
  induction s generalizing j with
  | nil => simp
  | cons b s ih =>
    cases j with
    | zero => simp
    | succ j =>
      rw [tw_cons] at h ⊢
      by_cases hb : p b = true
      · rw [if_pos hb] at h ⊢
        simp; rw [ih (by omega)]; omega
      · rw [if_neg hb] at h; omega

theorem hd_disj {p q : UInt8 → Bool} (hpq : ∀ b, p b = true → q b = false) {s : Bytes}
    (h : hd s p = true) : hd s q = false := by
  cases s with
  | nil => rfl
  | cons b s => exact hpq b h

theorem hd_imp {p q : UInt8 → Bool} (hpq : ∀ b, p b = true → q b = true) {s : Bytes}
    (h : hd s p = true) : hd s q = true := by
  cases s with
  | nil => simp at h
  | cons b s => exact hpq b h

theorem class_of_beq {x : UInt8} {p : UInt8 → Bool} (h : p x = false) : ∀ b, (b == x) = true → p b = false :=
  fun b hb => by rw [eq_of_beq hb]; exact h

theorem class_ne_beq {x : UInt8} {p : UInt8 → Bool} (h : p x = false) : ∀ b, p b = true → (b == x) = false :=
  fun b hb => by
    cases hx : b == x
    · rfl
    · rw [eq_of_beq hx, h] at hb; cases hb

theorem hd_eq_iff_head? {s : Bytes} {ch : UInt8} : hd s (· == ch) = true ↔ s.head? = some ch := by
  cases s with
  | nil => simp
  | cons b s => simp

/-- `hd_eq_iff_head?` as a rewrite rule for the tests the models write with `head?` -/
theorem head_beq_iff (s : Bytes) (ch : UInt8) : (s.head? == some ch) = hd s (· == ch) :=
  Bool.eq_iff_iff.2 (beq_iff_eq.trans hd_eq_iff_head?.symm)

theorem hd_eq_cons {s : Bytes} {ch : UInt8} (h : hd s (· == ch) = true) : s = ch :: s.drop 1 := by
  cases s with
  | nil => simp at h
  | cons b s => simp at h; simp [h]

theorem hd_cons_drop {s : Bytes} {p : UInt8 → Bool} (h : hd s p = true) :
    ∃ b, p b = true ∧ s = b :: s.drop 1 := by
  cases s with
  | nil => simp at h
  | cons b s => exact ⟨b, h, by simp⟩

theorem hd_exists {s : Bytes} {p : UInt8 → Bool} (h : hd s p = true) : ∃ b, s.head? = some b ∧ p b = true := by
  obtain ⟨b, hb, e⟩ := hd_cons_drop h
  exact ⟨b, by rw [e]; rfl, hb⟩

theorem hd_append_false {x y : Bytes} {p : UInt8 → Bool} (hx : ∀ b ∈ x, p b = false) (hy : hd y p = false) :
    hd (x ++ y) p = false := by
  cases x with
  | nil => exact hy
  | cons b t => exact hx b List.mem_cons_self

/-- from the spelling by `head?`, in which statements about "the next byte" are usually made -/
theorem hd_false_of_head? {s : Bytes} {p : UInt8 → Bool} (h : ∀ b, s.head? = some b → p b = false) : hd s p = false := by
  cases s with
  | nil => rfl
  | cons b s => exact h b rfl

theorem all_take_iff {p : UInt8 → Bool} {s : Bytes} {i : Nat} :
    (i ≤ s.length ∧ (s.take i).all p = true) ↔ i ≤ tw p s := by
  induction s generalizing i with
  | nil => simp
  | cons b s ih =>
    cases i with
    | zero => simp
    | succ i =>
      rw [tw_cons]
      by_cases hb : p b = true
      · rw [if_pos hb]
        have := @ih i
        simp only [List.length_cons, List.take_succ_cons, List.all_cons, hb, Bool.true_and]
        rw [Nat.add_le_add_iff_right, this]; omega
      · rw [if_neg hb]
        simp [hb]

theorem all_take_min_iff {p : UInt8 → Bool} {s : Bytes} {k : Nat} :
    (s.take k).all p = true ↔ min k s.length ≤ tw p s := by
  rw [← all_take_iff]
  have : s.take (min k s.length) = s.take k := by
    rw [List.take_eq_take_iff]; omega
  rw [this]
  constructor
  · intro h; exact ⟨by omega, h⟩
  · intro h; exact h.2

theorem drop_add (buf : Bytes) (pos k : Nat) : buf.drop (pos + k) = (buf.drop pos).drop k := by
  rw [List.drop_drop]

theorem length_drop_le {buf : Bytes} {pos : Nat} (h : pos ≤ buf.length) :
    pos + (buf.drop pos).length = buf.length := by
  simp; omega

theorem tw_take (p : UInt8 → Bool) (s : Bytes) (k : Nat) : tw p (s.take k) = min (tw p s) k := by
  unfold tw; rw [← List.take_takeWhile, List.length_take, Nat.min_comm]

theorem takeWhile_take {p : UInt8 → Bool} {l : Bytes} {m : Nat} (h : tw p l ≤ m) :
    (l.take m).takeWhile p = l.takeWhile p := by
  rw [← List.take_takeWhile, List.take_of_length_le h]

theorem takeWhile_all_append {p : UInt8 → Bool} {ds rest : Bytes} (h : ∀ x ∈ ds, p x = true) (hr : hd rest p = false) :
    (ds ++ rest).takeWhile p = ds := by
  rw [List.takeWhile_append_of_pos h, List.length_eq_zero_iff.1 (tw_eq_zero_iff.2 hr), List.append_nil]

theorem tw_all_append {p : UInt8 → Bool} {ds rest : Bytes} (h : ∀ x ∈ ds, p x = true) (hr : hd rest p = false) :
    tw p (ds ++ rest) = ds.length := congrArg List.length (takeWhile_all_append h hr)

theorem hd_take {s : Bytes} {n : Nat} {p : UInt8 → Bool} (h : hd s p = true → 0 < n) : hd (s.take n) p = hd s p := by
  cases s with
  | nil => simp
  | cons b t =>
    cases n with
    | zero => simpa using h
    | succ n => rfl

theorem hd_of_take {s : Bytes} {n : Nat} {p : UInt8 → Bool} (h : hd (s.take n) p = true) : hd s p = true := by
  cases s with
  | nil => simp at h
  | cons b t =>
    cases n with
    | zero => simp at h
    | succ n => exact h

theorem dropWhile_eq_drop_tw (p : UInt8 → Bool) (s : Bytes) : s.dropWhile p = s.drop (tw p s) :=
  ByteList.dropWhile_eq_drop p s

theorem hd_drop_of_take {s : Bytes} {n k : Nat} {p : UInt8 → Bool} (h : ∀ b ∈ s.take n, p b = false) (hk : k < n) :
    hd (s.drop k) p = false := by
  cases hs : s.drop k with
  | nil => rfl
  | cons b r =>
    have hk? : s[k]? = some b := by rw [← List.head?_drop, hs]; rfl
    obtain ⟨hkl, hkb⟩ := List.getElem?_eq_some_iff.1 hk?
    exact h b (List.mem_take_iff_getElem.2 ⟨k, by omega, hkb⟩)

end ScpiVerif.Lemmas.Lexer
