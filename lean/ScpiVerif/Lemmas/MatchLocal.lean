/-
The matcher of `Model/Match.lean` for any pattern: one iteration of its main loop (`mainIter`), `matchCommand`
as a composition of stages around the loop, and from the two: it reads the header inside the length it is
given only.  Nothing here knows the pattern grammar of C03.
-/
import ScpiVerif.Model.Match
import ScpiVerif.Lemmas.ByteList

namespace ScpiVerif.Lemmas.Match
open ScpiVerif ScpiVerif.Match
open ScpiVerif.Lexer (Bytes isDigit isLower isUpper isAlpha)

/-- the numbers[] bookkeeping at the head of an iteration -/
def numStep (hn : Bool) (d : Int) (isNum : Prop) [Decidable isNum] (st : MState) : MState × Option Nat :=
  if isNum then
    if hn ∧ st.idx < st.numbers.length then
      ({ (setNum st hn st.idx d) with idx := st.idx + 1 }, some st.idx)
    else ({ st with idx := st.idx + 1 }, none)
  else (st, none)

def applyNum (hn : Bool) (st : MState) (numPtr : Option Nat) (v : Option Int) : MState :=
  match numPtr, v with
  | some i, some x => setNum st hn i x
  | _, _ => st

/-- what the loop does after a keyword matched (state already advanced) -/
def afterMatch (p c : Bytes) (hn : Bool) (d : Int) (rec : MState → Bool × MState) (st : MState) : Bool × MState :=
  if st.pl == 0 ∧ st.cl == 0 then (true, st)
  else if st.pl == 0 ∧ st.cl > 0 then (false, st)
  else if st.cl == 0 then
    let st : MState := trailingLoop p hn d (p.length + 2) st
    (st.pl == 0, st)
  else
    let p0 := rd p st.pp; let p1 := rd p (st.pp + 1); let p2 := rd p (st.pp + 2); let c0 := rd c st.cp
    if st.pl > 0 ∧ p0 == c0 ∧ p0 == 58 then
      rec { st with pp := st.pp + 1, pl := st.pl - 1, cp := st.cp + 1, cl := st.cl - 1 }
    else if st.pl > 1 ∧ p1 == c0 ∧ p0 == 91 ∧ p1 == 58 then
      rec { st with pp := st.pp + 2, pl := st.pl - 2, cp := st.cp + 1, cl := st.cl - 1, brackets := st.brackets + 1 }
    else if st.pl > 1 ∧ p1 == c0 ∧ p0 == 93 ∧ p1 == 58 then
      rec { st with pp := st.pp + 2, pl := st.pl - 2, cp := st.cp + 1, cl := st.cl - 1, brackets := st.brackets - 1 }
    else if st.pl > 2 ∧ p2 == c0 ∧ p0 == 93 ∧ p1 == 91 ∧ p2 == 58 then
      rec { st with pp := st.pp + 3, pl := st.pl - 3, cp := st.cp + 1, cl := st.cl - 1 }
    else (false, st)

/-- what the loop does after a keyword did not match (pattern pointer already advanced) -/
def afterNoMatch (p : Bytes) (rec : MState → Bool × MState) (st : MState) : Bool × MState :=
  let p0 := rd p st.pp; let p1 := rd p (st.pp + 1); let p2 := rd p (st.pp + 2)
  if p0 == 93 ∧ p1 == 58 then
    rec { st with pp := st.pp + 2, pl := st.pl - 2, brackets := st.brackets - 1 }
  else if st.pl > 2 ∧ p0 == 93 ∧ p1 == 91 ∧ p2 == 58 then
    rec { st with pp := st.pp + 3, pl := st.pl - 3 }
  else (false, st)

/-- one iteration of the main loop with a pattern length that is not negative; `rec` is the loop on the fuel left -/
def mainIter (p c : Bytes) (hn : Bool) (d : Int) (rec : MState → Bool × MState) (st : MState) : Bool × MState :=
  let psp := patternSeparatorPos p st.pp st.pl.toNat
  let csp := cmdSeparatorPos c st.cp st.cl
  let sn := numStep hn d (psp > 0 ∧ rd p (st.pp + psp - 1) == 35) st
  let mv := matchPattern p sn.1.pp psp c sn.1.cp csp sn.2.isSome
  if mv.1 then
    let st1 : MState := applyNum hn sn.1 sn.2 mv.2
    afterMatch p c hn d rec
      { st1 with pp := st1.pp + psp, pl := st1.pl - psp, cp := st1.cp + csp, cl := st1.cl - csp }
  else afterNoMatch p rec { sn.1 with pp := sn.1.pp + psp, pl := sn.1.pl - psp }

theorem mainLoop_succ (p c : Bytes) (hn : Bool) (d : Int) (fuel : Nat) (st : MState) (hpl : ¬ st.pl < 0) :
    mainLoop p c hn d (fuel + 1) st = mainIter p c hn d (mainLoop p c hn d fuel) st := by
  unfold mainIter
  -- unfolded by `rfl`: Lean's equation lemmas for `mainLoop` are slow to generate
  have h : mainLoop p c hn d (fuel + 1) st =
      if st.pl < 0 then (false, { st with oob := true }) else _ := rfl
  rw [h, if_neg hpl]
  -- the two pair matches are made opaque before `rfl`, which would otherwise try to evaluate them
  extract_lets psp csp isNum _ sn mv
  have hsn : sn = numStep hn d isNum st := rfl
  unfold numStep at hsn
  rw [← hsn]
  clear_value sn
  obtain ⟨s1, np⟩ := sn
  have hmv : matchPattern p s1.pp psp c s1.cp csp np.isSome = mv := rfl
  simp only [hmv]
  clear_value mv
  obtain ⟨m, v⟩ := mv
  rfl


theorem setNum_eq (st : MState) (hn : Bool) (i : Nat) (v : Int) :
    setNum st hn i v = { st with numbers := if hn then st.numbers.set i v else st.numbers } := by
  unfold setNum
  by_cases h : hn = true ∧ i < st.numbers.length
  · simp [h]
  · cases hn with
    | false => simp
    | true => simp [List.set_eq_of_length_le (Nat.le_of_not_lt (by simpa using h))]

/-- "both commands are query commands?" -/
def qStage (pattern cmd : Bytes) (len : Nat) : Option (Int × Nat) :=
  let plen : Int := (pattern.takeWhile (· ≠ 0)).length
  let clen := min ((cmd.takeWhile (· ≠ 0)).length) len
  if rd pattern (plen.toNat - 1) == 63 then
    if clen > 0 ∧ rd cmd (clen - 1) == 63 then some (plen - 1, clen - 1) else none
  else some (plen, clen)

/-- skip the first '[' and ':' of the pattern -/
def patPrelude (pattern : Bytes) (st : MState) : MState :=
  let st : MState := if rd pattern st.pp == 91 then { st with pp := st.pp + 1, pl := st.pl - 1, brackets := 1 } else st
  if rd pattern st.pp == 58 then { st with pp := st.pp + 1, pl := st.pl - 1 } else st

/-- skip the leading ':' of the header; ":*" is refused -/
def cmdPrelude (cmd : Bytes) (st : MState) : Option MState :=
  if rd cmd st.cp == 58 then
    if st.cl ≥ 2 then
      if rd cmd (st.cp + 1) != 42 then some { st with cp := st.cp + 1, cl := st.cl - 1 } else none
    else some st
  else some st

def runStage (pattern cmd : Bytes) (hn : Bool) (dflt : Int) (fuel : Nat) (nums : List Int) (oob0 : Bool)
    (o : Option MState) : Bool × List Int × Bool :=
  match o with
  | none => (false, nums, oob0)
  | some st =>
    ((mainLoop pattern cmd hn dflt fuel st).1, (mainLoop pattern cmd hn dflt fuel st).2.numbers,
     (mainLoop pattern cmd hn dflt fuel st).2.oob)

def bodyStage (pattern cmd : Bytes) (numbers : Option (List Int)) (dflt : Int) (plen : Int) (clen : Nat) :
    Bool × List Int × Bool :=
  let st := patPrelude pattern ⟨0, plen, 0, clen, 0, numbers.getD [], 0, plen == 0 ∧ pattern.isEmpty⟩
  runStage pattern cmd numbers.isSome dflt (pattern.length + cmd.length + 4) (numbers.getD []) st.oob
    (cmdPrelude cmd st)

theorem matchCommand_stages (pattern cmd : Bytes) (len : Nat) (numbers : Option (List Int)) (dflt : Int) :
    matchCommand pattern cmd len numbers dflt =
      match qStage pattern cmd len with
      | none => (false, numbers.getD [], ((pattern.takeWhile (· ≠ 0)).length : Int) == 0)
      | some (plen, clen) => bodyStage pattern cmd numbers dflt plen clen := by
  unfold matchCommand qStage bodyStage runStage patPrelude cmdPrelude
  rfl


/-! ### the header is read inside the piece under comparison only -/

theorem sepPos_go_congr (s s' : Bytes) (off len : Nat) (set : List UInt8)
    (h : ∀ i, i < len → rd s (off + i) = rd s' (off + i)) :
    ∀ fuel i, i + fuel ≤ len → sepPos.go s off len set fuel i = sepPos.go s' off len set fuel i := by
  intro fuel
  induction fuel with
  | zero => intro i _; rfl
  | succ f ih =>
    intro i hi
    unfold sepPos.go
    rw [h i (by omega), ih (i + 1) (by omega)]

theorem sepPos_congr (s s' : Bytes) (off len : Nat) (set : List UInt8)
    (h : ∀ i, i < len → rd s (off + i) = rd s' (off + i)) :
    sepPos s off len set = sepPos s' off len set := by
  unfold sepPos
  rw [sepPos_go_congr s s' off len set h len 0 (by omega)]

theorem sepPos_le (s : Bytes) (off len : Nat) (set : List UInt8) : sepPos s off len set ≤ len := by
  unfold sepPos
  split
  · omega
  · simp only []
    split <;> omega

theorem caseEq_congr (a : Bytes) (b b' : Bytes) : ∀ (n ao bo : Nat),
    (∀ i, i < n → rd b (bo + i) = rd b' (bo + i)) → caseEq a ao b bo n = caseEq a ao b' bo n := by
  intro n
  induction n with
  | zero => intro ao bo _; rfl
  | succ n ih =>
    intro ao bo h
    unfold caseEq
    have h0 := h 0 (by omega)
    simp only [Nat.add_zero] at h0
    rw [h0, ih (ao + 1) (bo + 1) (fun i hi => by have := h (i + 1) (by omega); simpa [Nat.add_assoc, Nat.add_comm 1 i] using this)]

/-- What `compareStrAndNum` with a number pointer asks of `strtol10`, the one read that is not bounded by a length:
below `n` it returns the same for both headers, or in both it converts nothing or ends behind `n`. -/
def NumAgree (n : Nat) (c c' : Bytes) : Prop :=
  ∀ off, off < n → strtol10 c off = strtol10 c' off ∨
    (((strtol10 c off).1 = 0 ∨ n < off + (strtol10 c off).1) ∧
     ((strtol10 c' off).1 = 0 ∨ n < off + (strtol10 c' off).1))

/-- without a number pointer the bytes after the form are only tested for being digits; with one, `strtol10` must
consume them all, which it cannot do if it ends behind the piece -/
theorem compareStrAndNum_congr (a : Bytes) (ao len1 : Nat) {b b' : Bytes} (bo len2 : Nat) (num : Bool) {n : Nat}
    (h : ∀ i, i < len2 → rd b (bo + i) = rd b' (bo + i)) (hb : bo + len2 ≤ n)
    (hnum : num = true → NumAgree n b b') :
    compareStrAndNum a ao len1 b bo len2 num = compareStrAndNum a ao len1 b' bo len2 num := by
  unfold compareStrAndNum
  refine ite_congr rfl (fun _ => rfl) fun hl => ?_
  rw [caseEq_congr a b b' len1 ao bo (fun i hi => h i (by omega))]
  refine ite_congr rfl (fun _ => ?_) fun _ => rfl
  cases num with
  | false =>
    simp only [Bool.false_eq_true, if_false]
    rw [ByteList.all_congr_mem (q := fun i => Lexer.isDigit (rd b' (bo + len1 + i))) fun i hi => by
      rw [List.mem_range] at hi
      rw [Nat.add_assoc, h (len1 + i) (by omega)]]
  | true =>
    simp only [if_true]
    refine ite_congr rfl (fun _ => rfl) fun hne => ?_
    have hne : len1 ≠ len2 := by simpa using hne
    rcases hnum rfl (bo + len1) (by omega) with heq | ⟨hf, hf'⟩
    · rw [heq]
    · have e : ∀ r : Nat × Int, (r.1 = 0 ∨ n < bo + len1 + r.1) →
          (if len1 + r.1 != len2 then ((false, none) : Bool × Option Int) else (true, some r.2)) = (false, none) :=
        fun r hr => if_pos (by simp only [bne_iff_ne, ne_eq]; omega)
      exact (e _ hf).trans (e _ hf').symm

theorem matchPattern_congr (p : Bytes) (po plen : Nat) {s s' : Bytes} (so slen : Nat) (num : Bool) {n : Nat}
    (h : ∀ i, i < slen → rd s (so + i) = rd s' (so + i)) (hb : so + slen ≤ n)
    (hnum : num = true → NumAgree n s s') :
    matchPattern p po plen s so slen num = matchPattern p po plen s' so slen num := by
  simp only [matchPattern, compareStr, fun ao len1 => compareStrAndNum_congr p ao len1 so slen num h hb hnum,
    caseEq_congr p s s' slen _ so h]

/-! ### the matcher reads the header inside the length it is given only

Two headers that agree there are matched alike, whatever the fuel of the main loop (the pattern length
decreases in every iteration).  The one exception is the numeric suffix of a keyword when there is a
numbers array: `strtol10` may run on behind the piece it is given, so what is needed of it is a
hypothesis (`NumAgree`). -/

def Agree (n : Nat) (c c' : Bytes) : Prop := ∀ i, i < n → rd c i = rd c' i

theorem agree_take (cmd : Bytes) (n : Nat) : Agree n cmd (cmd.take n) := by
  intro i hi
  simp [rd, List.getD_eq_getElem?_getD, hi]

theorem numStep_facts (hn : Bool) (d : Int) (isNum : Prop) [Decidable isNum] (st : MState) :
    (numStep hn d isNum st).1.cp = st.cp ∧ (numStep hn d isNum st).1.cl = st.cl ∧
    (numStep hn d isNum st).1.pl = st.pl ∧ ((numStep hn d isNum st).2.isSome = true → hn = true) := by
  unfold numStep
  split
  · split
    · rw [setNum_eq]; exact ⟨rfl, rfl, rfl, fun _ => (‹_ ∧ _›).1⟩
    · exact ⟨rfl, rfl, rfl, fun h => nomatch h⟩
  · exact ⟨rfl, rfl, rfl, fun h => nomatch h⟩

theorem applyNum_facts (hn : Bool) (st : MState) (numPtr : Option Nat) (v : Option Int) :
    (applyNum hn st numPtr v).cp = st.cp ∧ (applyNum hn st numPtr v).cl = st.cl ∧
    (applyNum hn st numPtr v).pl = st.pl := by
  unfold applyNum
  split
  · rw [setNum_eq]; exact ⟨rfl, rfl, rfl⟩
  · exact ⟨rfl, rfl, rfl⟩

theorem afterMatch_congr (p c c' : Bytes) (hn : Bool) (d : Int) (rec rec' : MState → Bool × MState)
    (st : MState) (n : Nat) (hag : Agree n c c') (hb : st.cp + st.cl ≤ n)
    (hrec : ∀ st' : MState, st'.pl < st.pl → st'.cp + st'.cl ≤ n → rec st' = rec' st') :
    afterMatch p c hn d rec st = afterMatch p c' hn d rec' st := by
  unfold afterMatch
  refine ite_congr rfl (fun _ => rfl) fun _ => ite_congr rfl (fun _ => rfl) fun _ =>
    ite_congr rfl (fun _ => rfl) fun h3 => ?_
  -- the header is read at `st.cp` only, and every continuation has a shorter pattern
  have hcl : st.cl ≠ 0 := fun h => h3 (by rw [h]; rfl)
  have hb' : st.cp + 1 + (st.cl - 1) ≤ n := by omega
  dsimp only
  rw [hag st.cp (by omega)]
  exact ite_congr rfl (fun _ => hrec _ (Int.sub_lt_self _ (by decide)) hb') fun _ =>
    ite_congr rfl (fun _ => hrec _ (Int.sub_lt_self _ (by decide)) hb') fun _ =>
    ite_congr rfl (fun _ => hrec _ (Int.sub_lt_self _ (by decide)) hb') fun _ =>
    ite_congr rfl (fun _ => hrec _ (Int.sub_lt_self _ (by decide)) hb') fun _ => rfl

theorem afterNoMatch_congr (p : Bytes) (rec rec' : MState → Bool × MState) (st : MState) (n : Nat)
    (hb : st.cp + st.cl ≤ n)
    (hrec : ∀ st' : MState, st'.pl < st.pl → st'.cp + st'.cl ≤ n → rec st' = rec' st') :
    afterNoMatch p rec st = afterNoMatch p rec' st :=
  ite_congr rfl (fun _ => hrec _ (Int.sub_lt_self _ (by decide)) hb) fun _ =>
    ite_congr rfl (fun _ => hrec _ (Int.sub_lt_self _ (by decide)) hb) fun _ => rfl

theorem mainLoop_neg {p c : Bytes} {hn : Bool} {d : Int} {fuel : Nat} {st : MState} (h : st.pl < 0) :
    mainLoop p c hn d fuel st = (false, { st with oob := true }) := by
  cases fuel with
  | zero => rfl
  | succ f => exact if_pos h

theorem mainIter_congr (p c c' : Bytes) (hn : Bool) (d : Int) (rec rec' : MState → Bool × MState)
    (st : MState) (n : Nat) (hag : Agree n c c') (hb : st.cp + st.cl ≤ n)
    (hnum : hn = true → NumAgree n c c')
    (hrec : ∀ st' : MState, st'.pl < st.pl → st'.cp + st'.cl ≤ n → rec st' = rec' st') :
    mainIter p c hn d rec st = mainIter p c' hn d rec' st := by
  have hcsp : cmdSeparatorPos c' st.cp st.cl = cmdSeparatorPos c st.cp st.cl :=
    (sepPos_congr c c' st.cp st.cl _ fun i _ => hag _ (by omega)).symm
  unfold mainIter
  rw [hcsp]
  have hle : cmdSeparatorPos c st.cp st.cl ≤ st.cl := sepPos_le _ _ _ _
  generalize cmdSeparatorPos c st.cp st.cl = csp at hle
  generalize patternSeparatorPos p st.pp st.pl.toNat = psp
  dsimp only
  obtain ⟨hx1, hx2, hx3, hx4⟩ := numStep_facts hn d (psp > 0 ∧ rd p (st.pp + psp - 1) == 35) st
  generalize numStep hn d (psp > 0 ∧ rd p (st.pp + psp - 1) == 35) st = sn at hx1 hx2 hx3 hx4
  rw [← matchPattern_congr p sn.1.pp psp sn.1.cp csp sn.2.isSome (fun i _ => hag _ (by omega)) (by omega)
    fun hs => hnum (hx4 hs)]
  generalize matchPattern p sn.1.pp psp c sn.1.cp csp sn.2.isSome = mv
  obtain ⟨hu1, hu2, hu3⟩ := applyNum_facts hn sn.1 sn.2 mv.2
  rw [hu1, hu2, hu3, hx1, hx2, hx3]
  have hlt : ∀ {x : Int}, x < st.pl - psp → x < st.pl := fun h =>
    Int.lt_of_lt_of_le h (Int.sub_le_self _ (Int.natCast_nonneg psp))
  refine ite_congr rfl (fun _ => ?_) fun _ => ?_
  · exact afterMatch_congr p c c' hn d _ _ _ n hag (show st.cp + csp + (st.cl - csp) ≤ n by omega)
      fun st' hp hb => hrec st' (hlt hp) hb
  · exact afterNoMatch_congr p _ _ _ n hb fun st' hp hb => hrec st' (hlt hp) hb

theorem mainLoop_congr (p c c' : Bytes) (hn : Bool) (d : Int) (n : Nat) (hag : Agree n c c')
    (hnum : hn = true → NumAgree n c c') :
    ∀ (fuel fuel' : Nat) (st : MState), st.cp + st.cl ≤ n → st.pl < fuel → st.pl < fuel' →
      mainLoop p c hn d fuel st = mainLoop p c' hn d fuel' st := by
  intro fuel
  induction fuel with
  | zero =>
    intro fuel' st _ hf _
    rw [mainLoop_neg hf, mainLoop_neg hf]
  | succ f ih =>
    intro fuel' st hst hf hf'
    by_cases hpl : st.pl < 0
    · rw [mainLoop_neg hpl, mainLoop_neg hpl]
    obtain ⟨f', rfl⟩ : ∃ f', fuel' = f' + 1 := ⟨fuel' - 1, by omega⟩
    rw [mainLoop_succ p c hn d f st hpl, mainLoop_succ p c' hn d f' st hpl]
    exact mainIter_congr p c c' hn d _ _ st n hag hst hnum fun st' hlt hb =>
      ih f' st' hb (Int.lt_of_lt_of_le hlt (by omega)) (Int.lt_of_lt_of_le hlt (by omega))

theorem patPrelude_facts (pattern : Bytes) (st : MState) :
    (patPrelude pattern st).pl ≤ st.pl ∧ (patPrelude pattern st).cp = st.cp ∧ (patPrelude pattern st).cl = st.cl := by
  unfold patPrelude
  dsimp only
  split <;> split <;> simp <;> omega

theorem cmdPrelude_congr {c c' : Bytes} {n : Nat} (hag : Agree n c c') (st : MState) (hb : st.cp + st.cl ≤ n) :
    cmdPrelude c st = cmdPrelude c' st := by
  unfold cmdPrelude
  by_cases h2 : st.cl ≥ 2
  · rw [hag st.cp (by omega), hag (st.cp + 1) (by omega)]
  · simp only [h2, if_false, ite_self]

theorem cmdPrelude_facts {c : Bytes} {st st' : MState} (h : cmdPrelude c st = some st') :
    st'.cp + st'.cl ≤ st.cp + st.cl ∧ st'.pl = st.pl := by
  unfold cmdPrelude at h
  split at h
  · split at h
    · split at h
      · cases h; dsimp only; omega
      · cases h
    · cases h; omega
  · cases h; omega

theorem qStage_bounds {pat cmd : Bytes} {len : Nat} {plen : Int} {clen : Nat}
    (h : qStage pat cmd len = some (plen, clen)) : plen ≤ pat.length ∧ clen ≤ len := by
  have hp : (pat.takeWhile (· ≠ 0)).length ≤ pat.length := (List.takeWhile_prefix _).length_le
  unfold qStage at h
  dsimp only at h
  split at h
  · split at h
    · cases h; omega
    · cases h
  · cases h; omega

/-- the length of the C string, cut at the caller's length, is that of the first `n` bytes -/
theorem min_takeWhile_take {α : Type} (p : α → Bool) (l : List α) (n : Nat) :
    min (l.takeWhile p).length n = min ((l.take n).takeWhile p).length n := by
  rw [← List.take_takeWhile, List.length_take]
  omega

/-- the lengths of the two C strings, cut at `len`, and the byte before the end are read inside `len` -/
theorem qStage_congr (pat : Bytes) {c c' : Bytes} {n len : Nat} (hag : Agree n c c') (hlen : len ≤ n)
    (htake : c'.take len = c.take len) : qStage pat c len = qStage pat c' len := by
  unfold qStage
  rw [min_takeWhile_take _ c' len, htake, ← min_takeWhile_take _ c len]
  have hm : min (c.takeWhile (· ≠ 0)).length len ≤ len := Nat.min_le_right _ _
  generalize min (c.takeWhile (· ≠ 0)).length len = m at hm
  dsimp only
  by_cases h0 : m > 0
  · rw [hag (m - 1) (by omega)]
  · simp only [h0, false_and, if_false]

theorem matchCommand_congr (pat : Bytes) {c c' : Bytes} {n len : Nat} (numbers : Option (List Int)) (d : Int)
    (hag : Agree n c c') (hlen : len ≤ n) (htake : c'.take len = c.take len)
    (hnum : numbers.isSome = true → NumAgree n c c') :
    matchCommand pat c len numbers d = matchCommand pat c' len numbers d := by
  rw [matchCommand_stages, matchCommand_stages, ← qStage_congr pat hag hlen htake]
  cases hqs : qStage pat c len with
  | none => rfl
  | some pc =>
    obtain ⟨plen, clen⟩ := pc
    obtain ⟨hp, hc⟩ := qStage_bounds hqs
    dsimp only
    unfold bodyStage
    obtain ⟨f1, f2, f3⟩ :=
      patPrelude_facts pat ⟨0, plen, 0, clen, 0, numbers.getD [], 0, plen == 0 ∧ pat.isEmpty⟩
    generalize patPrelude pat ⟨0, plen, 0, clen, 0, numbers.getD [], 0, plen == 0 ∧ pat.isEmpty⟩ = st at f1 f2 f3
    dsimp only at f1 f2 f3 ⊢
    rw [← cmdPrelude_congr hag st (by omega)]
    cases hpre : cmdPrelude c st with
    | none => rfl
    | some st' =>
      obtain ⟨g1, g2⟩ := cmdPrelude_facts hpre
      unfold runStage
      dsimp only
      rw [mainLoop_congr pat c c' numbers.isSome d n hag hnum _ (pat.length + c'.length + 4) st' (by omega)
        (by omega) (by omega)]

/-- without a numbers array `matchCommand` looks only at the first `n` bytes of the header it is given: matching the
header inside the input buffer is matching the header bytes on their own -/
theorem matchCommand_take (pat cmd : Bytes) (n : Nat) (d : Int) :
    matchCommand pat cmd n none d = matchCommand pat (cmd.take n) n none d :=
  matchCommand_congr pat none d (agree_take cmd n) (Nat.le_refl n) (List.take_take.trans (by rw [Nat.min_self]))
    fun h => nomatch h


end ScpiVerif.Lemmas.Match
