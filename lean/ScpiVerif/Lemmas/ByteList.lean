/-
Facts about lists that are not about the model (a `takeWhile` that takes everything or stops at the first member failing
the test, a prefix as the `take` of its own length, congruence of `find?` / `all` / `any` over the members of a list,
`drop`, `getD`, `getLast?`), and `forall_byte`: a statement about all bytes from its 256 instances.
-/
namespace ScpiVerif.Lemmas.ByteList

theorem takeWhile_all {α} (p : α → Bool) (l : List α) (h : ∀ b ∈ l, p b = true) : l.takeWhile p = l := by
  simpa using List.takeWhile_append_of_pos (l₂ := []) h

theorem nz_of_all {s : List UInt8} (h : s.all (· ≠ 0) = true) : ∀ x ∈ s, x ≠ 0 := by
  simpa using h

theorem takeWhile_nz (s : List UInt8) (h : ∀ b ∈ s, b ≠ 0) : s.takeWhile (· ≠ 0) = s :=
  takeWhile_all _ _ (by simpa using h)

theorem takeWhile_split {α} (p : α → Bool) (l : List α) :
    ((∀ b ∈ l, p b = true) ∧ l.takeWhile p = l) ∨
    ∃ pre x post, l = pre ++ x :: post ∧ p x = false ∧ (∀ b ∈ pre, p b = true) ∧ l.takeWhile p = pre := by
  have hl : l.takeWhile p ++ l.dropWhile p = l := List.takeWhile_append_dropWhile
  have hall : ∀ b ∈ l.takeWhile p, p b = true := List.all_eq_true.1 List.all_takeWhile
  have hx := List.head?_dropWhile_not p l
  cases hd : l.dropWhile p with
  | nil =>
    rw [hd, List.append_nil] at hl
    exact .inl ⟨hl ▸ hall, hl⟩
  | cons x post =>
    rw [hd] at hl hx
    exact .inr ⟨_, x, post, hl.symm, hx, hall, rfl⟩

theorem all_or_split {α} (p : α → Bool) (l : List α) :
    l.all p = true ∨ ∃ d c t, l = d ++ c :: t ∧ d.all p = true ∧ p c = false := by
  rcases takeWhile_split p l with ⟨h, _⟩ | ⟨d, c, t, hl, hc, hd, _⟩
  · exact Or.inl (List.all_eq_true.2 h)
  · exact Or.inr ⟨d, c, t, hl, List.all_eq_true.2 hd, hc⟩

/-- meant for the prefix facts of core: `List.takeWhile_prefix`, `List.take_prefix` -/
theorem take_length_of_prefix {α} {p l : List α} (h : p <+: l) : l.take p.length = p :=
  (List.prefix_iff_eq_take.1 h).symm

theorem eq_append_of_take {α} {l t : List α} {k : Nat} (h : l.take k = t) : l = t ++ l.drop k := by
  rw [← h, List.take_append_drop]

theorem takeWhile_append_drop {α} (p : α → Bool) (s : List α) : s.takeWhile p ++ s.drop (s.takeWhile p).length = s :=
  List.prefix_iff_eq_append.1 (List.takeWhile_prefix p)

theorem dropWhile_eq_drop {α} (p : α → Bool) (s : List α) : s.dropWhile p = s.drop (s.takeWhile p).length :=
  List.append_cancel_left (List.takeWhile_append_dropWhile.trans (takeWhile_append_drop p s).symm)

theorem find?_congr {α} {p q : α → Bool} : ∀ (l : List α), (∀ x ∈ l, p x = q x) → l.find? p = l.find? q
  | [], _ => rfl
  | a :: l, h => by
    simp only [List.find?_cons, h a List.mem_cons_self]
    rw [find?_congr l fun x hx => h x (List.mem_cons_of_mem _ hx)]

theorem all_congr_mem {α} {l : List α} {p q : α → Bool} (h : ∀ a ∈ l, p a = q a) : l.all p = l.all q := by
  rw [Bool.eq_iff_iff, List.all_eq_true, List.all_eq_true]
  exact forall₂_congr fun a ha => by rw [h a ha]

theorem any_congr_mem {α} {l : List α} {p q : α → Bool} (h : ∀ a ∈ l, p a = q a) : l.any p = l.any q := by
  rw [Bool.eq_iff_iff, List.any_eq_true, List.any_eq_true]
  exact exists_congr fun a => and_congr_right fun ha => by rw [h a ha]

theorem drop_add_of_drop {α} (s : List α) (off : Nat) (x rest : List α) (h : s.drop off = x ++ rest) :
    s.drop (off + x.length) = rest := by
  rw [← List.drop_drop, h]; simp

theorem drop_tail {α} (s : List α) (off : Nat) (ch : α) (t : List α) (h : s.drop off = ch :: t) : s.drop (off + 1) = t :=
  drop_add_of_drop s off [ch] t h

theorem drop_cons {α} {l : List α} {i : Nat} {x : α} {r : List α} (h : l.drop i = x :: r) :
    l[i]? = some x ∧ l.drop (i + 1) = r :=
  ⟨by rw [← List.head?_drop, h]; rfl, drop_tail l i x r h⟩

theorem drop2 {α} (a b c : List α) : (a ++ (b ++ c)).drop (a.length + b.length) = c := by
  rw [← List.length_append, ← Nat.zero_add (a ++ b).length]
  exact drop_add_of_drop _ 0 (a ++ b) c (by rw [List.drop_zero, List.append_assoc])

theorem getD_drop {α} (l : List α) (off i : Nat) (d : α) : (l.drop off).getD i d = l.getD (off + i) d := by
  rw [List.getD_eq_getElem?_getD, List.getD_eq_getElem?_getD, List.getElem?_drop]

theorem getD_set' {α} (l : List α) (j i : Nat) (x d : α) :
    (l.set j x).getD i d = if j = i ∧ j < l.length then x else l.getD i d := by
  simp only [List.getD_eq_getElem?_getD, List.getElem?_set]
  by_cases hji : j = i
  · subst hji
    by_cases hl : j < l.length <;> simp [hl]
  · simp [hji]

theorem mem_take_idx {α} {s : List α} {i m : Nat} {b : α} (h : s[i]? = some b) (hm : i < m) : b ∈ s.take m := by
  rw [List.mem_iff_getElem?]
  exact ⟨i, by rw [List.getElem?_take, if_pos hm]; exact h⟩

theorem head_append_of_ne {α} (s y : List α) (h : s ≠ []) : (s ++ y).head? = s.head? := by
  cases s with
  | nil => exact absurd rfl h
  | cons a t => rfl

theorem getLast?_drop_ne {α} {s : List α} {n : Nat} {b : α} (h : s.getLast? ≠ some b) : (s.drop n).getLast? ≠ some b := by
  rw [List.getLast?_drop]
  split
  · intro h0; cases h0
  · exact h

theorem getLast?_drop_of_ne {α} {w : List α} {n : Nat} (h : w.drop n ≠ []) : (w.drop n).getLast? = w.getLast? := by
  rw [List.getLast?_drop]
  split
  · rename_i hle
    exact absurd (List.drop_of_length_le hle) h
  · rfl

theorem filter_range_cut (P : Nat → Bool) (m : Nat) : ∀ a, m ≤ a → (∀ n, m ≤ n → n < a → P n = false) →
    (List.range a).filter P = (List.range m).filter P := by
  intro a
  induction a with
  | zero => intro hm _; rw [Nat.le_zero.1 hm]
  | succ a ih =>
    intro hm hP
    by_cases he : m = a + 1
    · rw [he]
    · rw [List.range_succ, List.filter_append, ih (by omega) (fun n h1 h2 => hP n h1 (by omega))]
      have : [a].filter P = [] := by
        rw [List.filter_cons, hP a (by omega) (by omega)]
        rfl
      rw [this, List.append_nil]

/-- two filters of initial segments agree when the predicates agree below `m` and hold nowhere from `m` on -/
theorem filter_range_agree {P Q : Nat → Bool} (m : Nat) {a b : Nat} (ha : m ≤ a) (hb : m ≤ b)
    (hPQ : ∀ n, n < m → P n = Q n) (hP : ∀ n, m ≤ n → n < a → P n = false) (hQ : ∀ n, m ≤ n → n < b → Q n = false) :
    (List.range a).filter P = (List.range b).filter Q := by
  rw [filter_range_cut P m a ha hP, filter_range_cut Q m b hb hQ]
  exact List.filter_congr fun n hn => hPQ n (List.mem_range.1 hn)

/-- a statement about all bytes follows from its 256 instances, which `decide +kernel` evaluates -/
theorem forall_byte {P : UInt8 → Prop} (h : ∀ n : Fin 256, P (UInt8.ofNat n.val)) (b : UInt8) : P b := by
  simpa using h ⟨b.toNat, UInt8.toNat_lt b⟩

end ScpiVerif.Lemmas.ByteList
