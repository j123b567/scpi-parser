/-
Part 2 of the refinement of ScpiVerif.Lexer by the text generated from lexer.c (method and primitives: Lemmas/LexerC.lean): the
recognisers `scpiLex_*` for white space, one-character tokens, new line, decimal number (with mantissa and exponent), character
data, non-decimal number.  Every theorem says, for ALL buffers, ALL cursors and ANY previous content of the token structure,
`generated function (st buf n) tok = res buf (hand model buf n)`: the new state is CLEAN, cursor, token type / ptr / len and
return value are the hand model's.  A proof first decides the tests the hand model makes (the bytes under the cursors it looks
at, the results of the helpers), then one `simp` with the refinement theorems of the callees (`lexc_ref`) evaluates both sides
under these facts; what is left is cursor arithmetic.
-/
import ScpiVerif.Lemmas.LexerC

namespace ScpiVerif.Lemmas.LexerC
open ScpiVerif ScpiVerif.Gen.LexerC

/-- `scpi_token_t` of the hand model as the C structure -/
def tk (t : Lexer.Token) : CTok := ⟨(t.type.code : Int), (t.ptr : Int), t.len⟩

/-- result of a recogniser of the hand model as the generated function delivers it: clean state at the new cursor -/
def res (buf : Lexer.Bytes) (r : Nat × Lexer.Token × Int) : CLex × CTok × Int := (st buf r.1, tk r.2.1, r.2.2)

theorem res_inside {buf : Lexer.Bytes} {pos : Nat} {m : Nat × Lexer.Token × Int} {P : Prop}
    (h : pos ≤ m.1 ∧ m.1 ≤ buf.length ∧ P) :
    (res buf m).1.oob = false ∧ (res buf m).1.ub = false ∧ (res buf m).1.buf = buf ∧
      (pos : Int) ≤ (res buf m).1.pos ∧ (res buf m).1.pos ≤ buf.length :=
  ⟨rfl, rfl, rfl, Int.ofNat_le.mpr h.1, Int.ofNat_le.mpr h.2.1⟩

@[lexc_ref, lexc_code] theorem code_comma : Lexer.TokType.code .comma = 0 := rfl
@[lexc_ref, lexc_code] theorem code_semicolon : Lexer.TokType.code .semicolon = 1 := rfl
@[lexc_ref, lexc_code] theorem code_colon : Lexer.TokType.code .colon = 2 := rfl
@[lexc_ref, lexc_code] theorem code_specificCharacter : Lexer.TokType.code .specificCharacter = 3 := rfl
@[lexc_ref, lexc_code] theorem code_question : Lexer.TokType.code .question = 4 := rfl
@[lexc_ref, lexc_code] theorem code_nl : Lexer.TokType.code .nl = 5 := rfl
@[lexc_ref, lexc_code] theorem code_hexnum : Lexer.TokType.code .hexnum = 6 := rfl
@[lexc_ref, lexc_code] theorem code_octnum : Lexer.TokType.code .octnum = 7 := rfl
@[lexc_ref, lexc_code] theorem code_binnum : Lexer.TokType.code .binnum = 8 := rfl
@[lexc_ref, lexc_code] theorem code_programMnemonic : Lexer.TokType.code .programMnemonic = 9 := rfl
@[lexc_ref, lexc_code] theorem code_decimal : Lexer.TokType.code .decimal = 10 := rfl
@[lexc_ref, lexc_code] theorem code_decimalWithSuffix : Lexer.TokType.code .decimalWithSuffix = 11 := rfl
@[lexc_ref, lexc_code] theorem code_suffix : Lexer.TokType.code .suffix = 12 := rfl
@[lexc_ref, lexc_code] theorem code_block : Lexer.TokType.code .block = 13 := rfl
@[lexc_ref, lexc_code] theorem code_singleQuote : Lexer.TokType.code .singleQuote = 14 := rfl
@[lexc_ref, lexc_code] theorem code_doubleQuote : Lexer.TokType.code .doubleQuote = 15 := rfl
@[lexc_ref, lexc_code] theorem code_expression : Lexer.TokType.code .expression = 16 := rfl
@[lexc_ref, lexc_code] theorem code_compoundHeader : Lexer.TokType.code .compoundHeader = 17 := rfl
@[lexc_ref, lexc_code] theorem code_incompleteCompoundHeader : Lexer.TokType.code .incompleteCompoundHeader = 18 := rfl
@[lexc_ref, lexc_code] theorem code_commonHeader : Lexer.TokType.code .commonHeader = 19 := rfl
@[lexc_ref, lexc_code] theorem code_incompleteCommonHeader : Lexer.TokType.code .incompleteCommonHeader = 20 := rfl
@[lexc_ref, lexc_code] theorem code_compoundQueryHeader : Lexer.TokType.code .compoundQueryHeader = 21 := rfl
@[lexc_ref, lexc_code] theorem code_commonQueryHeader : Lexer.TokType.code .commonQueryHeader = 22 := rfl
@[lexc_ref, lexc_code] theorem code_ws : Lexer.TokType.code .ws = 23 := rfl
@[lexc_ref, lexc_code] theorem code_allProgramData : Lexer.TokType.code .allProgramData = 24 := rfl
@[lexc_ref, lexc_code] theorem code_invalid : Lexer.TokType.code .invalid = 25 := rfl
@[lexc_ref, lexc_code] theorem code_unknown : Lexer.TokType.code .unknown = 26 := rfl

attribute [lexc_ref] uc tk res Lexer.mkTok Lexer.skipChr Lexer.skipWs Lexer.skipNumbers Lexer.skipAlpha

theorem scpiLex_WhiteSpace_ref (buf : Lexer.Bytes) (n : Nat) (tok : CTok) :
    scpiLex_WhiteSpace (st buf n) tok = res buf (Lexer.lexWhiteSpace buf n) := by
  simp [scpiLex_WhiteSpace, lexc_ref, Lexer.lexWhiteSpace]
  split <;> simp [lexc_code]

theorem scpiLex_Comma_ref (buf : Lexer.Bytes) (n : Nat) (tok : CTok) :
    scpiLex_Comma (st buf n) tok = res buf (Lexer.lexComma buf n) := by
  cases hp : Lexer.peekP buf n (· == 44) <;>
    simp [scpiLex_Comma, lexc_ref, one_eq, hp, Lexer.lexComma, Lexer.lexOneChar]

theorem scpiLex_NewLine_ref (buf : Lexer.Bytes) (n : Nat) (tok : CTok) :
    scpiLex_NewLine (st buf n) tok = res buf (Lexer.lexNewLine buf n) := by
  simp [scpiLex_NewLine, lexc_ref, one_val, Lexer.lexNewLine]
  split <;> simp [lexc_code]

theorem scpiLex_SpecificCharacter_ref (buf : Lexer.Bytes) (n : Nat) (tok : CTok) (ch : UInt8) :
    scpiLex_SpecificCharacter (st buf n) tok (sc ch) = res buf (Lexer.lexSpecific buf n ch) := by
  cases hp : Lexer.peekP buf n (· == ch) <;>
    simp [scpiLex_SpecificCharacter, skipChr_sc, lexc_ref, one_eq, hp, Lexer.lexSpecific, Lexer.lexOneChar]

theorem scpiLex_Semicolon_ref (buf : Lexer.Bytes) (n : Nat) (tok : CTok) :
    scpiLex_Semicolon (st buf n) tok = res buf (Lexer.lexSemicolon buf n) := by
  cases hp : Lexer.peekP buf n (· == 59) <;>
    simp [scpiLex_Semicolon, lexc_ref, one_eq, hp, Lexer.lexSemicolon, Lexer.lexOneChar]

theorem scpiLex_Colon_ref (buf : Lexer.Bytes) (n : Nat) (tok : CTok) :
    scpiLex_Colon (st buf n) tok = res buf (Lexer.lexColon buf n) := by
  cases hp : Lexer.peekP buf n (· == 58) <;>
    simp [scpiLex_Colon, lexc_ref, one_eq, hp, Lexer.lexColon, Lexer.lexOneChar]

@[lexc_ref] theorem skipMantisa_ref (buf : Lexer.Bytes) (n : Nat) :
    skipMantisa (st buf n) = (st buf (Lexer.skipMantisa buf n).1, ((Lexer.skipMantisa buf n).2 : Int)) := by
  cases hp : Lexer.peekP buf (Lexer.skipMany buf (Lexer.skipOne buf n Lexer.isPlusMn) Lexer.isDigit) (· == 46) <;>
    simp [skipMantisa, Lexer.skipMantisa, lexc_ref, one_val, cast_skipMany_sub, hp, skipOne_pos, skipOne_neg]

@[lexc_ref] theorem skipExponent_ref (buf : Lexer.Bytes) (n : Nat) :
    skipExponent (st buf n) = (st buf (Lexer.skipExponent buf n).1, ((Lexer.skipExponent buf n).2 : Int)) := by
  cases hb : buf[n]? <;>
    simp [skipExponent, Lexer.skipExponent, Lexer.peekP, lexc_rd, lexc_cls, lexc_ref, one_val, ite_pair, st_ite, hb]
  split <;> simp [cast_skipMany_sub]

theorem scpiLex_DecimalNumericProgramData_ref (buf : Lexer.Bytes) (n : Nat) (tok : CTok) :
    scpiLex_DecimalNumericProgramData (st buf n) tok = res buf (Lexer.lexDecimal buf n) := by
  simp [scpiLex_DecimalNumericProgramData, lexc_ref, st_ite, Lexer.lexDecimal]
  generalize (if (Lexer.skipMantisa buf n).2 = 0 then n else _) = p
  split <;> simp [lexc_code]

theorem scpiLex_CharacterProgramData_ref (buf : Lexer.Bytes) (n : Nat) (tok : CTok) :
    scpiLex_CharacterProgramData (st buf n) tok = res buf (Lexer.lexCharacterProgramData buf n) := by
  cases hb : buf[n]? <;>
    simp [scpiLex_CharacterProgramData, Lexer.lexCharacterProgramData, Lexer.peekP, lexc_rd, lexc_cls, lexc_ref, hb]
  lexc_loop (fun b => Lexer.isAlnum b || b == 95), buf
  simp [st_ite]
  generalize (if Lexer.isAlpha _ = true then Lexer.skipMany buf (n + 1) _ else n) = p
  split <;> simp [lexc_code]

theorem scpiLex_NondecimalNumericData_ref (buf : Lexer.Bytes) (n : Nat) (tok : CTok) :
    scpiLex_NondecimalNumericData (st buf n) tok = res buf (Lexer.lexNondecimal buf n) := by
  -- the C text tests the number of digits behind the radix letter, the model the cursor
  have e (cls : UInt8 → Bool) : ((Lexer.skipMany buf (n + 1 + 1) cls : Int) - (n + 1 + 1) = 0) =
      ¬ (n + 1 + 1 < Lexer.skipMany buf (n + 1 + 1) cls) := by
    have := skipMany_ge buf (n + 1 + 1) cls
    simp only [eq_iff_iff]; omega
  cases hb0 : buf[n]?
  case' some b0 => cases h35 : b0 == 35
  case' true => cases hb : buf[n + 1]?
  case' some b => by_cases hH : b = 104 ∨ b = 72
  case' neg => by_cases hQ : b = 113 ∨ b = 81
  case' neg => by_cases hB : b = 98 ∨ b = 66
  all_goals simp [scpiLex_NondecimalNumericData, Lexer.lexNondecimal, Lexer.peekP, lexc_ref, one_eq, lexc_rd, lexc_cls, *]
  all_goals split <;> simp [lexc_code] <;> omega

end ScpiVerif.Lemmas.LexerC
