/-
`Prim.strtodLen` on a text whose mantissa has a digit, in the lexer's terms (`strtodLen_closed`): unless strtod sees a hexadecimal
constant it converts the mantissa as the lexer scans it, `decimalMant`, and the exponent `eT` (its own: `[eE][+-]?digit+` directly
behind the mantissa).  Its stages (Lemmas/Strto.lean) are first put in the calculus `hd` / `tw`.  The comparison with the literal the
lexer delimits is Lemmas/Numeric.lean, whose namespace this is.
-/
import ScpiVerif.Lemmas.Strto
import ScpiVerif.Lemmas.LexDecimal

namespace ScpiVerif.Lemmas.Numeric
open ScpiVerif ScpiVerif.Lexer ScpiVerif.Spec
open ScpiVerif.Lemmas.Lexer ScpiVerif.Lemmas.Strto

section
open ScpiVerif.Prim

/-- strtod's exponent, relative to the end of the mantissa -/
def eT (u : Bytes) : Nat :=
  if hd u isE = true then
    if tw isDigit (u.drop (1 + sgn (u.drop 1))) = 0 then 0
    else 1 + sgn (u.drop 1) + tw isDigit (u.drop (1 + sgn (u.drop 1)))
  else 0


theorem dFrac_eq (mem : Bytes) (fuel a : Nat) (hf : mem.length - a < fuel) :
    dFrac mem isDigit fuel a =
      if hd (mem.drop a) (· == 46) = true then a + 1 + tw isDigit (mem.drop (a + 1)) else a := by
  unfold dFrac
  rw [eq_rd mem a 46 (by decide)]
  split
  · rw [run_eq mem isDigit (by decide) fuel (a + 1) (by omega)]
  · rfl

theorem dExp_eq (mem : Bytes) (fuel b : Nat) (hf : mem.length - b < fuel) :
    dExp mem 101 69 fuel b = b + eT (mem.drop b) := by
  unfold dExp eT
  have hE : (rd mem b == 101 ∨ rd mem b == 69) ↔ hd (mem.drop b) isE = true := by
    rw [← rd_hd mem b isE (by decide)]
    simp [isE]
  by_cases h : hd (mem.drop b) isE = true
  · rw [if_pos (hE.2 h), if_pos h, ← drop_add, ← drop_add, ← Nat.add_assoc]
    simp only [dSign_eq]
    rw [rd_hd mem _ isDigit (by decide)]
    by_cases hd0 : tw isDigit (mem.drop (b + 1 + sgn (mem.drop (b + 1)))) = 0
    · rw [if_pos hd0, if_neg]
      · rfl
      · rw [tw_eq_zero_iff.1 hd0]; simp
    · have := sgn_le (mem.drop (b + 1))
      rw [if_neg hd0, if_pos (tw_pos_iff.1 (by omega)), run_eq mem isDigit (by decide) fuel _ (by omega)]
      omega
  · rw [if_neg (fun h' => h (hE.1 h')), if_neg h]; rfl

theorem dWord_false (mem : Bytes) (c : UInt8) (w : List UInt8) (i1 : Nat) (h : dLower (rd mem i1) ≠ c) :
    dWord mem (c :: w) i1 = false := by
  simp [dWord, List.zipIdx_cons, h]

theorem dd_bytes : ∀ x : UInt8, (isDigit x || x == 46) = true →
    dLower x ≠ 105 ∧ dLower x ≠ 110 ∧ isSpace x = false ∧ isPlusMn x = false := by
  apply ByteList.forall_byte
  decide +kernel

theorem dHexCond_hd {mem : Bytes} {i : Nat} (h : dHexCond mem i) :
    hd (mem.drop i) (· == 48) = true ∧ hd (mem.drop (i + 1)) (fun b => b == 120 || b == 88) = true := by
  obtain ⟨h48, hxx, -⟩ := h
  rw [eq_rd mem _ 48 (by decide)] at h48
  refine ⟨h48, ?_⟩
  rw [← rd_hd mem _ (fun b => b == 120 || b == 88) (by decide)]
  simpa using hxx

theorem core_hd {s : Bytes} (hnd : (decimalMant s).2 ≠ 0) :
    hd (s.drop (sgn s)) (fun b => isDigit b || b == 46) = true := by
  obtain ⟨j, -, hcore⟩ := decimal_PM_mantissa.1 (decimal_mantissa_mem hnd)
  exact decimal_core_hd _ j hcore

/-- digits, then an optional point and digits: where strtod's mantissa ends and how many digits it has -/
theorem dFrac_mant (mem : Bytes) (off fuel : Nat) (hf : mem.length - off < fuel) :
    have s := mem.drop off
    have a := off + sgn s + tw isDigit (s.drop (sgn s))
    dFrac mem isDigit fuel a = off + (decimalMant s).1 ∧
      (a - (off + sgn s)) + (if rd mem a == 46 then off + (decimalMant s).1 - (a + 1) else 0) = (decimalMant s).2 := by
  intro s a
  have hk : ∀ k, mem.drop (off + k) = s.drop k := fun k => drop_add mem off k
  rw [dFrac_eq mem _ _ (by omega), eq_rd mem _ 46 (by decide)]
  unfold decimalMant
  simp only [show (if hd s isPlusMn = true then 1 else 0) = sgn s from rfl, a, Nat.add_assoc, hk]
  split
  · exact ⟨by omega, by omega⟩
  · exact ⟨rfl, by omega⟩

theorem strtodLen_closed (mem : Bytes) (off : Nat) (hnd : (decimalMant (mem.drop off)).2 ≠ 0)
    (hhex : ¬ dHexCond mem (off + sgn (mem.drop off))) :
    strtodLen mem off =
      (decimalMant (mem.drop off)).1 + eT ((mem.drop off).drop (decimalMant (mem.drop off)).1) := by
  have hcore := core_hd hnd
  rw [← drop_add] at hcore
  have hcore' : (isDigit (rd mem (off + sgn (mem.drop off))) || rd mem (off + sgn (mem.drop off)) == 46) = true := by
    rw [← hcore]; exact rd_hd mem _ (fun b => isDigit b || b == 46) (by decide)
  have hb := dd_bytes _ hcore'
  have hsp : isSpace (rd mem off) = false := by
    by_cases hs : hd (mem.drop off) isPlusMn = true
    · rw [← rd_hd mem off isPlusMn (by decide)] at hs
      exact (ByteClass.sign_excl _ hs).space
    · have : sgn (mem.drop off) = 0 := by unfold sgn; rw [if_neg hs]
      rw [this] at hb; exact hb.2.2.1
  rw [strtodLen_eq, skipSpaces_of_not_space mem _ off hsp, dSign_eq]
  unfold dBody
  rw [dWord_false mem 105 _ _ hb.1, dWord_false mem 110 _ _ hb.2.1]
  simp only [Bool.false_eq_true, if_false]
  rw [if_neg hhex]
  unfold dDec
  dsimp only
  have hsl := sgn_le (mem.drop off)
  rw [run_eq mem isDigit (by decide) _ _ (by omega)]
  have hk : ∀ k, mem.drop (off + k) = (mem.drop off).drop k := fun k => drop_add mem off k
  rw [hk]
  have hlen : (mem.drop off).length = mem.length - off := List.length_drop
  generalize hs : mem.drop off = s at *
  have hM := dFrac_mant mem off (mem.length - (off + sgn s) + 2) (by omega)
  rw [hs] at hM
  rw [hM.1, hM.2, dExp_eq mem _ _ (by omega), hk]
  have : ((decimalMant s).2 == 0) = false := by rw [beq_eq_false_iff_ne]; exact hnd
  simp only [this, Bool.false_eq_true, if_false]
  omega


end

end ScpiVerif.Lemmas.Numeric
