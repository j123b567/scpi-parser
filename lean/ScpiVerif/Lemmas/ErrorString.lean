/-
Helper lemmas for C18 (error query response): the model `Result.resultError` of SCPI_ResultError
writes exactly `Spec.ErrorString.response`.

Only the fields `written` and `outputCount` of `Result.Out` are mentioned (no ghost state).
-/
import ScpiVerif.Model.Result
import ScpiVerif.Spec.ErrorString
import ScpiVerif.Lemmas.ResultWrite
import ScpiVerif.Lemmas.BytesOf

namespace ScpiVerif.Lemmas.ErrorString
open ScpiVerif ScpiVerif.Lexer ScpiVerif.Result ScpiVerif.Spec.ErrorString

theorem escape_nil : escape [] = [] := rfl

theorem escape_cons (b : UInt8) (d : Bytes) :
    escape (b :: d) = (if b == 34 then [34, 34] else [b]) ++ escape d := by
  simp [escape]

theorem escape_append (a b : Bytes) : escape (a ++ b) = escape a ++ escape b := by
  simp [escape]

theorem escape_noquote : ∀ (d : Bytes), (∀ b ∈ d, b ≠ 34) → escape d = d
  | [], _ => rfl
  | b :: d, h => by
    have hb : b ≠ 34 := h b (by simp)
    have := escape_noquote d (fun x hx => h x (by simp [hx]))
    simp [escape_cons, hb, this]

theorem escape_injective : ∀ (a b : Bytes), escape a = escape b → a = b
  | [], [], _ => rfl
  | [], y :: b, h => by
    rw [escape_nil, escape_cons] at h
    split at h <;> simp at h
  | x :: a, [], h => by
    rw [escape_nil, escape_cons] at h
    split at h <;> simp at h
  | x :: a, y :: b, h => by
    rw [escape_cons, escape_cons] at h
    by_cases hx : x = 34 <;> by_cases hy : y = 34
    · subst hx; subst hy
      simp at h
      rw [escape_injective a b h]
    · subst hx
      simp [hy] at h
      exact absurd h.1.symm hy
    · subst hy
      simp [hx] at h
    · simp [hx, hy] at h
      rw [h.1, escape_injective a b h.2]

/-- the length of a byte in escaped form -/
def cost (b : UInt8) : Nat := if b == 34 then 2 else 1

theorem cost_pos (b : UInt8) : 1 ≤ cost b := by unfold cost; split <;> omega

theorem cost_noquote {b : UInt8} (h : b ≠ 34) : cost b = 1 := by simp [cost, h]

theorem cost_quote : cost 34 = 2 := rfl

theorem escape_cons_length (b : UInt8) (d : Bytes) :
    (escape (b :: d)).length = cost b + (escape d).length := by
  rw [escape_cons, List.length_append, cost]; split <;> simp

/-- `Spec.ErrorString.cut` in structurally recursive form, without the accumulator (`cut_eq`) -/
def cutR : Bytes → Nat → Bytes
  | [], _ => []
  | b :: rest, room => if cost b ≤ room then b :: cutR rest (room - cost b) else []

theorem cutR_nil (room : Nat) : cutR [] room = [] := rfl

theorem cutR_cons_pos {b : UInt8} {room : Nat} (h : cost b ≤ room) (rest : Bytes) :
    cutR (b :: rest) room = b :: cutR rest (room - cost b) := by simp [cutR, h]

theorem cutR_cons_neg {b : UInt8} {room : Nat} (h : ¬ cost b ≤ room) (rest : Bytes) :
    cutR (b :: rest) room = [] := by simp [cutR, h]

theorem cut_go_eq : ∀ (rest : List UInt8) (room : Nat) (acc : Bytes),
    cut.go rest room acc = acc.reverse ++ cutR rest room
  | [], room, acc => by simp [cut.go, cutR]
  | b :: rest, room, acc => by
    by_cases hc : cost b ≤ room
    · have hc' := hc
      unfold cost at hc'
      rw [cutR_cons_pos hc]
      simp only [cut.go, if_pos hc']
      rw [cut_go_eq rest _ (b :: acc)]; simp [cost]
    · have hc' := hc
      unfold cost at hc'
      rw [cutR_cons_neg hc]
      simp only [cut.go, if_neg hc']
      simp

theorem cut_eq (d : Bytes) (lim : Nat) : cut d lim = cutR d lim := by
  simp [cut, cut_go_eq]

theorem cutR_zero (d : Bytes) : cutR d 0 = [] := by
  cases d with
  | nil => rfl
  | cons b d => exact cutR_cons_neg (by have := cost_pos b; omega) d

theorem cutR_prefix : ∀ (d : Bytes) (lim : Nat), cutR d lim <+: d
  | [], _ => by simp [cutR]
  | b :: d, lim => by
    by_cases hc : cost b ≤ lim
    · rw [cutR_cons_pos hc]
      exact List.prefix_cons_inj b |>.mpr (cutR_prefix d _)
    · rw [cutR_cons_neg hc]
      exact List.nil_prefix

theorem cutR_length_le (d : Bytes) (lim : Nat) : (cutR d lim).length ≤ d.length :=
  (cutR_prefix d lim).length_le

theorem escape_cutR_length : ∀ (d : Bytes) (lim : Nat), (escape (cutR d lim)).length ≤ lim
  | [], _ => by simp [cutR, escape_nil]
  | b :: d, lim => by
    by_cases hc : cost b ≤ lim
    · rw [cutR_cons_pos hc, escape_cons_length]
      have := escape_cutR_length d (lim - cost b)
      omega
    · rw [cutR_cons_neg hc]; simp [escape_nil]

theorem cutR_maximal : ∀ (d : Bytes) (lim : Nat), (cutR d lim).length < d.length →
    (escape (d.take ((cutR d lim).length + 1))).length > lim
  | [], _, h => by simp at h
  | b :: d, lim, h => by
    by_cases hc : cost b ≤ lim
    · rw [cutR_cons_pos hc] at h ⊢
      have := cutR_maximal d (lim - cost b) (by simpa using h)
      rw [List.length_cons, List.take_succ_cons, escape_cons_length]
      omega
    · rw [cutR_cons_neg hc]
      rw [List.length_nil, Nat.zero_add, List.take_succ_cons, List.take_zero, escape_cons_length,
        escape_nil, List.length_nil]
      omega

/-- a stretch without '"' is copied as far as the budget goes, and what follows it gets what is left -/
theorem cutR_take_noquote : ∀ (d e : Bytes) (lim : Nat), (∀ b ∈ d.take lim, b ≠ 34) →
    cutR (d ++ e) lim = d.take lim ++ cutR e (lim - d.length)
  | [], e, lim, _ => by simp
  | b :: d, e, 0, _ => by simp [cutR_zero]
  | b :: d, e, lim+1, h => by
    have hb : cost b = 1 := cost_noquote (h b (by simp))
    have ih := cutR_take_noquote d e lim (fun x hx => h x (by simp [hx]))
    rw [List.cons_append, cutR_cons_pos (by omega), hb, Nat.add_sub_cancel, ih, List.take_succ_cons, List.length_cons,
      Nat.add_sub_add_right, List.cons_append]

theorem cutR_at_quote (pre post : Bytes) (lim : Nat) (hpq : ∀ b ∈ pre, b ≠ 34) (hq : pre.length < lim) :
    cutR (pre ++ 34 :: post) lim =
      if pre.length + 2 ≤ lim then pre ++ 34 :: cutR post (lim - (pre.length + 1 + 1)) else pre := by
  rw [cutR_take_noquote pre _ lim (fun b hb => hpq b (List.mem_of_mem_take hb)), List.take_of_length_le (Nat.le_of_lt hq)]
  by_cases h : pre.length + 2 ≤ lim
  · rw [if_pos h, cutR_cons_pos (by rw [cost_quote]; omega), cost_quote, Nat.sub_sub, Nat.add_assoc]
  · rw [if_neg h, cutR_cons_neg (by rw [cost_quote]; omega), List.append_nil]

theorem response_shape (code : Int) (desc : Bytes) (text : Option Bytes) :
    let full := desc ++ (match text with | some t => [59] ++ t | none => [])
    let c := cut full 255
    response code desc text = signedDecimal code ++ [44, 34] ++ escape c ++ [34] ∧
    c = full.take c.length ∧ (escape c).length ≤ 255 ∧
    (c.length < full.length → (escape (full.take (c.length + 1))).length > 255) := by
  intro full c
  refine ⟨rfl, ?_, ?_, ?_⟩
  · exact List.prefix_iff_eq_take.mp (by simp only [c, cut_eq]; exact cutR_prefix _ _)
  · simp only [c, cut_eq]; exact escape_cutR_length _ _
  · simp only [c, cut_eq]; exact cutR_maximal _ _

theorem writeData_written (o : Out) (d : Bytes) : (writeData o d).written = o.written ++ d := rfl
theorem writeData_count (o : Out) (d : Bytes) : (writeData o d).outputCount = o.outputCount := rfl
theorem bump_written (o : Out) : (bump o).written = o.written := rfl
theorem bump_count (o : Out) : (bump o).outputCount = o.outputCount + 1 := rfl

theorem quotePos_none {d : Bytes} {len : Nat} (hd : ∀ b ∈ d, b ≠ 0) (h : quotePos d len = none) :
    ∀ b ∈ d.take len, b ≠ 34 := by
  have hs : (d.take len).takeWhile (· ≠ 0) = d.take len :=
    Lemmas.ByteList.takeWhile_all _ _ (fun b hb => by simpa using hd b (List.mem_of_mem_take hb))
  simp only [quotePos, hs] at h
  rcases Lemmas.ByteList.takeWhile_split (fun b : UInt8 => decide (b ≠ 34)) (d.take len) with ⟨h1, _⟩ | ⟨pre, x, post, h1, _, _, h4⟩
  · intro b hb; simpa using h1 b hb
  · rw [h4] at h
    rw [if_pos (by rw [h1]; simp)] at h
    cases h

theorem quotePos_some {d : Bytes} {len q : Nat} (hd : ∀ b ∈ d, b ≠ 0) (h : quotePos d len = some q) :
    ∃ pre post, d = pre ++ 34 :: post ∧ pre.length = q ∧ (∀ b ∈ pre, b ≠ 34) ∧ q < len := by
  have hs : (d.take len).takeWhile (· ≠ 0) = d.take len :=
    Lemmas.ByteList.takeWhile_all _ _ (fun b hb => by simpa using hd b (List.mem_of_mem_take hb))
  simp only [quotePos, hs] at h
  rcases Lemmas.ByteList.takeWhile_split (fun b : UInt8 => decide (b ≠ 34)) (d.take len) with ⟨_, h2⟩ | ⟨pre, x, post, h1, h2, h3, h4⟩
  · rw [h2] at h; simp at h
  · rw [h4] at h
    rw [if_pos (by rw [h1]; simp)] at h
    injection h with h
    have hx : x = 34 := by simpa using h2
    refine ⟨pre, post ++ d.drop len, ?_, h, fun b hb => by simpa using h3 b hb, ?_⟩
    · conv => lhs; rw [← List.take_append_drop len d, h1, hx]
      simp
    · have := List.length_take_le len d
      rw [h1, List.length_append, List.length_cons] at this
      omega

theorem take_pre (pre post : List UInt8) (x : UInt8) :
    (pre ++ x :: post).take (pre.length + 1) = pre ++ [x] := by
  rw [List.take_append, List.take_of_length_le (by omega)]
  simp

theorem drop_pre (pre post : List UInt8) (x : UInt8) : (pre ++ x :: post).drop (pre.length + 1) = post := by
  rw [List.drop_append, List.drop_of_length_le (by omega)]
  simp

theorem clip_eq_min (len lim : Nat) : (if len > lim then lim else len) = min len lim := by
  split <;> omega

/-- one part: with `len = min d.length lim` (invariant of the C loop), what the inner loop has written, the final
`writeData(data, len)` and the cut of whatever follows (`e`) with the budget that is left (none after the `break`, where
one character is free but unusable) make up the cut of `d ++ e` -/
theorem errPartLoop_spec (fuel : Nat) (o : Out) (d e : Bytes) (lim : Nat) (hd : ∀ b ∈ d, b ≠ 0) (hf : d.length < fuel) :
    match errPartLoop fuel o d (min d.length lim) lim with
    | (o', d', len', lim') =>
      o'.written ++ d'.take len' ++ escape (cutR e (lim' - len')) = o.written ++ escape (cutR (d ++ e) lim) ∧
      o'.outputCount = o.outputCount := by
  induction fuel generalizing o d lim with
  | zero => omega
  | succ fuel ih =>
    rw [errPartLoop]
    cases hq : quotePos d (min d.length lim) with
    | none =>
      have htk : d.take (min d.length lim) = d.take lim := by
        rw [List.take_eq_take_iff, Nat.min_comm d.length, Nat.min_assoc, Nat.min_self]
      have hnq := quotePos_none hd hq
      rw [htk] at hnq
      dsimp only
      rw [htk, show lim - min d.length lim = lim - d.length by omega, cutR_take_noquote d e lim hnq, escape_append,
        escape_noquote _ hnq, List.append_assoc]
      exact ⟨rfl, rfl⟩
    | some q =>
      obtain ⟨pre, post, rfl, rfl, hpq, hql⟩ := quotePos_some hd hq
      have hlt : pre.length < lim := Nat.lt_of_lt_of_le hql (Nat.min_le_right _ _)
      have hdl : (pre ++ 34 :: post).length = pre.length + 1 + post.length := by
        rw [List.length_append, List.length_cons]; omega
      clear hql
      rw [List.append_assoc, List.cons_append, cutR_at_quote pre (post ++ e) lim hpq hlt]
      dsimp only
      by_cases hs : pre.length + 1 ≥ lim
      · -- the `break`: one character is free but unusable
        rw [if_pos hs, if_neg (by omega)]
        dsimp only
        rw [Nat.min_eq_right (by omega), show lim - 1 = pre.length by omega, List.take_left, Nat.sub_self, cutR_zero,
          escape_nil, List.append_nil, escape_noquote _ hpq]
        exact ⟨rfl, rfl⟩
      · -- `len` is again the smaller of what is left of the part and what is left of the budget
        rw [if_neg hs, if_pos (show pre.length + 2 ≤ lim by omega), take_pre, drop_pre, clip_eq_min, hdl,
          ← Nat.sub_min_sub_right, Nat.add_sub_cancel_left, Nat.min_assoc,
          Nat.min_eq_right (Nat.sub_le_sub_left (Nat.le_succ _) _)]
        have ih := ih (writeData (writeData o (pre ++ [34])) [34]) post (lim - (pre.length + 1 + 1))
          (fun b hb => hd b (by simp [hb])) (by omega)
        generalize errPartLoop fuel _ post _ _ = r at ih ⊢
        obtain ⟨o', d', len', lim'⟩ := r
        dsimp only at ih ⊢
        rw [ih.1, ih.2, writeData_written, writeData_written, escape_append, escape_cons, escape_noquote _ hpq]
        simp [writeData_count]

/-- the content of the string before escaping and cutting, as the loop over the parts sees it from part `i` on: the parts
up to the first NULL, a ';' in front of part 1 (`writeSemicolon`; the output count is positive there) -/
def joined : Nat → List (Option Bytes) → Bytes
  | _, [] => []
  | _, none :: _ => []
  | i, some d :: ps => (if i == 1 then [59] else []) ++ (d ++ joined (i + 1) ps)

theorem errParts_spec : ∀ (ps : List (Option Bytes)) (i : Nat) (o : Out) (lim : Nat), o.outputCount > 0 →
    (∀ p ∈ ps, ∀ d, p = some d → ∀ b ∈ d, b ≠ 0) →
    (errParts i ps o lim).written = o.written ++ escape (cutR (joined i ps) lim)
  | [], i, o, lim, _, _ => by simp [errParts, joined, cutR, escape_nil]
  | none :: ps, i, o, lim, _, _ => by simp [errParts, joined, cutR, escape_nil]
  | some d :: ps, i, o, lim, ho, hps => by
    have hd : ∀ b ∈ d, b ≠ 0 := hps (some d) (by simp) d rfl
    have hps' : ∀ p ∈ ps, ∀ d, p = some d → ∀ b ∈ d, b ≠ 0 := fun p hp => hps p (by simp [hp])
    rw [errParts]
    by_cases hl : lim = 0
    · rw [if_pos hl, hl, cutR_zero, escape_nil, List.append_nil]
    · -- the optional ';' is a stretch without '"' in front of the part
      obtain ⟨s, hs, hj, hsl, hsq⟩ : ∃ s : Bytes,
          (if (i == 1) = true then ((if o.outputCount > 0 then writeData o [59] else o), lim - 1) else (o, lim)) =
            (writeData o s, lim - s.length) ∧
          joined i (some d :: ps) = s ++ (d ++ joined (i + 1) ps) ∧ s.length ≤ 1 ∧ ∀ b ∈ s, b ≠ 34 := by
        by_cases hi : (i == 1) = true
        · exact ⟨[59], by rw [if_pos hi, if_pos ho]; rfl, by rw [joined, if_pos hi], Nat.le_refl _, by decide⟩
        · exact ⟨[], by rw [if_neg hi, Lemmas.Framing.writeData_nil]; rfl, by rw [joined, if_neg hi], Nat.zero_le _, by simp⟩
      rw [if_neg hl, hs]
      dsimp only
      rw [clip_eq_min]
      have h := errPartLoop_spec (d.length + 1) (writeData o s) d (joined (i + 1) ps) (lim - s.length) hd (Nat.lt_succ_self _)
      generalize errPartLoop (d.length + 1) _ d _ _ = r at h ⊢
      obtain ⟨o2, d2, len2, lim2⟩ := r
      dsimp only at h ⊢
      rw [errParts_spec ps (i + 1) (writeData o2 (d2.take len2)) (lim2 - len2) (by rw [writeData_count, h.2]; exact ho) hps',
        writeData_written, h.1, writeData_written, hj, cutR_take_noquote s _ lim (fun b hb => hsq b (List.mem_of_mem_take hb)),
        List.take_of_length_le (by omega), escape_append, escape_noquote s hsq, List.append_assoc]

theorem basePrefix_ten : basePrefix 10 = [] := by decide

theorem canon_code (code : Int) (hc : -32768 ≤ code ∧ code ≤ 32767) :
    charsToBytes (IntFmt.canon 32 (if code < 0 then (2^32 - code.natAbs) else code.toNat) 10 true)
      = signedDecimal code := by
  have he : IntFmt.effBase 10 = 10 := by decide
  unfold IntFmt.canon signedDecimal Spec.Message.decimal charsToBytes
  simp only [he]
  by_cases hn : code < 0
  · have h1 : (2:Nat)^32 - code.natAbs ≥ 2^(32-1) := by omega
    have h2 : (2:Nat)^32 - (2^32 - code.natAbs) = code.natAbs := by omega
    simp only [if_pos hn, h1, h2, decide_true, Bool.and_self, if_true, List.map_cons]
    rfl
  · have h2 : code.toNat = code.natAbs := by omega
    have h1 : decide (code.natAbs ≥ 2^(32-1)) = false := decide_eq_false (by omega)
    simp only [if_neg hn, h2, h1, Bool.and_false, Bool.false_and, List.nil_append]
    rfl

theorem resultInt_code (o : Out) (code : Int) (hc : -32768 ≤ code ∧ code ≤ 32767) (ho : o.outputCount = 0) :
    (resultIntBaseSign o 32 (if code < 0 then (2^32 - code.natAbs) else code.toNat) 10 true).written
      = o.written ++ signedDecimal code ∧
    (resultIntBaseSign o 32 (if code < 0 then (2^32 - code.natAbs) else code.toNat) 10 true).outputCount = 1 := by
  have hcc := canon_code code hc
  have hv32 : (if code < 0 then (2^32 - code.natAbs) else code.toNat) < 2^32 := by split <;> omega
  generalize (if code < 0 then (2^32 - code.natAbs) else code.toNat) = v at hcc hv32
  unfold resultIntBaseSign
  dsimp only
  rw [Lemmas.Framing.toStr_chars 32 (Or.inl rfl) v hv32 10 true, hcc, Lemmas.Framing.writeDelimiter_eq]
  simp [writeData, bump, basePrefix_ten, ho, Lemmas.Blocks.sepOf]

theorem limit_eq : Gen.SCPI_STD_ERROR_DESC_MAX_STRING_LENGTH.toNat = 255 := by decide

theorem resultError_written (o : Out) (code : Int) (hc : -32768 ≤ code ∧ code ≤ 32767) (desc : Bytes)
    (parts : List (Option Bytes)) (hd : ∀ b ∈ desc, b ≠ 0)
    (hp : ∀ p ∈ parts, ∀ d, p = some d → ∀ b ∈ d, b ≠ 0) (ho : o.outputCount = 0) :
    (resultError o code desc parts).written =
      o.written ++ (signedDecimal code ++ [44, 34] ++ escape (cut (joined 0 (some desc :: parts)) 255) ++ [34]) := by
  obtain ⟨hi1, hi2⟩ := resultInt_code o code hc ho
  have hw : (resultError o code desc parts).written =
      (writeData (errParts 0 (some desc :: parts)
        (writeData (writeDelimiter (resultIntBaseSign o 32
          (if code < 0 then (2^32 - code.natAbs) else code.toNat) 10 true)) [34])
        Gen.SCPI_STD_ERROR_DESC_MAX_STRING_LENGTH.toNat) [34]).written := rfl
  generalize resultIntBaseSign o 32 (if code < 0 then (2^32 - code.natAbs) else code.toNat) 10 true = o1
    at hi1 hi2 hw
  obtain ⟨hd1, hd2⟩ : (writeDelimiter o1).written = o1.written ++ [44] ∧ (writeDelimiter o1).outputCount = 1 := by
    rw [Lemmas.Framing.writeDelimiter_eq]; simp [hi2, Lemmas.Blocks.sepOf]
  rw [hw, writeData_written, limit_eq, errParts_spec _ 0 _ 255 (by rw [writeData_count, hd2]; omega)
    (by
      intro p hp' d hpd
      rcases List.mem_cons.mp hp' with rfl | hp'
      · cases hpd; exact hd
      · exact hp p hp' d hpd),
    writeData_written, hd1, hi1, cut_eq]
  simp [List.append_assoc]

/-- C18 as an equation of the log: what SCPI_ResultError appends when it is the first item of the response -/
theorem resultError_response (o : Out) (code : Int) (hc : -32768 ≤ code ∧ code ≤ 32767) (desc : Bytes) (text : Option Bytes)
    (hd : desc.all (· ≠ 0) = true) (ht : ∀ t, text = some t → t.all (· ≠ 0) = true) (ho : o.outputCount = 0) :
    (resultError o code desc [text]).written = o.written ++ response code desc text := by
  rw [resultError_written o code hc desc [text] (Lemmas.ByteList.nz_of_all hd)
    (fun p hp d hpd => Lemmas.ByteList.nz_of_all (ht d (List.mem_singleton.1 hp ▸ hpd))) ho]
  cases text <;> simp [response, joined]

theorem resultError_one_part (o : Out) (code : Int) (hc : -32768 ≤ code ∧ code ≤ 32767) (desc : Bytes) (text : Option Bytes)
    (hd : desc.all (· ≠ 0) = true) (_hdne : desc ≠ []) (ht : ∀ t, text = some t → t.all (· ≠ 0) = true) (ho : o.outputCount = 0) :
    (resultError o code desc [text]).written.drop o.written.length = response code desc text := by
  rw [resultError_response o code hc desc text hd ht ho, List.drop_left]

theorem resultError_two_parts (o : Out) (code : Int) (hc : -32768 ≤ code ∧ code ≤ 32767) (desc a b : Bytes)
    (hd : desc.all (· ≠ 0) = true) (_hdne : desc ≠ []) (ha : a.all (· ≠ 0) = true) (_hane : a ≠ []) (hb : b.all (· ≠ 0) = true)
    (ho : o.outputCount = 0) :
    (resultError o code desc [some a, if b.isEmpty then none else some b]).written.drop o.written.length
      = response code desc (some (a ++ b)) := by
  rw [resultError_written o code hc desc _ (Lemmas.ByteList.nz_of_all hd)
    (by
      intro p hp d hpd
      rcases List.mem_cons.mp hp with rfl | hp
      · cases hpd; exact Lemmas.ByteList.nz_of_all ha
      · rw [List.mem_singleton.1 hp] at hpd
        split at hpd <;> cases hpd
        exact Lemmas.ByteList.nz_of_all hb) ho, List.drop_left]
  cases b <;> simp [response, joined]

/-- one pass over the generated list: each description has a first byte and no NUL -/
theorem errorList_cstr :
    Gen.errorList.all (fun p => p.2.toUTF8.data.toList != [] && p.2.toUTF8.data.toList.all (· ≠ 0)) = true := by
  decide +kernel

theorem errFallback_cstr : bytesOf Gen.errFallback ≠ [] ∧ (bytesOf Gen.errFallback).all (· ≠ 0) = true := by decide +kernel

theorem errorTranslate_cstr (code : Int) : errorTranslate code ≠ [] ∧ (errorTranslate code).all (· ≠ 0) = true := by
  unfold errorTranslate
  cases hf : Gen.errorList.find? (fun p => p.1 == code) with
  | none => exact errFallback_cstr
  | some p =>
    show bytesOf p.2 ≠ [] ∧ (bytesOf p.2).all (· ≠ 0) = true
    rw [bytesOf_eq_data]
    simpa using List.all_eq_true.mp errorList_cstr p (List.mem_of_find?_eq_some hf)

theorem description_total (code : Int) :
    errorTranslate code = (match Gen.errorList.find? (fun p => p.1 == code) with
      | some p => bytesOf p.2 | none => bytesOf Gen.errFallback) ∧ errorTranslate code ≠ [] :=
  ⟨by unfold errorTranslate; cases Gen.errorList.find? (fun p => p.1 == code) <;> rfl, (errorTranslate_cstr code).1⟩

end ScpiVerif.Lemmas.ErrorString
