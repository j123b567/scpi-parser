/-
What the parameter readers (Lemmas/Params.lean) and the number facts (Lemmas/Numeric.lean) need of the text of a token and of the
name tables, without a context: a plain token found in a text is found, the same, in the prefix that holds it (`PM_take`,
`plainSpec_take`), with what follows for mnemonic, decimal number and suffix (`chr_token_facts`, `decimal_token_head`,
`suffix_graphic`); the name tests of choices and units in closed form (`matchName_eq`, `translateUnit_go_eq`).  The namespace is
`Lemmas.Params`.
-/
import ScpiVerif.Spec.Params
import ScpiVerif.Model.Ctx
import ScpiVerif.Lemmas.LexDecimal
import ScpiVerif.Lemmas.MatchKw
import ScpiVerif.Lemmas.Strto

namespace ScpiVerif.Lemmas.Params
open ScpiVerif ScpiVerif.Ctx ScpiVerif.Lexer ScpiVerif.Spec.Params ScpiVerif.Lemmas.Strto

theorem isSpace_le {b : UInt8} (h : Prim.isSpace b = true) : b.toNat ≤ 32 := by
  simp only [byte_nat, UInt8.reduceToNat] at h; omega

theorem ne_zero_of_gt {b : UInt8} (h : 32 < b.toNat) : b ≠ 0 := by
  simp only [byte_nat, UInt8.reduceToNat]; omega

section TokenText
open ScpiVerif.Spec ScpiVerif.Lemmas.Lexer ScpiVerif.Lemmas.Regex

theorem PM_take {r : Re} {s : Bytes} {n m : Nat} (hn : n ≤ s.length) :
    PM r (s.take n) m ↔ PM r s m ∧ m ≤ n := by
  unfold PM
  constructor
  · rintro ⟨h1, h2⟩
    have hm : m ≤ n := by simpa [Nat.min_eq_left hn] using h1
    rw [List.take_take, Nat.min_eq_left hm] at h2
    exact ⟨⟨by omega, h2⟩, hm⟩
  · rintro ⟨⟨h1, h2⟩, hm⟩
    refine ⟨by simp; omega, ?_⟩
    rw [List.take_take, Nat.min_eq_left hm]
    exact h2

theorem plainSpec_take {r : Re} {ty : TokType} {s : Bytes} {e n : Nat}
    (h : plainSpec r ty s = some ⟨e, ty, 0, e⟩) (hen : e ≤ n) (hn : n ≤ s.length) :
    plainSpec r ty (s.take n) = some ⟨e, ty, 0, e⟩ := by
  obtain ⟨h0, h1, h2⟩ := plainSpec_PM h
  exact plainSpec_some h0 ((PM_take hn).2 ⟨h1, hen⟩) (fun m hm => h2 m ((PM_take hn).1 hm).1)

theorem plainSpec_self {r : Re} {ty : TokType} {s : Bytes} {n : Nat}
    (h : plainSpec r ty s = some ⟨n, ty, 0, n⟩) :
    plainSpec r ty (s.take n) = some ⟨n, ty, 0, n⟩ :=
  plainSpec_take h (Nat.le_refl _) (plainSpec_PM h).2.1.1

theorem suffix_graphic : reAll (fun b => 32 < b.toNat) Spec.suffix := by
  have hal : ∀ b : UInt8, isAlpha b = true → 32 < b.toNat := by
    intro b h; simp only [byte_nat, UInt8.reduceToNat] at h; omega
  have hdg : ∀ b : UInt8, isDigit b = true → 32 < b.toNat := by
    intro b h; simp only [byte_nat, UInt8.reduceToNat] at h; omega
  have h47 : ∀ b : UInt8, (b == 47) = true → 32 < b.toNat := by
    intro b h; simp only [byte_nat, UInt8.reduceToNat] at h; omega
  have h45 : ∀ b : UInt8, (b == 45) = true → 32 < b.toNat := by
    intro b h; simp only [byte_nat, UInt8.reduceToNat] at h; omega
  have hsd : ∀ b : UInt8, (b == 47 || b == 46) = true → 32 < b.toNat := by
    intro b h; simp only [byte_nat, UInt8.reduceToNat] at h; omega
  simp only [Spec.suffix, suffixTail, Re.opt, Re.plus, Re.c, reAll]
  exact ⟨⟨trivial, h47⟩, trivial, ⟨hal, hal⟩, ⟨⟨trivial, h45⟩, trivial, hdg⟩,
    hsd, hal, ⟨trivial, h45⟩, trivial, hdg⟩

theorem chr_token_facts {s : Bytes} {n : Nat} (h : specToken .chr s = some ⟨n, .programMnemonic, 0, n⟩) :
    n ≤ s.length ∧ 0 < n ∧ hd (s.take n) isAlpha = true ∧
    specToken .chr (s.take n) = some ⟨n, .programMnemonic, 0, n⟩ := by
  have h' : plainSpec mnemonic .programMnemonic s = some ⟨n, .programMnemonic, 0, n⟩ := h
  obtain ⟨h0, h1, h2⟩ := plainSpec_PM h'
  have hal := (PM_mnemonic.1 h1).1
  refine ⟨h1.1, h0, ?_, plainSpec_self h'⟩
  obtain ⟨b, hb, hs⟩ := hd_cons_drop hal
  rw [hs]
  cases n with
  | zero => omega
  | succ n => simpa using hb

theorem decimal_token_head {s : Bytes} {n : Nat} (h : specToken .decimal s = some ⟨n, .decimal, 0, n⟩) :
    n ≤ s.length ∧ ∃ sg x rest, s.take n = sg ++ x :: rest ∧ (sg = [] ∨ sg = [43] ∨ sg = [45]) ∧
      (isDigit x = true ∨ x = 46) := by
  have h' : plainSpec Spec.decimal .decimal s = some ⟨n, .decimal, 0, n⟩ := h
  obtain ⟨h0, h1, h2⟩ := plainSpec_PM h'
  refine ⟨h1.1, ?_⟩
  have h3 := h1
  unfold Spec.decimal at h3
  rw [PM_seq] at h3
  obtain ⟨i, j, hn, hm, _⟩ := h3
  obtain ⟨j', hi, hcore⟩ := decimal_PM_mantissa.1 hm
  have hj' : 1 ≤ j' := by
    rw [decimal_PM_core rfl rfl] at hcore
    rcases hcore with h | h <;> omega
  obtain ⟨x, hx, hsx⟩ := hd_cons_drop (decimal_core_hd _ _ hcore)
  -- the literal: its sign, the byte behind it, and what is left of the `n` bytes
  obtain ⟨sg, hsg, hlen, hs⟩ := sgn_split s
  rw [show (if hd s isPlusMn = true then 1 else 0) = sgn s from rfl] at hi hsx
  rw [hsx] at hs
  generalize List.drop 1 (List.drop (sgn s) s) = u at hs
  refine ⟨sg, x, u.take (n - (sg.length + 1)), ?_, hsg, by simpa using hx⟩
  rw [hs, List.take_append, List.take_of_length_le (by omega),
    show n - sg.length = (n - (sg.length + 1)) + 1 by omega, List.take_succ_cons]

end TokenText

theorem toLower_eq_lower : Match.toLower = Spec.Pattern.lower := rfl

theorem caseEq_nil_left (n : Nat) (v : Bytes) (hv : ∀ x ∈ v, x ≠ 0) (hl : n ≤ v.length) :
    Match.caseEq [] 0 v 0 n = (n == 0) := by
  cases n with
  | zero => simp [Match.caseEq]
  | succ n =>
    cases v with
    | nil => simp at hl
    | cons y v =>
      have hy : y ≠ 0 := hv y (by simp)
      have := Lemmas.Match.lower_ne_zero y hy
      simp [Match.caseEq, Match.rd, toLower_eq_lower]
      intro h
      have h0 : Spec.Pattern.lower 0 = 0 := by decide
      rw [h0] at h
      exact absurd h.symm this

/-- SCPI_ParamToChoice's name test = the specification's, for an option name without NUL and '#' -/
theorem matchName_eq (name s : Bytes) (hname : ∀ b ∈ name, b ≠ 0 ∧ b ≠ 35) :
    matchName name s = nameMatches name s := by
  unfold matchName nameMatches
  rw [Lemmas.Match.matchPattern_plain name 0 name [] s 0 s [] false (by simp) (by simp) hname]

theorem translateUnit_go_eq (s : Bytes) (l : List (String × Nat × Nat × Nat))
    (hz : (∀ b ∈ s, b ≠ 0) ∨ ∀ u ∈ l, ∀ x ∈ u.1.toUTF8.toList, x ≠ 0) :
    translateUnit.go s l = (l.find? (fun u => Spec.Pattern.ciEq s u.1.toUTF8.toList)).map (·.2) := by
  induction l with
  | nil => rfl
  | cons e rest ih =>
    obtain ⟨n, u, a, b⟩ := e
    have hz' : (∀ b ∈ s, b ≠ 0) ∨ ∀ x ∈ n.toUTF8.toList, x ≠ 0 := hz.imp id (fun h => h _ List.mem_cons_self)
    simp only [translateUnit.go, List.find?_cons]
    rw [show Result.bytesOf n = n.toUTF8.toList from rfl, Lemmas.Match.compareStr_whole s _ hz']
    cases Spec.Pattern.ciEq s n.toUTF8.toList
    · exact ih (hz.imp id (fun h v hv => h v (List.mem_cons_of_mem _ hv)))
    · rfl

theorem translateUnit_isSome (s : Bytes) (hs : ∀ b ∈ s, b ≠ 0) : (translateUnit s).isSome = unitKnown s := by
  unfold translateUnit unitKnown
  rw [translateUnit_go_eq s _ (.inl hs), Option.isSome_map, List.isSome_find?]

theorem boolDef_names : ∀ o ∈ boolDef, ∀ b ∈ o.1, b ≠ 0 ∧ b ≠ 35 := by decide +kernel
theorem specialDef_names : ∀ o ∈ specialDef, ∀ b ∈ o.1, b ≠ 0 ∧ b ≠ 35 := by decide +kernel

end ScpiVerif.Lemmas.Params
