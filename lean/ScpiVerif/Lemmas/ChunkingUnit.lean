/-
C08: the unit detector when more bytes arrive.  `detectUnit` is `unitOf` (Lemmas/UnitForm.lean), and each part of
`unitOf w` is the same in `w ++ y` (Lemmas/ChunkingScan.lean), so the unit is: `detect_append`, an equation between
units, with one byte more only when a CR at the very end of `w` meets a line feed at the start of `y`.  Along the units the
scan of `SCPI_Input` passes this reads `scanFrom_detect`; from it the scan when more bytes arrive (`scan_append`), and the unit
loop of `SCPI_Parse` on a message `m ++ [CR, LF]`, which does what it does on `m ++ [CR]`, the same stream cut inside its
terminator (`parseLoop_crlf`).
-/
import ScpiVerif.Lemmas.ChunkingScan
import ScpiVerif.Lemmas.Bounds

namespace ScpiVerif.Lemmas.Chunking
open ScpiVerif ScpiVerif.Lexer ScpiVerif.Spec ScpiVerif.Props.C08 ScpiVerif.Parser ScpiVerif.Lemmas.Lexer ScpiVerif.Ctx
open ScpiVerif.Lemmas.Stage (stepCore)

theorem detect_lf : (detectUnit [10]).header.len = 0 ∧ (detectUnit [10]).header.type ≠ .invalid ∧
    (detectUnit [10]).consumed = 1 := by decide

theorem detect_nl (w : Bytes) (h : (detectUnit w).term = .nl) :
    ∃ p, (detectUnit w).consumed = p + 1 ∧ NLat w p := by
  rw [detect_term_nl] at h
  rw [detect_consumed_eq]
  obtain ⟨c1, c2⟩ := unitEnd_nl h
  refine ⟨(uData w).1 + ((unitEnd (w.drop (uData w).1)).1 - 1), by omega, ?_⟩
  unfold NLat at c2 ⊢
  rw [List.getElem?_drop] at c2
  exact c2

/-- a unit that ends in a line terminator, or inside `w`, has something behind its data list -/
theorem uEnd_ne (w : Bytes) (hcont : (detectUnit w).term = .nl ∨ (detectUnit w).consumed < w.length) :
    w.drop (uData w).1 ≠ [] := by
  intro h0
  rw [detect_term_nl, detect_consumed_eq, h0] at hcont
  have := List.drop_eq_nil_iff.1 h0
  rcases hcont with h | h
  · cases h
  · exact absurd h (by show ¬ _ + 0 < _; omega)

/-- such a unit ends in a line terminator, or at a byte of `w` that cannot continue it, at or before index `J`: its
data list ends at or before `J` -/
theorem uData_le (w : Bytes) (J : Nat) (hend : (detectUnit w).consumed ≤ J + 1)
    (hcont : (detectUnit w).term = .nl ∨ (detectUnit w).consumed < w.length) : (uData w).1 ≤ J := by
  rw [detect_consumed_eq] at hend
  have := unitEnd_pos (uEnd_ne w hcont)
  omega

/-- it is terminated by a CR at the very end of `w`, which a following line feed would extend, when that CR is all
there is behind its data list -/
theorem uEnd_cr_iff (w : Bytes) (hcont : (detectUnit w).term = .nl ∨ (detectUnit w).consumed < w.length) :
    w.drop (uData w).1 = [13] ↔ (detectUnit w).consumed = w.length ∧ w.getLast? = some 13 := by
  have hne := uEnd_ne w hcont
  have hlt : (uData w).1 < w.length := Nat.lt_of_not_le fun hn => hne (List.drop_of_length_le hn)
  rw [unitEnd_cr, detect_consumed_eq, List.length_drop, ByteList.getLast?_drop_of_ne hne]
  constructor
  · intro ⟨_, hl, h13⟩
    exact ⟨by omega, h13⟩
  · intro ⟨hl, h13⟩
    exact ⟨(detect_term_nl w).1 (hcont.resolve_right (by rw [detect_consumed_eq]; omega)), by omega, h13⟩

/-- what more input behind a complete line does to the detected unit: nothing, or (`d = 1`) the line feed after a final
carriage return joins it (`detect_append`) -/
def grow (u : Parser.Unit) (d : Nat) : Parser.Unit := { u with consumed := u.consumed + d }

theorem grow_zero (u : Parser.Unit) : grow u 0 = u := rfl
theorem grow_consumed (u : Parser.Unit) (d : Nat) : (grow u d).consumed = u.consumed + d := rfl
theorem grow_term (u : Parser.Unit) (d : Nat) : (grow u d).term = u.term := rfl

theorem mkUnit_grow (hdr data : Token) (n : Int) (p : Nat) (e : Nat × TermSpec × Bool) (d : Nat) :
    mkUnit hdr data n p (e.1 + d, e.2) = grow (mkUnit hdr data n p e) d := by
  unfold mkUnit grow
  simp only [Nat.add_assoc]

theorem unitOf_append (w y : Bytes) (J : Nat) (hJ : NLat w J) (hq : QuotesLineLocal (w ++ y)) (hP2 : (uData w).1 ≤ J) :
    unitOf (w ++ y) = grow (unitOf w) (if w.drop (uData w).1 = [13] ∧ y.head? = some 10 then 1 else 0) := by
  obtain ⟨e0, eH, eD, eT⟩ := unit_parts_stable w y J hJ hq hP2
  obtain ⟨v5, v6⟩ := drop_view w y J (uData w).1 hJ hP2
  unfold unitOf
  rw [e0, eH, eD, eT, v5, unitEnd_append _ y v6.ne_nil, mkUnit_grow]

theorem detect_append (w y : Bytes) (J : Nat) (hJ : NLat w J) (hq : QuotesLineLocal (w ++ y))
    (hend : (detectUnit w).consumed ≤ J + 1)
    (hcont : (detectUnit w).term = .nl ∨ (detectUnit w).consumed < w.length) :
    detectUnit (w ++ y) = grow (detectUnit w)
      (if (detectUnit w).consumed = w.length ∧ w.getLast? = some 13 ∧ y.head? = some 10 then 1 else 0) := by
  rw [detect_eq (w ++ y), unitOf_append w y J hJ hq (uData_le w J hend hcont), ← detect_eq]
  simp only [uEnd_cr_iff w hcont, and_assoc]

theorem scanFrom_nl (s : Bytes) : ∀ (fuel tot k f : Nat), scanFrom fuel s tot = some (k, f) →
    0 < k ∧ NLat s (k - 1) := by
  intro fuel
  induction fuel with
  | zero => intro tot k f h; cases h
  | succ fuel ih =>
    intro tot k f h
    rcases scanFrom_cases h with ⟨hnl, rfl, _⟩ | ⟨_, _, _, h'⟩
    · obtain ⟨p, hp1, hp2⟩ := detect_nl _ hnl
      unfold NLat at hp2 ⊢
      rw [List.getElem?_drop] at hp2
      rw [hp1]
      exact ⟨by omega, hp2⟩
    · exact ih _ k f h'

/-- a unit that the scan of `s` reaches, when `y` has arrived too: the same unit, one byte longer if it ends `s` with a CR
and `y` starts with a line feed.  The scan of `s ++ y` (`scanFrom_append`) and the unit loop on `s ++ [LF]`
(`parseLoop_crlf`) both walk the units of `s` with this. -/
theorem scanFrom_detect (s y : Bytes) (hq : QuotesLineLocal (s ++ y)) {fuel tot k f : Nat}
    (h : scanFrom (fuel + 1) s tot = some (k, f)) :
    detectUnit (s.drop tot ++ y) = grow (detectUnit (s.drop tot))
      (if tot + (detectUnit (s.drop tot)).consumed = s.length ∧ s.getLast? = some 13 ∧ y.head? = some 10 then 1 else 0) := by
  obtain ⟨hk, hJ⟩ := scanFrom_nl s _ _ _ _ h
  obtain ⟨g1, g2, -, -⟩ := scanFrom_some _ _ _ _ _ h
  obtain ⟨v1, v2⟩ := drop_view s y (k - 1) tot hJ (by omega)
  -- the unit ends in the terminator the scan stops at, or before it and inside `s`
  have hu : (detectUnit (s.drop tot)).consumed ≤ k - 1 - tot + 1 ∧
      ((detectUnit (s.drop tot)).term = .nl ∨ (detectUnit (s.drop tot)).consumed < (s.drop tot).length) := by
    rw [List.length_drop]
    rcases scanFrom_cases h with ⟨hnl, rfl, -⟩ | ⟨-, -, hlt, h'⟩
    · exact ⟨by omega, Or.inl hnl⟩
    · obtain ⟨r1, -, -, -⟩ := scanFrom_some _ _ _ _ _ h'
      exact ⟨by omega, Or.inr (by omega)⟩
  rw [detect_append _ y _ v2 (v1 ▸ qll_drop hq tot) hu.1 hu.2, List.length_drop, ByteList.getLast?_drop_of_ne v2.ne_nil]
  have hc : (detectUnit (s.drop tot)).consumed = s.length - tot ↔ tot + (detectUnit (s.drop tot)).consumed = s.length :=
    ⟨fun h => by omega, fun h => by omega⟩
  simp only [hc]

theorem scanFrom_append (s y : Bytes) (hq : QuotesLineLocal (s ++ y)) (k : Nat) :
    ∀ (fuel tot f : Nat), scanFrom fuel s tot = some (k, f) →
    scanFrom fuel (s ++ y) tot =
      some (k + (if k = s.length ∧ s.getLast? = some 13 ∧ y.head? = some 10 then 1 else 0), f) := by
  intro fuel
  induction fuel with
  | zero => intro tot f h; cases h
  | succ fuel ih =>
    intro tot f h
    obtain ⟨g1, g2, -, -⟩ := scanFrom_some _ _ _ _ _ h
    have key := scanFrom_detect s y hq h
    rw [scanFrom_succ, List.drop_append_of_le_length (by omega)]
    rcases scanFrom_cases h with ⟨hnl, rfl, rfl⟩ | ⟨hnl, hstop, hlt, h'⟩
    · simp only [key, grow_consumed, grow_term, hnl, beq_self_eq_true, if_true, Nat.add_assoc]
    · rw [if_neg (fun h => by omega), grow_zero] at key
      rw [key, if_neg (by simpa using hnl), if_neg hstop, if_neg (by rw [List.length_append]; omega)]
      exact ih _ f h'

theorem scan_last {s : Bytes} {k : Nat} (hs : scan s = some k) :
    (s.take k).getLast? = some 10 ∨ (s.take k).getLast? = some 13 := by
  obtain ⟨f, hf⟩ := scan_exists (s.length + 1) (by omega) hs
  obtain ⟨h1, h2⟩ := scanFrom_nl s _ _ _ _ hf
  have hl := h2.lt
  rw [List.getLast?_eq_getElem?, List.length_take, List.getElem?_take]
  rw [show min k s.length - 1 = k - 1 by omega, if_pos (by omega)]
  exact h2

theorem scan_append (s y : Bytes) (k : Nat) (hq : QuotesLineLocal (s ++ y)) (hs : scan s = some k) :
    scan (s ++ y) = some (k + (if k = s.length ∧ s.getLast? = some 13 ∧ y.head? = some 10 then 1 else 0)) := by
  obtain ⟨f, hf⟩ := scan_exists ((s ++ y).length + 1) (by rw [List.length_append]; omega) hs
  unfold scan
  rw [scanFrom_append s y hq k _ _ _ hf]
  rfl

theorem scan_stable' (s y : Bytes) (k : Nat) (hq : QuotesLineLocal (s ++ y))
    (hx : k < s.length ∨ s.getLast? ≠ some 13 ∨ y.head? ≠ some 10) (hs : scan s = some k) : scan (s ++ y) = some k := by
  rw [scan_append s y k hq hs, if_neg (fun h => hx.elim (by omega) (fun hx => hx.elim (fun hx => hx h.2.1) (fun hx => hx h.2.2)))]
  rfl

/-- prefix stability of the scan: the message found in `s` is found in `s ++ y`, unless `s` ends in a CR
(which a following LF would extend) -/
theorem scan_stable (s y : Bytes) (k : Nat) (hq : QuotesLineLocal (s ++ y)) (hlast : s.getLast? ≠ some 13)
    (hs : scan s = some k) : scan (s ++ y) = some k :=
  scan_stable' s y k hq (Or.inr (Or.inl hlast)) hs

theorem scan_crlf (s y : Bytes) (hq : QuotesLineLocal (s ++ 10 :: y)) (h13 : s.getLast? = some 13)
    (hs : scan s = some s.length) : scan (s ++ 10 :: y) = some (s.length + 1) := by
  rw [scan_append s _ _ hq hs, if_pos ⟨rfl, h13, rfl⟩]

theorem scan_lf (y : Bytes) (hq : QuotesLineLocal (10 :: y)) : scan (10 :: y) = some 1 :=
  scan_stable' [10] y 1 hq (Or.inr (Or.inl (by decide))) (by decide)


/-- the text of an undefined header does not include the terminator -/
theorem errText_lf (b : Bytes) (base r : Nat) (h : b[base + r]? = some 10) :
    (((b.drop base).take (r + 1)).reverse.dropWhile (fun b => b == 13 || b == 10)).length =
      (((b.drop base).take r).reverse.dropWhile (fun b => b == 13 || b == 10)).length ∧
    ((b.drop base).take (r + 1)).take (((b.drop base).take r).reverse.dropWhile (fun b => b == 13 || b == 10)).length =
      ((b.drop base).take r).take (((b.drop base).take r).reverse.dropWhile (fun b => b == 13 || b == 10)).length := by
  have e : (b.drop base).take (r + 1) = (b.drop base).take r ++ [10] := by
    rw [List.take_add_one, List.getElem?_drop, h]; rfl
  rw [e, List.reverse_append]
  have hl := (List.dropWhile_suffix (l := ((b.drop base).take r).reverse) (fun b => b == 13 || b == 10)).length_le
  rw [List.length_reverse] at hl
  refine ⟨by simp, ?_⟩
  rw [List.take_append_of_le_length hl]

/-- the extent `r` of a unit is used only in the text of an undefined header, from which trailing terminator bytes are cut -/
theorem unitCmd_lf (c : Ctx) (base r dptr dlen : Nat) (cur : Nat × Nat) (res : Bool) (h : c.buf[base + r]? = some 10) :
    Isolation.unitCmd c base (r + 1) dptr dlen cur res = Isolation.unitCmd c base r dptr dlen cur res := by
  unfold Isolation.unitCmd
  split
  · rfl
  · obtain ⟨e1, e2⟩ := errText_lf c.buf base r h
    simp only []
    rw [e1, e2]

theorem stepCore_lf (c : Ctx) (base : Nat) (prev : Option (Nat × Nat)) (res : Bool) (u : Parser.Unit)
    (hprev : ∀ pp pl, prev = some (pp, pl) → pp + pl ≤ base) (hin : u.header.ptr ≤ u.consumed)
    (hlf : c.buf[base + u.consumed]? = some 10) :
    stepCore c base prev res (grow u 1) = stepCore c base prev res u := by
  rw [Stage.stepCore_eq, Stage.stepCore_eq]
  dsimp only [grow]
  by_cases hlen : u.header.len > 0
  · -- the composition of the header leaves the buffer from the header on as it is
    have k2 := (Bounds.compose_inv c.buf prev (base + u.header.ptr, u.header.len.toNat) 0
      (by simp only; omega) (Nat.zero_le _) (by intro pp pl h; have := hprev pp pl h; simp only; omega)).2.1.2.2
    have hb : (Match.composeCompound c.buf prev (base + u.header.ptr, u.header.len.toNat)).1[base + u.consumed]? =
        some 10 := by
      have := congrArg (fun l => l[u.consumed - u.header.ptr]?) k2
      simp only [List.getElem?_drop] at this
      rw [show base + u.header.ptr + (u.consumed - u.header.ptr) = base + u.consumed by omega] at this
      exact this.trans hlf
    rw [unitCmd_lf _ base u.consumed _ _ _ res hb]
    rfl
  · simp only [hlen, if_false]

/-- the unit loop on the window `W ++ [LF]` and on the window `W`, when `W` ends in CR and is what the scan of
`SCPI_Input` cuts out as one message: the same units, the last of them one byte longer.  Both loops have come `tot`
bytes into `W`, which is at `base` in the buffer, and have `rem` bytes of `W` before them. -/
theorem parseLoop_crlf (W : Bytes) (hq : QuotesLineLocal (W ++ [10])) (hcr : W.getLast? = some 13) :
    ∀ (g fuel1 fuel2 : Nat) (c : Ctx) (base tot rem : Nat) (prev : Option (Nat × Nat)) (res : Bool) (g' : Nat),
    tot + rem = W.length → (c.buf.drop base).take (rem + 1) = W.drop tot ++ [10] → base + rem + 1 ≤ c.buf.length →
    scanFrom g W tot = some (W.length, g') → c.oob = false → (∀ pp pl, prev = some (pp, pl) → pp + pl ≤ base) →
    rem + 1 ≤ fuel2 → rem + 2 ≤ fuel1 →
    parseLoop fuel1 c base (rem + 1) prev res = parseLoop fuel2 c base rem prev res := by
  intro g
  induction g with
  | zero => intro fuel1 fuel2 c base tot rem prev res g' _ _ _ h; cases h
  | succ g ih =>
    intro fuel1 fuel2 c base tot rem prev res g' hrem hws hin hs hoob hprev hf2 hf1
    obtain ⟨fuel1, rfl⟩ : ∃ n, fuel1 = n + 1 := ⟨fuel1 - 1, by omega⟩
    obtain ⟨fuel2, rfl⟩ : ∃ n, fuel2 = n + 1 := ⟨fuel2 - 1, by omega⟩
    have hl : (W.drop tot).length = rem := by rw [List.length_drop]; omega
    have hw : (c.buf.drop base).take rem = W.drop tot := by
      have := congrArg (List.take rem) hws
      rwa [List.take_take, Nat.min_eq_left (Nat.le_succ _), List.take_left' hl] at this
    have key := scanFrom_detect W [10] hq hs
    have hptr := detect_ptr_le (W.drop tot)
    obtain ⟨hpos, -⟩ := detect_drop W tot (scanFrom_some _ _ _ _ _ hs).1
    obtain ⟨⟨f1, -, f3⟩, ⟨-, -, o1⟩, o5⟩ := Bounds.stepCore_frame 0 (base + (detectUnit (W.drop tot)).consumed) c base prev
      res (detectUnit (W.drop tot)) (Nat.zero_le _) (Lemmas.Lexer.detect_header_inside _) (fun _ _ => by omega)
      (by intro pp pl h; exact ⟨Nat.zero_le _, hprev pp pl h⟩)
    rw [Stage.parseLoop_succ, Stage.parseLoop_succ, hws, hw]
    rcases scanFrom_cases hs with ⟨-, hk, -⟩ | ⟨-, -, hlt, h'⟩
    · -- the last unit: its terminator is the CR at the end of the window, the line feed extends it
      have hlf : c.buf[base + (detectUnit (W.drop tot)).consumed]? = some 10 := by
        have := congrArg (fun l => l[rem]?) hws
        simp only [List.getElem?_take, Nat.lt_succ_self, if_true, List.getElem?_drop] at this
        rw [show (detectUnit (W.drop tot)).consumed = rem by omega, this, List.getElem?_append_right (Nat.le_of_eq hl),
          hl, Nat.sub_self]
        rfl
      rw [if_pos ⟨hk.symm, hcr, rfl⟩] at key
      rw [key, stepCore_lf c base prev res _ hprev hptr hlf, grow_consumed, if_neg (by omega), if_neg (by omega)]
    · -- a unit before the last is the same unit in both windows, and both loops go on behind it
      rw [if_neg (fun h => by omega), grow_zero] at key
      rw [key, if_pos (by omega), if_pos (by omega)]
      generalize stepCore c base prev res (detectUnit (W.drop tot)) = x at f1 f3 o1 o5 ⊢
      generalize (detectUnit (W.drop tot)).consumed = r at h' hlt hpos o5 f3 ⊢
      obtain ⟨m, rfl⟩ : ∃ m, rem = r + m := ⟨rem - r, by omega⟩
      rw [Nat.add_assoc, Nat.add_sub_cancel_left, Nat.add_sub_cancel_left]
      have hws' : (x.1.buf.drop (base + r)).take (m + 1) = W.drop (tot + r) ++ [10] := by
        rw [f3, ← List.drop_drop, ← Nat.add_sub_cancel_left (n := r) (m := m + 1), ← List.drop_take, ← Nat.add_assoc, hws,
          List.drop_append_of_le_length (by omega), List.drop_drop]
      exact ih fuel1 fuel2 x.1 (base + r) (tot + r) m x.2.1 x.2.2 g' (by omega) hws' (by omega) h' (o1.trans hoob)
        (fun pp pl h => (o5 pp pl h).2) (by omega) (by omega)

end ScpiVerif.Lemmas.Chunking
