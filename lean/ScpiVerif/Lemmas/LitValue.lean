/-
`Spec.Float.litValue` cut into stages: sign, fraction, exponent, and what is made of the three (`litValue_eq` holds by
`rfl`).  Shared by the reader side (Lemmas/Numeric.lean: every decimal literal has a value) and the writer side
(Lemmas/Dtostre.lean: the value of the text SCPI_dtostre assembles).  What holds of a stage by itself is stated here, in
the namespace `Numeric` of its user; what relates a stage to `Strto.sgn` and to the lexer's exponent stands in
Lemmas/Numeric.lean.
-/
import ScpiVerif.Spec.Float
import ScpiVerif.Lemmas.ByteScan

namespace ScpiVerif.Lemmas.LitValue
open ScpiVerif.Lexer (Bytes isDigit isWs)

def lvSign (s : Bytes) : Bool × Bytes := match s with | 45 :: r => (true, r) | 43 :: r => (false, r) | _ => (false, s)
def lvFrac (s : Bytes) : Bytes × Bytes :=
  match s with | 46 :: r => (r.takeWhile isDigit, r.drop (r.takeWhile isDigit).length) | _ => ([], s)
def lvExp (s : Bytes) : Int × Bytes :=
  let s' := s.dropWhile isWs
  match s' with
  | c :: r =>
    if c == 101 ∨ c == 69 then
      let r := r.dropWhile isWs
      let (eneg, r) := lvSign r
      let ds := r.takeWhile isDigit
      if ds.isEmpty then (0, s) else
        let v : Int := ds.foldl (fun a b => a * 10 + (b.toNat - 48)) 0
        (if eneg then -v else v, r.drop ds.length)
    else (0, s)
  | [] => (0, s)
def lvFin (neg : Bool) (ip fp : Bytes) (ex : Int) : Option (Bool × Nat × Nat) :=
  let mant := (ip ++ fp).foldl (fun a b => a * 10 + (b.toNat - 48)) 0
  let e10 : Int := ex - fp.length
  let e10 : Int := if e10 > 400 + 1100 then 1500 else if e10 < -1500 - (ip.length + fp.length : Nat) then -1500 - (ip.length + fp.length : Nat) else e10
  if e10 ≥ 0 then some (neg, mant * 10^e10.toNat, 1) else some (neg, mant, 10^(-e10).toNat)

/-- behind sign, integer part `ip` and fraction `fp`: the exponent in `s`, nothing after it -/
def lvTail (neg : Bool) (ip fp s : Bytes) : Option (Bool × Nat × Nat) :=
  if ip.isEmpty ∧ fp.isEmpty then none else
  if !(lvExp s).2.isEmpty then none else
  lvFin neg ip fp (lvExp s).1

def lv (s : Bytes) : Option (Bool × Nat × Nat) :=
  let ip := (lvSign s).2.takeWhile isDigit
  let s2 := (lvSign s).2.drop ip.length
  lvTail (lvSign s).1 ip (lvFrac s2).1 (lvFrac s2).2

theorem litValue_eq (s : Bytes) : Spec.Float.litValue s = lv s := rfl

end ScpiVerif.Lemmas.LitValue

namespace ScpiVerif.Lemmas.Numeric
open ScpiVerif ScpiVerif.Lexer ScpiVerif.Lemmas.Lexer ScpiVerif.Lemmas.LitValue

theorem ite_isSome {α : Type} (c : Prop) [Decidable c] (a b : α) : (if c then some a else some b).isSome = true := by
  split <;> rfl

theorem lvFin_isSome (neg : Bool) (ip fp : Bytes) (ex : Int) : (lvFin neg ip fp ex).isSome = true := by
  unfold lvFin
  exact ite_isSome _ _ _

theorem lvSign_digit {s : Bytes} (h : hd s isDigit = true) : lvSign s = (false, s) := by
  unfold lvSign
  split
  · cases h
  · cases h
  · rfl

theorem lvFrac_eq (s : Bytes) : lvFrac s =
    if hd s (· == 46) = true then ((s.drop 1).takeWhile isDigit, s.drop (1 + tw isDigit (s.drop 1))) else ([], s) := by
  unfold lvFrac
  split
  · simp [tw, Nat.add_comm]
  · rename_i h
    cases s with
    | nil => rfl
    | cons b r =>
      have : b ≠ 46 := fun hb => h r (by rw [hb])
      simp [this]

end ScpiVerif.Lemmas.Numeric
