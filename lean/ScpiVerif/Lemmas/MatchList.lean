/-
List level of the C03 proof (pattern matcher = pattern language): how a parsed pattern is written
(`keyText`, `item`, `renderRest`), when a mnemonic spells a keyword (`Spells`), and the walker
`greedy` that `matchCommand` follows on the keywords and the mnemonics of a header.  Under the side
condition `wellFormed` the walker finds the one reading the specification allows.
-/
import ScpiVerif.Model.Match
import ScpiVerif.Spec.Pattern
import ScpiVerif.Lemmas.ByteClass

namespace ScpiVerif.Lemmas.Match
open ScpiVerif ScpiVerif.Match ScpiVerif.Spec.Pattern
open ScpiVerif.Lexer (Bytes isDigit isLower isUpper isAlpha)

/-- the header alphabet of the lexer: letters, digits, '_', ':', '?', '*' -/
def hdrAlpha (b : UInt8) : Bool := isKwChar b || b == 58 || b == 63 || b == 42

def consNum (k : Kw) (n : Option Nat) (sol : List (Option Nat)) : List (Option Nat) :=
  if k.numeric then n :: sol else sol

/-- the list-level walker: take the keyword if the mnemonic spells it, else skip it if optional -/
def greedy : List Kw → List Bytes → Option (List (Option Nat))
  | [], [] => some []
  | [], _ :: _ => none
  | k :: ks, [] => if k.optional then (greedy ks []).map (consNum k none) else none
  | k :: ks, m :: ms =>
    match kwMatch k m with
    | some n => (greedy ks ms).map (consNum k n)
    | none => if k.optional then (greedy ks (m :: ms)).map (consNum k none) else none

def keyText (k : Kw) : Bytes := k.long ++ (if k.numeric then [35] else [])

/-- ':'KEY or '[:'KEY']' -/
def item (k : Kw) : Bytes := if k.optional then [91, 58] ++ keyText k ++ [93] else 58 :: keyText k

def renderRest : List Kw → Bytes
  | [] => []
  | k :: ks => item k ++ renderRest ks

theorem renderRest_length (ks : List Kw) : ks.length ≤ (renderRest ks).length := by
  induction ks with
  | nil => simp [renderRest]
  | cons k ks ih => cases hopt : k.optional <;> simp [renderRest, item, hopt] <;> omega

theorem renderRest_eq_nil (ks : List Kw) (h : renderRest ks = []) : ks = [] := by
  cases ks with
  | nil => rfl
  | cons k ks => cases hopt : k.optional <;> simp [renderRest, item, hopt] at h

def qtail (q : Bool) : Bytes := if q then [63] else []

/-- the header text after its first mnemonic: ':' m for every further mnemonic -/
def hdrRest : List Bytes → Bytes
  | [] => []
  | m :: ms => 58 :: m ++ hdrRest ms

theorem hdrRest_cons (m : Bytes) (ms : List Bytes) : hdrRest (m :: ms) = 58 :: (m ++ hdrRest ms) := rfl

/-- what `parseKey` guarantees -/
structure KwOK (k : Kw) : Prop where
  ne : k.long ≠ []
  chars : k.long.all isKwChar = true
  upper : isUpper (k.long.headD 0) = true
  short_eq : k.short = k.long.takeWhile (fun b => !isLower b)

/-- the bytes of a pattern's keywords: keyword characters, and the '*' of a common mnemonic -/
def patChar (b : UInt8) : Bool := isKwChar b || b == 42

/-- the weaker facts the walker proof needs (also true of the `*NAME` keyword of a common
pattern written without lower-case letters) -/
structure KwW (k : Kw) : Prop where
  ne : k.long ≠ []
  chars : k.long.all patChar = true
  short_eq : k.short = k.long.takeWhile (fun b => !isLower b)

theorem KwOK.toW {k : Kw} (h : KwOK k) : KwW k :=
  ⟨h.ne, List.all_eq_true.2 fun b hb => by simp [patChar, List.all_eq_true.1 h.chars b hb], h.short_eq⟩

theorem KwW.short_mem {k : Kw} (hk : KwW k) : ∀ c ∈ k.short, c ∈ k.long := by
  intro c hc; rw [hk.short_eq] at hc
  exact (List.takeWhile_sublist _).subset hc

/-- numbers[] bookkeeping: write `ws` from index `idx` on (writes beyond the array are dropped) -/
def fill (nums : List Int) (idx : Nat) : List Int → List Int
  | [] => nums
  | w :: ws => fill (nums.set idx w) (idx + 1) ws

theorem fill_nil (idx : Nat) (ws : List Int) : fill [] idx ws = [] := by
  induction ws generalizing idx with
  | nil => rfl
  | cons w ws ih => simp [fill, ih]

theorem fill_cons_succ (a : Int) (nums : List Int) (idx : Nat) (ws : List Int) :
    fill (a :: nums) (idx + 1) ws = a :: fill nums idx ws := by
  induction ws generalizing nums idx with
  | nil => rfl
  | cons w ws ih => simp [fill, ih]

theorem fill_zero (nums : List Int) (ws : List Int) :
    fill nums 0 ws = ws.take nums.length ++ nums.drop ws.length := by
  induction ws generalizing nums with
  | nil => simp [fill]
  | cons w ws ih =>
    cases nums with
    | nil => simp [fill, fill_nil]
    | cons a t => simp [fill, fill_cons_succ, ih]

/-- the values a reading puts into numbers[] -/
def want (sol : List (Option Nat)) (dflt : Int) : List Int :=
  sol.map (fun o => match o with | some v => (v : Int) | none => dflt)

theorem lower_cases (x : UInt8) : lower x = x ∨ (isUpper x = true ∧ isLower (lower x) = true) := by
  by_cases h : isUpper x = true
  · right
    simp only [lower, h, if_true, true_and]
    simp only [byte_nat, UInt8.reduceToNat] at h ⊢
    omega
  · simp [lower, h]

theorem isDigit_of_isAlpha (x : UInt8) (h : isAlpha x = true) : isDigit x = false :=
  Bool.eq_false_iff.2 fun hd => by rw [(ByteClass.digit_excl x hd).alpha] at h; cases h

theorem isDigit_lower (x : UInt8) : isDigit (lower x) = isDigit x := by
  rcases lower_cases x with h | ⟨h1, h2⟩
  · rw [h]
  · rw [isDigit_of_isAlpha x (by simp [isAlpha, h1]), isDigit_of_isAlpha _ (by simp [isAlpha, h2])]

theorem isKwChar_lower (x : UInt8) : isKwChar (lower x) = isKwChar x := by
  rcases lower_cases x with h | ⟨h1, h2⟩
  · rw [h]
  · simp [isKwChar, isAlpha, h1, h2]

theorem patChar_lower (x : UInt8) : patChar (lower x) = patChar x := by
  rcases lower_cases x with h | ⟨h1, h2⟩
  · rw [h]
  · simp [patChar, isKwChar, isAlpha, h1, h2]

theorem all_map_lower (P : UInt8 → Bool) (hP : ∀ x, P (lower x) = P x) (l : Bytes) :
    (l.map lower).all P = l.all P := by
  induction l with
  | nil => rfl
  | cons a l ih => simp only [List.map_cons, List.all_cons, hP, ih]

theorem ciEq_iff (a b : Bytes) : ciEq a b = true ↔ a.map lower = b.map lower := by
  simp [ciEq]

/-- one form of `kwMatch` -/
def tryForm (numeric : Bool) (m form : Bytes) : Option (Option Nat) :=
  if ciEq m form then some none
  else if numeric ∧ m.length > form.length ∧ ciEq (m.take form.length) form ∧ (m.drop form.length).all isDigit
  then some (some (natOfDigits (m.drop form.length)))
  else none

theorem kwMatch_eq (k : Kw) (m : Bytes) :
    kwMatch k m = match tryForm k.numeric m k.long with
      | some r => some r
      | none => tryForm k.numeric m k.short := rfl

theorem tryForm_false (m form : Bytes) :
    tryForm false m form = if ciEq m form then some none else none := by simp [tryForm]

def Spells (num : Bool) (form m : Bytes) : Prop :=
  ∃ d : Bytes, m.map lower = form.map lower ++ d ∧ d.all isDigit = true ∧ (d ≠ [] → num = true)

theorem spells_of_tryForm (num : Bool) (form m : Bytes) (r : Option Nat)
    (h : tryForm num m form = some r) : Spells num form m := by
  unfold tryForm at h
  split at h
  · rename_i hc
    exact ⟨[], by simpa [ciEq_iff] using hc, rfl, fun h => absurd rfl h⟩
  · split at h
    · rename_i hc
      obtain ⟨hn, _, hc, hd⟩ := hc
      refine ⟨(m.drop form.length).map lower, ?_, ?_, fun _ => hn⟩
      · rw [ciEq_iff] at hc
        rw [← hc, ← List.map_append, List.take_append_drop]
      · rw [all_map_lower _ isDigit_lower]; exact hd
    · cases h

theorem spells_of_kwMatch (k : Kw) (m : Bytes) (r : Option Nat) (h : kwMatch k m = some r) :
    Spells k.numeric k.long m ∨ Spells k.numeric k.short m := by
  rw [kwMatch_eq] at h
  split at h
  · rename_i r' hr
    exact Or.inl (spells_of_tryForm _ _ _ _ hr)
  · exact Or.inr (spells_of_tryForm _ _ _ _ h)

theorem kwMatch_all (P : UInt8 → Bool) (hP : ∀ x, P (lower x) = P x) (hd : ∀ x, isDigit x = true → P x = true)
    (k : Kw) (m : Bytes) (r : Option Nat) (hl : k.long.all P = true) (hs : k.short.all P = true)
    (h : kwMatch k m = some r) : m.all P = true := by
  have key : ∀ form : Bytes, form.all P = true → Spells k.numeric form m → m.all P = true := by
    intro form hf ⟨d, hm, hdd, _⟩
    rw [← all_map_lower P hP, hm, List.all_append, all_map_lower P hP, hf, Bool.true_and, List.all_eq_true]
    exact fun x hx => hd x (List.all_eq_true.1 hdd x hx)
  rcases spells_of_kwMatch k m r h with h | h
  · exact key _ hl h
  · exact key _ hs h

theorem kwMatch_none_of_byte (P : UInt8 → Bool) (hP : ∀ x, P (lower x) = P x)
    (hd : ∀ x, isDigit x = true → P x = true) {k : Kw} (hl : k.long.all P = true) (hs : k.short.all P = true)
    (m : Bytes) (b : UInt8) (hb : b ∈ m) (hnp : P b = false) : kwMatch k m = none := by
  cases hx : kwMatch k m with
  | none => rfl
  | some r => rw [List.all_eq_true.1 (kwMatch_all P hP hd k m r hl hs hx) b hb] at hnp; cases hnp

theorem KwW.no_byte {k : Kw} (hk : KwW k) (m : Bytes) (b : UInt8) (hb : b ∈ m) (hnp : patChar b = false) :
    kwMatch k m = none :=
  kwMatch_none_of_byte patChar patChar_lower (fun x hx => by simp [patChar, isKwChar, hx]) hk.chars
    (List.all_eq_true.2 fun c hc => List.all_eq_true.1 hk.chars c (hk.short_mem c hc)) m b hb hnp

theorem KwOK.no_byte {k : Kw} (hk : KwOK k) (m : Bytes) (b : UInt8) (hb : b ∈ m) (hnp : isKwChar b = false) :
    kwMatch k m = none :=
  kwMatch_none_of_byte isKwChar isKwChar_lower (fun x hx => by simp [isKwChar, hx]) hk.chars
    (List.all_eq_true.2 fun c hc => List.all_eq_true.1 hk.chars c (hk.toW.short_mem c hc)) m b hb hnp

theorem confusable_half (na : Bool) (fa fb c : Bytes)
    (hB : fb.map lower = fa.map lower ++ c) (hc : c.all isDigit = true)
    (hna : c ≠ [] → na = true) :
    ciEq fa fb = true ∨ (na = true ∧ fb.length > fa.length ∧
      ciEq (fb.take fa.length) fa = true ∧ (fb.drop fa.length).all isDigit = true) := by
  by_cases hce : c = []
  · subst hce
    left
    rw [ciEq_iff]
    simpa using hB.symm
  · right
    have hlen : fb.length = fa.length + c.length := by
      have := congrArg List.length hB
      simpa using this
    have hcl : 0 < c.length := List.length_pos_iff.mpr hce
    have hfa : fa.length = (fa.map lower).length := by simp
    refine ⟨hna hce, by omega, ?_, ?_⟩
    · rw [ciEq_iff, List.map_take, hB, hfa, List.take_left]
    · rw [← all_map_lower _ isDigit_lower, List.map_drop, hB, hfa, List.drop_left]
      exact hc

theorem confusable_inner (na nb : Bool) (fa fb m : Bytes)
    (ha : Spells na fa m) (hb : Spells nb fb m) :
    (ciEq fa fb ||
      (na && decide (fb.length > fa.length) && ciEq (fb.take fa.length) fa &&
        (fb.drop fa.length).all isDigit) ||
      (nb && decide (fa.length > fb.length) && ciEq (fa.take fb.length) fb &&
        (fa.drop fb.length).all isDigit)) = true := by
  obtain ⟨da, hma, hda, hna⟩ := ha
  obtain ⟨db, hmb, hdb, hnb⟩ := hb
  have heq : fa.map lower ++ da = fb.map lower ++ db := hma.symm.trans hmb
  rcases List.append_eq_append_iff.mp heq with ⟨c, hB, hd⟩ | ⟨c, hA, hd⟩
  · have hc : c.all isDigit = true := by
      rw [hd, List.all_append, Bool.and_eq_true] at hda; exact hda.1
    have hn : c ≠ [] → na = true := fun h => hna (by rw [hd]; simp [h])
    rcases confusable_half na fa fb c hB hc hn with h | ⟨h1, h2, h3, h4⟩
    · simp [h]
    · simp [h1, h2, h3, h4]
  · have hc : c.all isDigit = true := by
      rw [hd, List.all_append, Bool.and_eq_true] at hdb; exact hdb.1
    have hn : c ≠ [] → nb = true := fun h => hnb (by rw [hd]; simp [h])
    rcases confusable_half nb fb fa c hA hc hn with h | ⟨h1, h2, h3, h4⟩
    · have : ciEq fa fb = true := by rw [ciEq_iff] at h ⊢; exact h.symm
      simp [this]
    · simp [h1, h2, h3, h4]

theorem confusable_of_kwMatch (a b : Kw) (m : Bytes) (x y : Option Nat)
    (ha : kwMatch a m = some x) (hb : kwMatch b m = some y) : confusable a b = true := by
  have hsa := spells_of_kwMatch a m x ha
  have hsb := spells_of_kwMatch b m y hb
  unfold confusable
  simp only [List.any_cons, List.any_nil, Bool.or_false]
  rcases hsa with hsa | hsa <;> rcases hsb with hsb | hsb
  all_goals
    have := confusable_inner _ _ _ _ _ hsa hsb
    simp only [this, Bool.or_true, Bool.true_or]

theorem solutions_cons_nil (k : Kw) (ks : List Kw) :
    solutions (k :: ks) [] =
      if k.optional then (solutions ks []).map (consNum k none) else [] := by
  rw [solutions]; rfl

theorem solutions_cons_cons (k : Kw) (ks : List Kw) (m : Bytes) (ms : List Bytes) :
    solutions (k :: ks) (m :: ms) =
      (match kwMatch k m with
        | some n => (solutions ks ms).map (consNum k n)
        | none => []) ++
      (if k.optional then (solutions ks (m :: ms)).map (consNum k none) else []) := by
  rw [solutions]; rfl

theorem follower_of_solutions (ks : List Kw) (m : Bytes) (ms : List Bytes)
    (h : solutions ks (m :: ms) ≠ []) : ∃ f ∈ followers ks, (kwMatch f m).isSome = true := by
  induction ks with
  | nil => exact absurd (by rw [solutions]) h
  | cons k ks ih =>
    rw [solutions_cons_cons] at h
    cases hk : kwMatch k m with
    | some n =>
      refine ⟨k, ?_, by simp [hk]⟩
      rw [followers]; split <;> simp
    | none =>
      rw [hk] at h
      by_cases ho : k.optional = true
      · simp only [ho, if_true, List.nil_append] at h
        have h' : solutions ks (m :: ms) ≠ [] := fun e => h (by rw [e]; rfl)
        obtain ⟨f, hf, hm⟩ := ih h'
        exact ⟨f, by rw [followers, if_pos ho]; exact List.mem_cons_of_mem _ hf, hm⟩
      · simp [ho] at h

theorem solutions_skip_nil (k : Kw) (ks : List Kw) (m : Bytes) (ms : List Bytes) (n : Option Nat)
    (ho : k.optional = true) (hk : kwMatch k m = some n)
    (hwf : wellFormed (k :: ks) = true) : solutions ks (m :: ms) = [] := by
  apply Classical.byContradiction
  intro hne
  obtain ⟨f, hf, hm⟩ := follower_of_solutions ks m ms hne
  obtain ⟨y, hy⟩ := Option.isSome_iff_exists.mp hm
  have hc := confusable_of_kwMatch k f m n y hk hy
  rw [wellFormed] at hwf
  simp only [ho, Bool.not_true, Bool.false_or, Bool.and_eq_true, List.all_eq_true] at hwf
  have := hwf.1 f hf
  simp [hc] at this

/-- under the side condition, the spec's list of readings is what the greedy walker finds -/
theorem greedy_eq_spec (kws : List Kw) (hwf : wellFormed kws = true) (ms : List Bytes) :
    solutions kws ms = (greedy kws ms).toList := by
  have tl : ∀ {k ks}, wellFormed (k :: ks) = true → wellFormed ks = true := fun h => by
    rw [wellFormed, Bool.and_eq_true] at h; exact h.2
  fun_induction greedy kws ms with
  | case1 => rw [solutions]; rfl
  | case2 => rw [solutions]; rfl
  | case3 k ks ho ih => rw [solutions_cons_nil, if_pos ho, Option.toList_map, ih (tl hwf)]
  | case4 k ks ho => rw [solutions_cons_nil, if_neg ho]; rfl
  | case5 k ks m ms n hk ih =>
    -- the keyword is taken: skipping it (if it is optional) leads nowhere, as no follower can spell `m` too
    rw [solutions_cons_cons, hk, Option.toList_map, ih (tl hwf)]
    by_cases ho : k.optional = true
    · rw [if_pos ho, solutions_skip_nil k ks m ms n ho hk hwf]; simp
    · rw [if_neg ho]; simp
  | case6 k ks m ms hk ho ih => rw [solutions_cons_cons, hk, if_pos ho, Option.toList_map, ih (tl hwf)]; rfl
  | case7 k ks m ms hk ho => rw [solutions_cons_cons, hk, if_neg ho]; rfl

theorem reading_unique (p : Pat) (hwf : wellFormed p.kws = true) (hdr : Bytes) :
    (accepts p hdr).length ≤ 1 := by
  have hsol : ∀ ms, (solutions p.kws ms).length ≤ 1 := by
    intro ms; rw [greedy_eq_spec _ hwf ms]
    cases greedy p.kws ms <;> simp
  unfold accepts
  generalize (if hdr.getLast? == some 63 then (hdr.dropLast, true) else (hdr, false)) = bq
  obtain ⟨body, q⟩ := bq
  simp only []
  generalize (if body.head? == some 58 then body.drop 1 else body) = body'
  by_cases h1 : (q != p.query) = true
  · rw [if_pos h1]; simp
  · rw [if_neg h1]
    by_cases h2 : p.common = true
    · rw [if_pos h2]
      split
      · split <;> simp
      · simp
    · rw [if_neg h2]
      by_cases h3 : body'.isEmpty = true
      · rw [if_pos h3]; simp
      · rw [if_neg h3]; exact hsol _

/-- a mnemonic that no keyword can spell kills the walk (all mnemonics must be consumed) -/
theorem greedy_none_of_unmatchable (kws : List Kw) (ms : List Bytes) (m : Bytes) (hm : m ∈ ms)
    (hbad : ∀ k ∈ kws, kwMatch k m = none) : greedy kws ms = none := by
  fun_induction greedy kws ms with
  | case1 | case3 => cases hm
  | case2 | case4 | case7 => rfl
  | case5 k ks m' ms' n hk ih =>
    -- `k` spells `m'`, so `m` is another mnemonic
    have hm' : m ∈ ms' := (List.mem_cons.1 hm).resolve_left fun e => by
      rw [← e, hbad k List.mem_cons_self] at hk; cases hk
    rw [ih hm' fun k' hk' => hbad k' (List.mem_cons_of_mem _ hk')]; rfl
  | case6 k ks m' ms' hk ho ih => rw [ih hm fun k' hk' => hbad k' (List.mem_cons_of_mem _ hk')]; rfl

end ScpiVerif.Lemmas.Match
