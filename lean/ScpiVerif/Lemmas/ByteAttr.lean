import Lean.Meta.Tactic.Simp.RegisterCommand
/-
Declares the simp set `byte_nat`; Lemmas/ByteClass.lean fills it: the byte classes of the lexer and of the C library, and the
lemmas that turn comparisons between bytes into comparisons between their `toNat`s, so that a fact about classes becomes
linear arithmetic (`omega`).  (A simp attribute has to be declared in a module other than the one that uses it.)
-/
/-- byte classes and comparisons of bytes as inequalities between `toNat`s -/
register_simp_attr byte_nat
