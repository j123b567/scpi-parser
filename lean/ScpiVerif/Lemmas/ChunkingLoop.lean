/-
C08: the loop of `SCPI_Input` as "scan the pending bytes for the first complete message, parse it, move the remainder
to the front, start again" (`drain`), and a call of `SCPI_Input` with a non-empty chunk that fits as "store the chunk,
drain, record the return value" (`input_eq`); `msg_ind` is the induction over the complete messages of the pending
bytes that every statement about `drain` uses.  Also here: `SCPI_Parse` only ever appends to the event log
(`grows_loop`), and what a zero-length call does (`flush_executes_pending`).
-/
import ScpiVerif.Lemmas.ChunkingDefs
import ScpiVerif.Lemmas.Bounds
import ScpiVerif.Lemmas.Params

namespace ScpiVerif.Lemmas.Chunking
open ScpiVerif ScpiVerif.Ctx ScpiVerif.Lexer ScpiVerif.Props.C08

theorem Pers.upd {c1 c2 : Ctx} (h : Pers c1 c2) (b1 : Bytes) (p1 : Nat) (e1 : List Ev) (b2 : Bytes) (p2 : Nat) (e2 : List Ev) :
    Pers { c1 with buf := b1, position := p1, events := e1 } { c2 with buf := b2, position := p2, events := e2 } :=
  pers_iff.2 (pers_iff.1 h :)

theorem Pers.refl (c : Ctx) : Pers c c := pers_iff.2 rfl

theorem Pers.symm {c1 c2 : Ctx} (h : Pers c1 c2) : Pers c2 c1 := pers_iff.2 (pers_iff.1 h).symm

theorem Pers.trans {c1 c2 c3 : Ctx} (h1 : Pers c1 c2) (h2 : Pers c2 c3) : Pers c1 c3 :=
  pers_iff.2 ((pers_iff.1 h2).trans (pers_iff.1 h1))

theorem Pers.oob {c1 c2 : Ctx} (h : Pers c1 c2) : c2.oob = c1.oob := by
  have := congrArg Ctx.oob h; exact this
theorem Pers.bufLen {c1 c2 : Ctx} (h : Pers c1 c2) : c2.bufLen = c1.bufLen := by
  have := congrArg Ctx.bufLen h; exact this

theorem wf_pos_le {c : Ctx} (h : WF c) : c.position ≤ c.buf.length := by
  obtain ⟨a, b, _⟩ := h; omega

theorem content_length {c : Ctx} (h : WF c) : (content c).length = c.position := by
  have := wf_pos_le h
  unfold content; rw [List.length_take]; omega

theorem content_take (c : Ctx) (k : Nat) (hk : k ≤ c.position) : (content c).take k = c.buf.take k := by
  unfold content
  rw [List.take_take, Nat.min_eq_left hk]

theorem step_content (c : Ctx) (k : Nat) (h : WF c) (hk : k ≤ c.position) :
    WF (step c k) ∧ content (step c k) = (content c).drop k ∧ (step c k).position = c.position - k ∧
    (step c k).bufLen = c.bufLen := by
  refine ⟨Bounds.step_wf c k h hk, ?_⟩
  obtain ⟨w1, w2, w3⟩ := h
  obtain ⟨p1, p2, p3, p4⟩ := Bounds.parse_frame c 0 k (by omega)
  unfold step content
  generalize parse c 0 k = x at p1 p2 p3 p4 ⊢
  obtain ⟨d, r⟩ := x
  simp only at p1 p2 p3 p4 ⊢
  obtain ⟨q1, _, q3⟩ := p2
  rw [Nat.zero_add] at q3
  have hrest : (d.buf.drop k).take (d.position - k) = (c.buf.take c.position).drop k := by
    rw [q3, p4, List.drop_take]
  have hrl : ((d.buf.drop k).take (d.position - k)).length = c.position - k := by
    rw [hrest, List.length_drop, List.length_take]; omega
  refine ⟨?_, ?_, p3⟩
  · rw [p4] at hrest hrl ⊢
    rw [Bounds.poke_eq _ _ _ (by rw [hrl, q1]; omega), List.take_zero, List.nil_append]
    rw [List.take_append_of_le_length (by rw [hrl]; exact Nat.le_refl _)]
    rw [List.take_of_length_le (by rw [hrl]; exact Nat.le_refl _)]
    exact hrest
  · show d.position - k = c.position - k
    rw [p4]

theorem store_content (c : Ctx) (y : Bytes) (h : WF c) (hf : c.position + y.length + 1 ≤ c.bufLen) :
    WF (store c y) ∧ content (store c y) = content c ++ y ∧ (store c y).position = c.position + y.length := by
  refine ⟨Bounds.store_wf c y h hf, ?_, rfl⟩
  obtain ⟨w1, w2, w3⟩ := h
  unfold store content
  show (((poke c.buf c.position y).set (c.position + y.length) 0).take (c.position + y.length)) = _
  exact Bounds.poke_take _ _ _ (by omega)

theorem inputLoop_scan : ∀ (fuel : Nat) (c : Ctx) (tot : Nat) (r : Bool), WF c →
    inputLoop fuel c tot r =
      match scanFrom fuel (content c) tot with
      | none => (c, r)
      | some (k, f) => inputLoop f (step c k) 0 (parse c 0 k).2 := by
  intro fuel
  induction fuel with
  | zero => intro c tot r _; rfl
  | succ fuel ih =>
    intro c tot r hp
    have hw : (c.buf.drop tot).take (c.position - tot) = (content c).drop tot := by
      unfold content; rw [List.drop_take]
    rw [inputLoop_succ, scanFrom_succ, hw, content_length hp]
    split
    · rfl
    · split
      · rfl
      · split
        · rfl
        · exact ih c _ r hp

theorem inputLoop_none {fuel : Nat} {c : Ctx} (r : Bool) (h : WF c) (hf : c.position < fuel)
    (hs : scan (content c) = none) : inputLoop fuel c 0 r = (c, r) := by
  have e := scan_of_scanFrom fuel (content c) (by rw [content_length h]; exact hf)
  rw [hs] at e
  rw [inputLoop_scan fuel c 0 r h]
  cases hf : scanFrom fuel (content c) 0 with
  | none => rfl
  | some p => rw [hf] at e; cases e

theorem inputLoop_some {fuel : Nat} {c : Ctx} {k : Nat} (r : Bool) (h : WF c) (hf : c.position < fuel)
    (hs : scan (content c) = some k) :
    ∃ f, c.position - k < f ∧ inputLoop fuel c 0 r = inputLoop f (step c k) 0 (parse c 0 k).2 := by
  obtain ⟨f, e⟩ := scan_exists fuel (by rw [content_length h]; exact hf) hs
  obtain ⟨_, a2, a3, _⟩ := scanFrom_some _ _ _ _ _ e
  rw [content_length h] at a2
  rw [inputLoop_scan fuel c 0 r h, e]
  exact ⟨f, by omega, rfl⟩

/-- induction over the complete messages among the pending bytes: each is parsed and cut off (`step`) in turn -/
theorem msg_ind {M : Ctx → Prop} (stop : ∀ c, WF c → scan (content c) = none → M c)
    (msg : ∀ c k, WF c → scan (content c) = some k → k ≤ c.position → M (step c k) → M c) : ∀ c, WF c → M c := by
  intro c h
  generalize hn : c.position = n
  induction n using Nat.strongRecOn generalizing c with
  | _ n ih =>
    cases hs : scan (content c) with
    | none => exact stop c h hs
    | some k =>
      obtain ⟨k0, kl⟩ := scan_some hs
      rw [content_length h] at kl
      obtain ⟨w, _, p, _⟩ := step_content c k h kl
      exact msg c k h hs kl (ih _ (by omega) _ w rfl)

theorem inputLoop_fuel : ∀ c, WF c → ∀ (f1 f2 : Nat) (r1 r2 : Bool),
    c.position < f1 → c.position < f2 → (inputLoop f1 c 0 r1).1 = (inputLoop f2 c 0 r2).1 := by
  refine msg_ind ?_ ?_
  · intro c h hs f1 f2 r1 r2 h1 h2
    rw [inputLoop_none r1 h h1 hs, inputLoop_none r2 h h2 hs]
  · intro c k h hs kl ih f1 f2 r1 r2 h1 h2
    obtain ⟨g1, a1, e1⟩ := inputLoop_some r1 h h1 hs
    obtain ⟨g2, a2, e2⟩ := inputLoop_some r2 h h2 hs
    rw [e1, e2]
    exact ih g1 g2 _ _ (by rw [(step_content c k h kl).2.2.1]; exact a1) (by rw [(step_content c k h kl).2.2.1]; exact a2)

/-- the loop of `SCPI_Input` run to the end -/
def drain (c : Ctx) : Ctx := (inputLoop (c.position + 1) c 0 true).1

theorem inputLoop_drain {fuel : Nat} {c : Ctx} (r : Bool) (h : WF c) (hf : c.position < fuel) :
    (inputLoop fuel c 0 r).1 = drain c :=
  inputLoop_fuel c h _ _ _ _ hf (Nat.lt_succ_self _)

theorem drain_none {c : Ctx} (h : WF c) (hs : scan (content c) = none) : drain c = c :=
  congrArg Prod.fst (inputLoop_none true h (Nat.lt_succ_self _) hs)

theorem drain_some {c : Ctx} {k : Nat} (h : WF c) (hs : scan (content c) = some k) : drain c = drain (step c k) := by
  obtain ⟨f, a, e⟩ := inputLoop_some true h (Nat.lt_succ_self _) hs
  obtain ⟨_, kl⟩ := scan_some hs
  rw [content_length h] at kl
  obtain ⟨w, _, p, _⟩ := step_content c k h kl
  exact (congrArg Prod.fst e).trans (inputLoop_drain _ w (by omega))

theorem drain_content : ∀ c, WF c → WF (drain c) ∧ (drain c).bufLen = c.bufLen ∧
    ∃ j, j ≤ (content c).length ∧ content (drain c) = (content c).drop j := by
  refine msg_ind ?_ ?_
  · intro c h hs
    rw [drain_none h hs]; exact ⟨h, rfl, 0, Nat.zero_le _, rfl⟩
  · intro c k h hs kl ⟨i1, i2, j, hj, i3⟩
    have hl := content_length h
    obtain ⟨w, sc, p, b⟩ := step_content c k h kl
    rw [sc, List.length_drop] at hj
    rw [drain_some h hs]
    exact ⟨i1, i2.trans b, k + j, by omega, by rw [i3, sc, List.drop_drop]⟩

theorem emit_position (c : Ctx) (e : Ev) : (emit c e).position = c.position := rfl
theorem emit_bufLen (c : Ctx) (e : Ev) : (emit c e).bufLen = c.bufLen := rfl
theorem content_emit (c : Ctx) (e : Ev) : content (emit c e) = content c := rfl
theorem store_bufLen (c : Ctx) (y : Bytes) : (store c y).bufLen = c.bufLen := rfl

theorem input_eq (c : Ctx) (a : Bytes) (h : WF c) (ha : a ≠ []) (hf : c.position + a.length + 1 ≤ c.bufLen) :
    ∃ r, input c a = emit (drain (store c a)) (.input r) :=
  ⟨_, by rw [input_fits ha (by omega), inputLoop_drain true (store_content c a h hf).1 (by show c.position + a.length < _; omega)]⟩

theorem input_facts (c : Ctx) (a : Bytes) (h : WF c) (ha : a ≠ []) (hf : c.position + a.length + 1 ≤ c.bufLen) :
    (input c a).bufLen = c.bufLen ∧
    ∃ j, j ≤ (content c ++ a).length ∧ content (input c a) = (content c ++ a).drop j := by
  obtain ⟨t1, t2, t3⟩ := store_content c a h hf
  obtain ⟨_, p2, j, hjl, hj⟩ := drain_content (store c a) t1
  obtain ⟨r, e⟩ := input_eq c a h ha hf
  rw [e, emit_bufLen, content_emit, p2, store_bufLen, hj, t2]
  exact ⟨rfl, j, by rw [← t2]; exact hjl, rfl⟩

theorem grows_loop (c0 : Ctx) : Api.LoopInv (fun c => ∃ es, c.events = c0.events ++ es) where
  pushError code info n h := by
    obtain ⟨es, he⟩ := h
    exact ⟨_, by rw [Params.pushError_events, he, List.append_assoc]⟩
  core _ _ h := h
  unit := by
    intro c base dptr dlen cmd cur ⟨es, he⟩
    obtain ⟨es2, he2, -⟩ := (Params.step_closed False (Isolation.pcReset (Isolation.setUnit base dptr dlen cmd cur c))).processCommand
      (c := Isolation.setUnit base dptr dlen cmd cur c) (fun _ _ _ _ _ _ _ h => h.elim) (Params.step_emit _ _ rfl)
    exact ⟨_, he2.trans (by show c.events ++ _ = _; rw [he, List.append_assoc])⟩

theorem parse_events (c : Ctx) (base len : Nat) :
    ∃ es, (parse c base len).1.events = c.events ++ Ev.parseMsg ((c.buf.drop base).take len) :: es := by
  obtain ⟨es, he⟩ := (grows_loop _).parseLoop (len + 2) base len none true
    (c := emit { c with out := ParseLocalAux.outReset c.out } (.parseMsg ((c.buf.drop base).take len))) ⟨[], (List.append_nil _).symm⟩
  rw [ParseLocalAux.parse_eq]
  generalize parseLoop _ _ _ _ _ _ = x at he ⊢
  exact ⟨es, he.trans (by simp [emit])⟩

theorem flush_executes_pending (c : Ctx) (h : WF c) :
    let c' := input c []
    c'.position = 0 ∧
    (c'.events.drop c.events.length).head? = some (Ev.parseMsg (c.buf.take c.position)) ∧
    (∃ r, (c'.events.getLast? = some (Ev.input r))) := by
  have _ := h
  obtain ⟨es, he⟩ := parse_events { c with buf := c.buf.set c.position 0 } 0 c.position
  dsimp only at he
  rw [List.drop_zero, List.take_set_of_le (Nat.le_refl _)] at he
  rw [input_nil]
  refine ⟨rfl, ?_, ?_⟩
  · simp only [emit]
    rw [he]
    simp
  · refine ⟨(parse { c with buf := c.buf.set c.position 0 } 0 c.position).2, ?_⟩
    simp [emit]

end ScpiVerif.Lemmas.Chunking
