/-
Refinement of the hand-written model of UInt32ToStrBaseSign / UInt64ToStrBaseSign (Model/IntFmt.lean) by the Lean text that
translate/c2lean_intfmt.py GENERATES from libscpi/src/utils.c on every run (Gen/IntFmtC.lean).

Both sides are shown equal to the closed form `written (canon ..) len`, so the tie does not depend on the fuel conventions
of the hand model.  The generated text is looked at in three places per width only: `step1_W`, `step2_W` (one iteration of
each loop) and `genW_written` (the straight-line code around the loops); everything else is about arbitrary step functions.
-/
import ScpiVerif.Gen.Tables
import ScpiVerif.Gen.IntFmtC
import ScpiVerif.Model.IntFmt
import ScpiVerif.Lemmas.IntFmt

/- The simp sets also name what only other spellings of the same C text need (`0 - val`, a sign test on `(int32_t) val`:
tools/c2lean_intfmt_experiments.py). -/
set_option linter.unusedSimpArgs false
namespace ScpiVerif.Lemmas.IntFmtC
open ScpiVerif ScpiVerif.IntFmt ScpiVerif.Gen.IntFmtC ScpiVerif.Lemmas.IntFmt

/-- the store log of writing `cs` to consecutive indices from `start` -/
def logOf : Nat → List Char → List (Nat × Char)
  | _, [] => []
  | start, c :: cs => (start, c) :: logOf (start + 1) cs

theorem logOf_append (s : Nat) (a b : List Char) : logOf s (a ++ b) = logOf s a ++ logOf (s + a.length) b := by
  induction a generalizing s with
  | nil => simp [logOf]
  | cons c cs ih => simp [logOf, ih, Nat.add_assoc, Nat.add_comm 1]

/-- `ADD_CHAR(c)` on the store log and `pos`: store and advance while a byte is left -/
def addLog (len : Nat) (s : List (Nat × Char) × Nat) (c : Char) : List (Nat × Char) × Nat :=
  if s.2 < len then (s.1 ++ [(s.2, c)], s.2 + 1) else s

theorem addLog_full {len : Nat} {s : List (Nat × Char) × Nat} (h : ¬ s.2 < len) (cs : List Char) :
    cs.foldl (addLog len) s = s :=
  foldl_fixed (fun _ => if_neg h) cs

theorem addLog_foldl (len : Nat) (cs : List Char) : ∀ str pos, pos ≤ len →
    cs.foldl (addLog len) (str, pos) = (str ++ logOf pos (cs.take (len - pos)), min len (pos + cs.length)) := by
  induction cs with
  | nil => intro str pos h; simp [logOf, Nat.min_eq_right h]
  | cons c cs ih =>
    intro str pos h
    by_cases hp : pos < len
    · rw [List.foldl_cons, addLog, if_pos hp, ih _ _ hp, show len - pos = len - (pos + 1) + 1 by omega,
        List.take_succ_cons, logOf, List.append_assoc, List.length_cons, Nat.succ_add_eq_add_succ]
      rfl
    · rw [addLog_full hp, show len - pos = 0 by omega, Nat.min_eq_left (by omega)]
      simp [logOf]; omega

/-- what the C function leaves behind when the text `cs` is written into `len` bytes: the stores, the return value, ub -/
def written (cs : List Char) (len : Nat) : List (Nat × Char) × Nat × Bool :=
  (logOf 0 (cs.take len) ++ (if min len cs.length < len then [(min len cs.length, Char.ofNat 0)] else []),
    min len cs.length, false)

/-- `written` as the function computes it: ADD_CHAR for every character, then `if (pos < len) str[pos] = 0;` -/
theorem written_eq (cs : List Char) (len : Nat) (s : List (Nat × Char) × Nat) (h : s = cs.foldl (addLog len) ([], 0)) :
    written cs len = (if s.2 < len then s.1 ++ [(s.2, Char.ofNat 0)] else s.1, s.2, false) := by
  rw [h, addLog_foldl len cs [] 0 (Nat.zero_le _), written]
  simp only [Nat.zero_add, Nat.sub_zero, List.nil_append]
  split <;> simp

theorem toU_ofNat {w n : Nat} (h : n < 2 ^ w) : toU w (Int.ofNat n) = n := by
  unfold toU
  have : (Int.ofNat n) % ((2 ^ w : Nat) : Int) = Int.ofNat n := Int.emod_eq_of_lt (by simp) (by simpa using Int.ofNat_lt.2 h)
  rw [this]; rfl

theorem toU_lt (w : Nat) (v : Int) : toU w v < 2 ^ w := by
  unfold toU
  have hp : (0 : Int) < ((2 ^ w : Nat) : Int) := by
    have : 0 < 2 ^ w := Nat.pow_pos (by omega)
    omega
  have h1 := Int.emod_lt_of_pos v hp
  have h2 := Int.emod_nonneg v (Int.ne_of_gt hp)
  omega

theorem uadd_small {w a b : Nat} (h : a + b < 2 ^ w) : uadd w a b = a + b := Nat.mod_eq_of_lt h

/-- `uval = -val`, also spelt `uval = 0 - val` -/
theorem uneg_pos {w a : Nat} (h0 : 0 < a) (ha : a < 2 ^ w) : uneg w a = 2 ^ w - a ∧ usub w 0 a = 2 ^ w - a := by
  unfold uneg usub
  rw [Nat.mod_eq_of_lt ha, Nat.zero_add]; exact ⟨Nat.mod_eq_of_lt (by omega), Nat.mod_eq_of_lt (by omega)⟩

/-- `uval -= digit * x` with `digit = uval / x` -/
theorem usub_umul_div {w uval : Nat} (hu : uval < 2 ^ w) (x : Nat) : usub w uval (umul w (uval / x) x) = uval % x := by
  rw [usub, umul, Nat.mod_mod]; exact wrap_sub hu

/-- `(intN_t) v` for an unsigned N-bit `v` (two's complement) -/
theorem toS_ofNat {w v : Nat} (hw : 0 < w) (hv : v < 2 ^ w) :
    toS w (Int.ofNat v) = if v < 2 ^ (w - 1) then (v : Int) else (v : Int) - ((2 ^ w : Nat) : Int) := by
  unfold toS
  obtain ⟨n, rfl⟩ : ∃ n, w = n + 1 := ⟨w - 1, by omega⟩
  simp only [Nat.add_sub_cancel, Int.ofNat_eq_natCast]
  have hp : (2 : Nat) ^ (n + 1) = 2 ^ n + 2 ^ n := by rw [Nat.pow_succ]; omega
  rw [hp] at hv ⊢
  generalize (2 : Nat) ^ n = p at *
  have hc : ((p + p : Nat) : Int) = (p : Int) + (p : Int) := by omega
  rw [hc]
  split
  · rw [Int.emod_eq_of_lt (by omega) (by omega)]; omega
  · have : (v : Int) + (p : Int) = ((v : Int) - (p : Int)) + ((p : Int) + (p : Int)) := by omega
    rw [this, Int.add_emod_right, Int.emod_eq_of_lt (by omega) (by omega)]; omega

/-- the sign test of the C text, `(intN_t) v < 0` or (for a value that is not 0) `<= 0`, is the model's: the top bit -/
theorem sign_test {w v : Nat} (hw : 0 < w) (hv : v < 2 ^ w) (h0 : v ≠ 0) :
    decide (toS w (Int.ofNat v) < 0) = decide (2 ^ (w - 1) ≤ v) ∧
    decide (toS w (Int.ofNat v) ≤ 0) = decide (2 ^ (w - 1) ≤ v) := by
  rw [toS_ofNat hw hv, decide_eq_decide, decide_eq_decide]
  split <;> constructor <;> omega

/-- `(int_fast8_t)(uint8_t) d` for a digit -/
theorem toS8_digit {d : Nat} (h : d < 16) : toS 8 (Int.ofNat (d % 2 ^ 8)) = Int.ofNat d := by
  unfold toS
  simp only [Int.ofNat_eq_natCast]
  omega

/-- `digits[d]`, and the index is inside the array -/
theorem cget_digit : ∀ d, d < 16 → cget (cstr "0123456789ABCDEF") (Int.ofNat d) = digitChar d ∧
    cinb (cstr "0123456789ABCDEF") (Int.ofNat d) = true := by decide +kernel

/-! ### the two loops, for ANY step function that does what one iteration of the C loop does

The generated step functions enter only through the one-iteration hypotheses `hstep`; the inductions below are done once
for both widths and do not look at the generated text. -/

theorem loopFuel_succ {σ : Type} (step : σ → σ × Bool) (fuel : Nat) (s : σ) :
    loopFuel step (fuel + 1) s = if (step s).2 then loopFuel step fuel (step s).1 else ((step s).1, false) := rfl

/-- `while ((uval / x) == 0) x /= base;` for a step function that does one iteration of it: where the model's `skipZeros`
ends without a division by zero, the loop ends at the same divisor, not out of fuel and without touching `ub` -/
theorem skip_sim {b uval : Nat} (step : Nat × Bool → (Nat × Bool) × Bool)
    (hstep : ∀ x ub, x ≠ 0 → step (x, ub) = if uval / x = 0 then ((x / b, ub), true) else ((x, ub), false)) (ub : Bool) :
    ∀ fuel x, (skipZeros b uval fuel x).2 = false →
      loopFuel step fuel (x, ub) = (((skipZeros b uval fuel x).1, ub), false) := by
  intro fuel
  induction fuel with
  | zero => intro x h; cases h
  | succ f ih =>
    intro x h
    rw [skipZeros] at h ⊢
    by_cases hx : x = 0
    · rw [if_pos hx] at h; cases h
    · rw [if_neg hx] at h ⊢
      rw [loopFuel_succ, hstep _ _ hx]
      by_cases hq : uval / x = 0
      · simp only [if_pos hq] at h ⊢; exact ih _ h
      · simp only [if_neg hq]; rfl

/-- state of the digit loop: `(str, x, digit, pos, uval, ub)` -/
abbrev DState := List (Nat × Char) × Nat × Int × Nat × Nat × Bool

/-- what one iteration of `do { digit = uval / x; ADD_CHAR(digits[digit]); uval -= digit * x; x /= base; } while (x && pos < len)`
does when nothing is undefined and nothing wraps -/
def emitStepSpec (b len : Nat) : DState → DState × Bool
  | (str, x, _, pos, uval, ub) =>
    let s := addLog len (str, pos) (digitChar (uval / x))
    ((s.1, x / b, Int.ofNat (uval / x), s.2, uval % x, ub), (x / b != 0) && decide (s.2 < len))

/-- what the caller looks at after the digit loop: `((str, pos), ub, out of fuel)` -/
def fin (r : DState × Bool) : (List (Nat × Char) × Nat) × Bool × Bool := ((r.1.1, r.1.2.2.2.1), r.1.2.2.2.2.2, r.2)

/-- the digit loop started at `x = b^k` with `uval < b^(k+1)`: ADD_CHAR of the `k+1` digits of `uval` -/
theorem emit_sim {w b len : Nat} (hb : 2 ≤ b) (hb16 : b ≤ 16) (step : DState → DState × Bool)
    (hstep : ∀ str x digit pos uval ub, x ≠ 0 → uval / x < 16 → uval < 2 ^ w →
      step (str, x, digit, pos, uval, ub) = emitStepSpec b len (str, x, digit, pos, uval, ub))
    (k : Nat) : ∀ fuel str digit pos uval ub, k < fuel → uval < b ^ (k + 1) → uval < 2 ^ w →
      fin (loopFuel step fuel (str, b ^ k, digit, pos, uval, ub)) =
        ((pad b (k + 1) uval).foldl (addLog len) (str, pos), ub, false) := by
  induction k with
  | zero =>
    intro fuel str digit pos uval ub hf hu hw
    obtain ⟨f, rfl⟩ : ∃ f, fuel = f + 1 := ⟨fuel - 1, by omega⟩
    rw [Nat.pow_zero, Nat.pow_one] at *
    rw [loopFuel_succ, hstep _ _ _ _ _ _ (by omega) (by rw [Nat.div_one]; omega) hw, emitStepSpec,
      Nat.div_one, Nat.div_eq_of_lt (by omega : 1 < b)]
    simp only [bne_self_eq_false, Bool.false_and, Bool.false_eq_true, if_false, fin, pad, List.nil_append,
      Nat.mod_eq_of_lt hu, List.foldl_cons, List.foldl_nil]
  | succ k ih =>
    intro fuel str digit pos uval ub hf hu hw
    obtain ⟨f, rfl⟩ : ∃ f, fuel = f + 1 := ⟨fuel - 1, by omega⟩
    have hx : 0 < b ^ (k + 1) := Nat.pow_pos (by omega)
    have hq : uval / b ^ (k + 1) < b := by
      rw [Nat.div_lt_iff_lt_mul hx, Nat.mul_comm, ← Nat.pow_succ]; exact hu
    have hk0 : (b ^ k != 0) = true := bne_iff_ne.2 (Nat.ne_of_gt (Nat.pow_pos (by omega)))
    rw [loopFuel_succ, hstep _ _ _ _ _ _ (by omega) (by omega) hw, emitStepSpec, pow_succ_div (by omega), hk0,
      Bool.true_and, pad_succ_msd, Nat.mod_eq_of_lt hq, List.foldl_cons]
    by_cases hpl : (addLog len (str, pos) (digitChar (uval / b ^ (k + 1)))).2 < len
    · rw [decide_eq_true hpl, if_pos rfl]
      exact ih f _ _ _ _ _ (by omega) (Nat.mod_lt _ hx) (Nat.lt_of_le_of_lt (Nat.mod_le _ _) hw)
    · -- the loop ends with the buffer full: the remaining digits store nothing
      rw [decide_eq_false hpl, if_neg Bool.false_ne_true, addLog_full hpl]; rfl

/-- the two loops as the function nests them: the digit loop starts at the divisor the first loop ends with -/
abbrev nest (step1 : Nat × Bool → (Nat × Bool) × Bool) (step2 : DState → DState × Bool) (f1 f2 x0 : Nat)
    (str : List (Nat × Char)) (digit : Int) (pos uval : Nat) : DState × Bool :=
  loopFuel step2 f2 (str, (loopFuel step1 f1 (x0, false)).1.1, digit, pos, uval,
    (loopFuel step1 f1 (x0, false)).1.2 || (loopFuel step1 f1 (x0, false)).2)

/-- the end of the function: `if (pos < len) str[pos] = 0; return pos;`, a loop out of fuel counted as undefined -/
abbrev finish (len : Nat) (r : DState × Bool) : List (Nat × Char) × Nat × Bool :=
  (if r.1.2.2.2.1 < len then r.1.1 ++ [(r.1.2.2.2.1, Char.ofNat 0)] else r.1.1, r.1.2.2.2.1, r.1.2.2.2.2.2 || r.2)

/-- The code after the `switch`, with the loops' step functions, the fuels and the initial divisor `x0` (a table entry) as
variables: when `sg` (nothing or the '-') has been ADD_CHARed, the loops and the final `if (pos < len) str[pos] = 0;` leave
`sg` followed by the digits of `uval`; `ub` stays clear and no loop runs out of fuel. -/
theorem loops_written {w b len : Nat} (hb : 2 ≤ b) (hb16 : b ≤ 16)
    (step1 : Nat × Bool → (Nat × Bool) × Bool) (step2 : DState → DState × Bool) {uval : Nat}
    (hstep1 : ∀ x ub, x ≠ 0 → step1 (x, ub) = if uval / x = 0 then ((x / b, ub), true) else ((x, ub), false))
    (hstep2 : ∀ str x digit pos uval ub, x ≠ 0 → uval / x < 16 → uval < 2 ^ w →
      step2 (str, x, digit, pos, uval, ub) = emitStepSpec b len (str, x, digit, pos, uval, ub))
    {x0 : Nat} (he : entryOK w b x0 = true) (hu0 : 0 < uval) (hu : uval < 2 ^ w) {f1 f2 : Nat} (hf1 : w < f1) (hf2 : w < f2)
    (sg : List Char) {str : List (Nat × Char)} {pos : Nat} (hsg : (str, pos) = sg.foldl (addLog len) ([], 0)) (digit : Int) :
    finish len (nest step1 step2 f1 f2 x0 str digit pos uval) = written (sg ++ specDigits b uval) len := by
  obtain ⟨k, hk, rfl, _, hhi⟩ := entryOK_spec he
  obtain ⟨j, hj, e, a, c⟩ := skipZeros_spec hb hu0 k f1 (by omega) (Nat.lt_of_lt_of_le hu hhi)
  have e := skip_sim step1 hstep1 false f1 _ (congrArg (·.2) e) |>.trans (by rw [e])
  have h := emit_sim hb hb16 step2 hstep2 j f2 str digit pos uval false (by omega) c hu
  rw [hsg, ← List.foldl_append, ← specDigits_eq hb a c] at h
  simp only [nest, e, Bool.or_false]
  generalize loopFuel step2 f2 _ = r at h ⊢
  have h2 : r.1.2.2.2.2.2 = false := congrArg (·.2.1) h
  have h3 : r.2 = false := congrArg (·.2.2) h
  rw [written_eq _ len (r.1.1, r.1.2.2.2.1) (congrArg (·.1) h), finish, h2, h3]; rfl

/-! ### 32 bit: the generated text

`gen32_written`: case analysis over zero / the four bases / the sign, `simp` on the unfolded function, the rest by
`loops_written` with the literal divisor of the C text checked against the base by `decide`. -/

theorem step1_32 {base : Int} {b : Nat} (hbase : toU 32 base = b) (hb : b ≠ 0) (uval x : Nat) (ub : Bool) (hx : x ≠ 0) :
    UInt32ToStrBaseSign_loop1_step base uval (x, ub) = if uval / x = 0 then ((x / b, ub), true) else ((x, ub), false) := by
  by_cases hq : uval / x = 0 <;> simp [UInt32ToStrBaseSign_loop1_step, hq, beq_false_of_ne hx, beq_false_of_ne hb, hbase]

theorem step2_32 {len : Nat} {base : Int} {b : Nat} (hbase : toU 32 base = b) (hb : b ≠ 0) (hl : len < 2 ^ 64)
    (str : List (Nat × Char)) (x : Nat) (digit : Int) (pos uval : Nat) (ub : Bool)
    (hx : x ≠ 0) (hd : uval / x < 16) (hu : uval < 2 ^ 32) :
    UInt32ToStrBaseSign_loop2_step len base (str, x, digit, pos, uval, ub) =
      emitStepSpec b len (str, x, digit, pos, uval, ub) := by
  have h5 : pos < len → uadd 64 pos 1 = pos + 1 := fun h => uadd_small (by omega)
  simp only [UInt32ToStrBaseSign_loop2_step, emitStepSpec, addLog]
  simp only [toS8_digit hd, (cget_digit _ hd).1, (cget_digit _ hd).2, toU_ofNat (by omega : uval / x < 2 ^ 32), usub_umul_div hu,
    hbase, beq_false_of_ne hx, beq_false_of_ne hb, Bool.or_false, Bool.not_true]
  by_cases hpl : pos < len <;> simp [hpl, h5] <;> (try split) <;> simp_all <;> omega

theorem loops32 {len b x0 uval : Nat} {base : Int} (hbase : toU 32 base = b) (hb : 2 ≤ b) (hb16 : b ≤ 16)
    (he : entryOK 32 b x0 = true) (hl : len < 2 ^ 64) (hu0 : 0 < uval) (hu : uval < 2 ^ 32)
    (sg : List Char) {str : List (Nat × Char)} {pos : Nat} (hsg : (str, pos) = sg.foldl (addLog len) ([], 0)) (digit : Int) :
    finish len (nest (UInt32ToStrBaseSign_loop1_step base uval) (UInt32ToStrBaseSign_loop2_step len base) 34 66 x0
      str digit pos uval) = written (sg ++ specDigits b uval) len :=
  loops_written hb hb16 _ _ (step1_32 hbase (by omega) uval) (step2_32 hbase (by omega) hl) he hu0 hu (by decide) (by decide)
    sg hsg digit

theorem gen32_written (val len : Nat) (base : Int) (sign : Bool) (hv : val < 2 ^ 32) (hl : len < 2 ^ 64) :
    UInt32ToStrBaseSign val len base sign = written (canon 32 val base sign) len := by
  have hU : uadd 64 0 1 = 1 := by decide
  by_cases hv0 : val = 0
  · subst hv0
    rw [canon_zero, written_eq _ len _ rfl]
    by_cases h0 : 0 < len <;> simp [UInt32ToStrBaseSign, addLog, h0, hU]
  · have e0 : (val == 0) = false := beq_false_of_ne hv0
    have hv1 := Nat.pos_of_ne_zero hv0
    obtain ⟨hS, hS'⟩ := sign_test (w := 32) (by decide) hv hv0
    obtain ⟨hn, hn'⟩ := uneg_pos hv1 hv
    by_cases hnd : base = 2 ∨ base = 8 ∨ base = 16
    · rcases hnd with rfl | rfl | rfl <;>
      · simp only [UInt32ToStrBaseSign, e0]
        simp
        rw [canon_nondec 32 val _ sign (by decide)]
        exact loops32 (by decide) (by decide) (by decide) (by decide) hl hv1 hv [] rfl 0
    · obtain ⟨h2, h8, h16⟩ : base ≠ 2 ∧ base ≠ 8 ∧ base ≠ 16 := by omega
      rw [canon_dec (by simp [effBase, h2, h8, h16])]
      simp only [UInt32ToStrBaseSign, e0, beq_false_of_ne h2, beq_false_of_ne h8, beq_false_of_ne h16, hS, hS']
      by_cases hneg : (sign && decide (2 ^ (32 - 1) ≤ val)) = true
      · by_cases h0 : 0 < len <;>
        · simp [hneg, h0, hn, hn', hU]
          exact loops32 (b := 10) (by decide) (by decide) (by decide) (by decide) hl (Nat.sub_pos_of_lt hv) (Nat.sub_lt (Nat.pow_pos (by decide)) hv1) ['-']
            (by simp [addLog, h0]) 0
      · simp [hneg]
        exact loops32 (b := 10) (by decide) (by decide) (by decide) (by decide) hl hv1 hv [] rfl 0

/-! ### 64 bit: the same at the other width -/

theorem step1_64 {base : Int} {b : Nat} (hbase : toU 64 base = b) (hb : b ≠ 0) (uval x : Nat) (ub : Bool) (hx : x ≠ 0) :
    UInt64ToStrBaseSign_loop1_step base uval (x, ub) = if uval / x = 0 then ((x / b, ub), true) else ((x, ub), false) := by
  by_cases hq : uval / x = 0 <;> simp [UInt64ToStrBaseSign_loop1_step, hq, beq_false_of_ne hx, beq_false_of_ne hb, hbase]

theorem step2_64 {len : Nat} {base : Int} {b : Nat} (hbase : toU 64 base = b) (hb : b ≠ 0) (hl : len < 2 ^ 64)
    (str : List (Nat × Char)) (x : Nat) (digit : Int) (pos uval : Nat) (ub : Bool)
    (hx : x ≠ 0) (hd : uval / x < 16) (hu : uval < 2 ^ 64) :
    UInt64ToStrBaseSign_loop2_step len base (str, x, digit, pos, uval, ub) =
      emitStepSpec b len (str, x, digit, pos, uval, ub) := by
  have h5 : pos < len → uadd 64 pos 1 = pos + 1 := fun h => uadd_small (by omega)
  simp only [UInt64ToStrBaseSign_loop2_step, emitStepSpec, addLog]
  simp only [toS8_digit hd, (cget_digit _ hd).1, (cget_digit _ hd).2, toU_ofNat (by omega : uval / x < 2 ^ 64), usub_umul_div hu,
    hbase, beq_false_of_ne hx, beq_false_of_ne hb, Bool.or_false, Bool.not_true]
  by_cases hpl : pos < len <;> simp [hpl, h5] <;> (try split) <;> simp_all <;> omega

theorem loops64 {len b x0 uval : Nat} {base : Int} (hbase : toU 64 base = b) (hb : 2 ≤ b) (hb16 : b ≤ 16)
    (he : entryOK 64 b x0 = true) (hl : len < 2 ^ 64) (hu0 : 0 < uval) (hu : uval < 2 ^ 64)
    (sg : List Char) {str : List (Nat × Char)} {pos : Nat} (hsg : (str, pos) = sg.foldl (addLog len) ([], 0)) (digit : Int) :
    finish len (nest (UInt64ToStrBaseSign_loop1_step base uval) (UInt64ToStrBaseSign_loop2_step len base) 66 66 x0
      str digit pos uval) = written (sg ++ specDigits b uval) len :=
  loops_written hb hb16 _ _ (step1_64 hbase (by omega) uval) (step2_64 hbase (by omega) hl) he hu0 hu (by decide) (by decide)
    sg hsg digit

theorem gen64_written (val len : Nat) (base : Int) (sign : Bool) (hv : val < 2 ^ 64) (hl : len < 2 ^ 64) :
    UInt64ToStrBaseSign val len base sign = written (canon 64 val base sign) len := by
  have hU : uadd 64 0 1 = 1 := by decide
  by_cases hv0 : val = 0
  · subst hv0
    rw [canon_zero, written_eq _ len _ rfl]
    by_cases h0 : 0 < len <;> simp [UInt64ToStrBaseSign, addLog, h0, hU]
  · have e0 : (val == 0) = false := beq_false_of_ne hv0
    have hv1 := Nat.pos_of_ne_zero hv0
    obtain ⟨hS, hS'⟩ := sign_test (w := 64) (by decide) hv hv0
    obtain ⟨hn, hn'⟩ := uneg_pos hv1 hv
    by_cases hnd : base = 2 ∨ base = 8 ∨ base = 16
    · rcases hnd with rfl | rfl | rfl <;>
      · simp only [UInt64ToStrBaseSign, e0]
        simp
        rw [canon_nondec 64 val _ sign (by decide)]
        exact loops64 (by decide) (by decide) (by decide) (by decide) hl hv1 hv [] rfl 0
    · obtain ⟨h2, h8, h16⟩ : base ≠ 2 ∧ base ≠ 8 ∧ base ≠ 16 := by omega
      rw [canon_dec (by simp [effBase, h2, h8, h16])]
      simp only [UInt64ToStrBaseSign, e0, beq_false_of_ne h2, beq_false_of_ne h8, beq_false_of_ne h16, hS, hS']
      by_cases hneg : (sign && decide (2 ^ (64 - 1) ≤ val)) = true
      · by_cases h0 : 0 < len <;>
        · simp [hneg, h0, hn, hn', hU]
          exact loops64 (b := 10) (by decide) (by decide) (by decide) (by decide) hl (Nat.sub_pos_of_lt hv) (Nat.sub_lt (Nat.pow_pos (by decide)) hv1) ['-']
            (by simp [addLog, h0]) 0
      · simp [hneg]
        exact loops64 (b := 10) (by decide) (by decide) (by decide) (by decide) hl hv1 hv [] rfl 0

/-- the hand model's result in the vocabulary of the generated functions: store log, return value, ub -/
def expected (r : Out × Bool) : List (Nat × Char) × Nat × Bool :=
  (logOf 0 r.1.chars ++ (if r.2 then [(r.1.pos, Char.ofNat 0)] else []), r.1.pos, r.1.ub)

theorem expected_toStr (w : Nat) (t : DivTable) (hw : w = 32 ∨ w = 64) (ht : tableOK w t = true)
    (val len : Nat) (base : Int) (sign : Bool) (hv : val < 2 ^ w) :
    expected (toStrBaseSign w t val len base sign) = written (canon w val base sign) len := by
  obtain ⟨h1, h2, h3, h4⟩ := toStr_spec w t hw ht val len base sign hv
  simp only [expected, written, h1, h2, h3, h4, decide_eq_true_eq]

theorem toStr32_refines (t : DivTable) (ht : tableOK 32 t = true) (val len : Nat) (base : Int) (sign : Bool)
    (hv : val < 2 ^ 32) (hl : len < 2 ^ 64) :
    UInt32ToStrBaseSign val len base sign = expected (toStrBaseSign 32 t val len base sign) := by
  rw [expected_toStr 32 t (Or.inl rfl) ht val len base sign hv]; exact gen32_written val len base sign hv hl

theorem toStr64_refines (t : DivTable) (ht : tableOK 64 t = true) (val len : Nat) (base : Int) (sign : Bool)
    (hv : val < 2 ^ 64) (hl : len < 2 ^ 64) :
    UInt64ToStrBaseSign val len base sign = expected (toStrBaseSign 64 t val len base sign) := by
  rw [expected_toStr 64 t (Or.inr rfl) ht val len base sign hv]; exact gen64_written val len base sign hv hl

theorem int32ToStr_eq (val : Int) (len : Nat) :
    SCPI_Int32ToStr val len = UInt32ToStrBaseSign (toU 32 val) len 10 true := by simp [SCPI_Int32ToStr]
theorem uint32ToStrBase_eq (val len : Nat) (base : Int) :
    SCPI_UInt32ToStrBase val len base = UInt32ToStrBaseSign val len base false := by simp [SCPI_UInt32ToStrBase]
theorem int64ToStr_eq (val : Int) (len : Nat) :
    SCPI_Int64ToStr val len = UInt64ToStrBaseSign (toU 64 val) len 10 true := by simp [SCPI_Int64ToStr]
theorem uint64ToStrBase_eq (val len : Nat) (base : Int) :
    SCPI_UInt64ToStrBase val len base = UInt64ToStrBaseSign val len base false := by simp [SCPI_UInt64ToStrBase]

end ScpiVerif.Lemmas.IntFmtC
