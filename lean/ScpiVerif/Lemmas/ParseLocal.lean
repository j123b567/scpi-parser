/-
`ParseLocal` (Lemmas/ChunkingDefs.lean): `SCPI_Parse` of a message `[0, k)` whose last byte is a line feed (or a
carriage return) does not depend on the buffer bytes behind the message.  An instance of the two-run simulation of
`Lemmas/TwoRun.lean`: the stopper is the last byte of the message itself, at index `P = k - 1` (`AgreeL`), and the
windows that are read may include it.  The two contexts are equal outside `buf`, `position`, `events`
(`rest c2 = rest c1`), so every update of the walk keeps the relation for one reason (`SimW.map`).  Of the hypotheses
of `ParseLocal`, "no quote characters", "no CR" and `c1.oob = false` are not used: `parse_local` is stated without
them.  The relations and the frame are in namespace `Lemmas.ParseLocalAux`; the theorems are in `Lemmas.Chunking`,
where the propositions they prove are defined.
-/
import ScpiVerif.Lemmas.ChunkingDefs
import ScpiVerif.Lemmas.TwoRun
import ScpiVerif.Lemmas.ParseLocalPrim


namespace ScpiVerif.Lemmas.ParseLocalAux
open ScpiVerif ScpiVerif.Lexer ScpiVerif.Ctx ScpiVerif.Result
open ScpiVerif.Lemmas.UpTo
open ScpiVerif.Lemmas.TwoRun (Frame Keeps pureBuiltin)
open ScpiVerif.Lemmas.Isolation (pushError_eq pcReset setUnit)

def Step (c1 c2 c1' c2' : Ctx) : Prop := ∃ e, c1'.events = c1.events ++ e ∧ c2'.events = c2.events ++ e

theorem Step.refl (c1 c2 : Ctx) : Step c1 c2 c1 c2 := ⟨[], by simp, by simp⟩

theorem Step.trans {c1 c2 d1 d2 e1 e2 : Ctx} (h : Step c1 c2 d1 d2) (h' : Step d1 d2 e1 e2) : Step c1 c2 e1 e2 := by
  obtain ⟨e, a1, b1⟩ := h
  obtain ⟨e', a1', b1'⟩ := h'
  exact ⟨e ++ e', by rw [a1', a1, List.append_assoc], by rw [b1', b1, List.append_assoc]⟩

structure SimW (P : Nat) (c1 c2 : Ctx) : Prop where
  rst : rest c2 = rest c1
  buf : AgreeL P c1.buf c2.buf
  inb : P < c1.buf.length

structure Sim (P : Nat) (c1 c2 : Ctx) : Prop where
  w : SimW P c1 c2
  win : c1.pbase + c1.plen ≤ P + 1
  rawo : c1.rawOff ≤ P
  raw : c1.rawOff + c1.rawLen ≤ P + 1

structure HS (P : Nat) (h1 h2 : HState) : Prop where
  sim : Sim P h1.c h2.c
  stopOnFail : h2.stopOnFail = h1.stopOnFail
  result : h2.result = h1.result
  done : h2.done = h1.done

theorem SimW.proj {α : Type} {P : Nat} {c1 c2 : Ctx} (h : SimW P c1 c2) (f : Ctx → α) (hf : ∀ c, f (rest c) = f c) :
    f c2 = f c1 := by rw [← hf c2, ← hf c1, h.rst]

/-- an update that reads and writes nothing of buffer / position, and appends events that depend only
on the rest -/
structure LocW (g : Ctx → Ctx) : Prop where
  hr : ∀ c, rest (g c) = rest (g (rest c))
  hb : ∀ c, (g c).buf = c.buf
  he : ∃ ev : Ctx → List Ev, ∀ c, (g c).events = c.events ++ ev (rest c)

structure Loc (g : Ctx → Ctx) : Prop extends LocW g where
  hw : ∀ c, (g c).pbase = c.pbase ∧ (g c).plen = c.plen ∧ (g c).rawOff = c.rawOff ∧ (g c).rawLen = c.rawLen

theorem SimW.map {P : Nat} {c1 c2 : Ctx} (h : SimW P c1 c2) {g : Ctx → Ctx} (hg : LocW g) :
    SimW P (g c1) (g c2) ∧ Step c1 c2 (g c1) (g c2) := by
  obtain ⟨ev, hev⟩ := hg.he
  refine ⟨⟨?_, ?_, ?_⟩, ev (ParseLocalAux.rest c1), hev c1, ?_⟩
  · rw [hg.hr c2, hg.hr c1, h.rst]
  · rw [hg.hb, hg.hb]; exact h.buf
  · rw [hg.hb]; exact h.inb
  · rw [hev c2, h.rst]

theorem Sim.map {P : Nat} {c1 c2 : Ctx} (h : Sim P c1 c2) {g : Ctx → Ctx} (hg : Loc g) :
    Sim P (g c1) (g c2) ∧ Step c1 c2 (g c1) (g c2) := by
  obtain ⟨a, b⟩ := h.w.map hg.toLocW
  obtain ⟨w1, w2, w3, w4⟩ := hg.hw c1
  exact ⟨⟨a, by rw [w1, w2]; exact h.win, by rw [w3]; exact h.rawo, by rw [w3, w4]; exact h.raw⟩, b⟩

theorem SimW.keeps {P : Nat} {g : Ctx → Ctx} (hg : LocW g) : Keeps (SimW P) (SimW P) Step g := fun _ _ h => h.map hg

theorem Sim.keeps {P : Nat} {g : Ctx → Ctx} (hg : Loc g) : Keeps (Sim P) (Sim P) Step g := fun _ _ h => h.map hg

theorem loc_pushError (code : Int) (info : Option Bytes) (n : Nat) : Loc (fun c => pushError c code info n) := by
  refine ⟨⟨?_, ?_, ?_⟩, ?_⟩
  · intro c; simp only [pushError_eq]; rfl
  · intro c; simp only [pushError_eq]
  · exact ⟨fun r => Params.pushEvents r code info n, fun c => by simp only [pushError_eq]; rfl⟩
  · intro c; simp only [pushError_eq]; exact ⟨trivial, trivial, trivial, trivial⟩

theorem Sim.keeps_of_rfl {P : Nat} {g : Ctx → Ctx} (hr : ∀ c, rest (g c) = rest (g (rest c)) := by intro _; rfl)
    (hb : ∀ c, (g c).buf = c.buf := by intro _; rfl) (he : ∀ c, (g c).events = c.events := by intro _; rfl)
    (hw : ∀ c, (g c).pbase = c.pbase ∧ (g c).plen = c.plen ∧ (g c).rawOff = c.rawOff ∧ (g c).rawLen = c.rawLen := by
      intro _; exact ⟨rfl, rfl, rfl, rfl⟩) : Keeps (Sim P) (Sim P) Step g :=
  Sim.keeps ⟨⟨hr, hb, fun _ => [], fun c => by rw [he, List.append_nil]⟩, hw⟩

theorem SimW.setBuf {P : Nat} {c1 c2 : Ctx} (h : SimW P c1 c2) {b1 b2 : Bytes} (ha : AgreeL P b1 b2)
    (hl : b1.length = c1.buf.length) (o : Bool) :
    SimW P { c1 with buf := b1, oob := c1.oob || o } { c2 with buf := b2, oob := c2.oob || o } :=
  ⟨(congrArg (fun r : Ctx => ({ r with oob := r.oob || o } : Ctx)) h.rst :), ha, by rw [hl]; exact h.inb⟩

/-- the line terminator at `P` may be read (`e := 1`) -/
def frame (P : Nat) : Frame P where
  Sc := stp
  e := 1
  W := SimW P
  S := Sim P
  T := Step
  sc_ctl := fun b hb => by
    have : b = 10 ∨ b = 13 := by simpa [stp] using hb
    rcases this with rfl | rfl <;> rfl
  e_le := Nat.le_refl _
  t_refl := Step.refl
  t_trans := Step.trans
  w_buf := fun h => h.buf.upTo
  w_inb := fun h => h.inb
  w_cmds := fun h => h.proj Ctx.cmds fun _ => rfl
  w_err := fun code info n => SimW.keeps (loc_pushError code info n).toLocW
  w_oob := SimW.keeps ⟨fun _ => rfl, fun _ => rfl, fun _ => [], fun _ => by simp⟩
  w_setBuf := fun h ha hl o => ⟨h.setBuf (.of_upTo ha) hl o, ⟨[], by simp, by simp⟩⟩
  w_unit := fun h base dptr dlen cmd cur hd hc0 hc =>
    have hm := h.map (g := fun c => pcReset (setUnit base dptr dlen cmd cur c))
      ⟨fun _ => rfl, fun _ => rfl, fun _ => [], fun _ => by simp [pcReset, setUnit]⟩
    ⟨⟨hm.1, hd, hc0, hc⟩, hm.2⟩
  s_w := fun h => h.w
  s_win := fun h => ⟨h.w.proj Ctx.choices fun _ => rfl, h.w.proj Ctx.cmdError fun _ => rfl,
    h.w.proj Ctx.inputCount fun _ => rfl, h.w.proj Ctx.pbase fun _ => rfl, h.w.proj Ctx.plen fun _ => rfl,
    h.w.proj Ctx.ppos fun _ => rfl, h.w.proj Ctx.cur fun _ => rfl, h.w.proj Ctx.rawOff fun _ => rfl,
    h.w.proj Ctx.rawLen fun _ => rfl, h.win, h.rawo, h.raw⟩
  s_err := fun code info n => Sim.keeps (loc_pushError code info n)
  s_param := fun h _ n _ p hn hp => by
    subst hn hp
    exact (Sim.keeps_of_rfl (g := fun c => { c with inputCount := n, ppos := p })) _ _ h
  s_emit := fun ev => Sim.keeps ⟨⟨fun _ => rfl, fun _ => rfl, fun _ => [ev], fun _ => rfl⟩, fun _ => ⟨rfl, rfl, rfl, rfl⟩⟩
  s_out := fun f _ => Sim.keeps_of_rfl
  s_pushed := fun h f _ => by rw [h.w.proj Ctx.out fun _ => rfl]
  s_regStep := fun op => Sim.keeps_of_rfl
  s_builtin := fun b =>
    Sim.keeps ⟨⟨fun _ => rfl, fun _ => rfl, fun r => Lemmas.Builtin.bEvs r.regs b, fun _ => rfl⟩, fun _ => ⟨rfl, rfl, rfl, rfl⟩⟩

theorem loc_out (f : Out → Out) : LocW (fun c => { c with out := f c.out }) :=
  ⟨fun _ => rfl, fun _ => rfl, fun _ => [], fun _ => by simp⟩

end ScpiVerif.Lemmas.ParseLocalAux

namespace ScpiVerif.Lemmas.Chunking
open ScpiVerif ScpiVerif.Lexer ScpiVerif.Ctx ScpiVerif.Lemmas.ParseLocalAux

/-- The unit loop over a message `[0, k)` whose last byte is a line feed or a carriage return, and the end of `parse`
after it, are local: no hypothesis on the other bytes of the message, and none on the events logged before, so the two
runs may have entered the loop after different `parseMsg` markers (Lemmas/Chunking.lean, a chunk cut inside CR LF). -/
theorem parseLoop_local (c1 c2 : Ctx) (k fuel : Nat) (hp : Pers c1 c2)
    (hl1 : c1.buf.length = c1.bufLen) (hl2 : c2.buf.length = c2.bufLen) (hk : k < c1.bufLen)
    (ht : c1.buf.take k = c2.buf.take k)
    (hlast : (c1.buf.take k).getLast? = some 10 ∨ (c1.buf.take k).getLast? = some 13) :
    Pers (parseFin (parseLoop fuel c1 0 k none true)).1 (parseFin (parseLoop fuel c2 0 k none true)).1 ∧
    ∃ es, (parseFin (parseLoop fuel c1 0 k none true)).1.events = c1.events ++ es ∧
      (parseFin (parseLoop fuel c2 0 k none true)).1.events = c2.events ++ es := by
  have hr := pers_iff.1 hp
  have hbl : c2.bufLen = c1.bufLen :=
    show (rest c2).bufLen = (rest c1).bufLen from congrArg Ctx.bufLen hr
  have hlen : c1.buf.length = c2.buf.length := by rw [hl1, hl2, hbl]
  have hag : 0 < k ∧ AgreeL (k - 1) c1.buf c2.buf := by
    rcases hlast with hlast | hlast
    · exact AgreeL.of_take hlen (by omega) ht hlast (by decide)
    · exact AgreeL.of_take hlen (by omega) ht hlast (by decide)
  obtain ⟨hk0, hag⟩ := hag
  obtain ⟨⟨a1, a2⟩, -⟩ := (frame (k - 1)).parseLoop_sim fuel c1 c2 0 k none true (.refl ⟨hr, hag, by omega⟩) (by show _ ≤ k - 1 + 1; omega)
    (by intro pp pl hh; cases hh)
  obtain ⟨b, b2⟩ := a1.map (loc_out Result.writeNewLine)
  obtain ⟨es, e1, e2⟩ := Step.trans a2 b2
  exact ⟨pers_iff.2 b.rst, es, e1, e2⟩

theorem parse_local (c1 c2 : Ctx) (k : Nat) (hp : Pers c1 c2)
    (hl1 : c1.buf.length = c1.bufLen) (hl2 : c2.buf.length = c2.bufLen) (hk : k < c1.bufLen)
    (ht : c1.buf.take k = c2.buf.take k)
    (hlast : (c1.buf.take k).getLast? = some 10 ∨ (c1.buf.take k).getLast? = some 13) :
    Pers (parse c1 0 k).1 (parse c2 0 k).1 ∧
    ∃ es, (parse c1 0 k).1.events = c1.events ++ es ∧ (parse c2 0 k).1.events = c2.events ++ es := by
  rw [parse_eq, parse_eq]
  have hp' : Pers (emit { c1 with out := outReset c1.out } (.parseMsg ((c1.buf.drop 0).take k)))
      (emit { c2 with out := outReset c2.out } (.parseMsg ((c2.buf.drop 0).take k))) :=
    pers_iff.2 (congrArg (fun r : Ctx => ({ r with out := outReset r.out } : Ctx)) (pers_iff.1 hp) :)
  obtain ⟨a, es, e1, e2⟩ := parseLoop_local _ _ k (k + 2) hp' hl1 hl2 hk ht hlast
  refine ⟨a, .parseMsg (c1.buf.take k) :: es, ?_, ?_⟩
  · rw [e1]; simp [emit]
  · rw [e2]; simp [emit, ht]

theorem parseLocalCR : ParseLocalCR :=
  fun c1 c2 k hp hl1 hl2 hk _ ht hlast _ => parse_local c1 c2 k hp hl1 hl2 hk ht hlast

theorem parseLocal : ParseLocal := parseLocalCR.toLF

end ScpiVerif.Lemmas.Chunking
