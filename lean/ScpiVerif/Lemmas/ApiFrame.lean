/-
Whatever a command handler does to the context, it does through the API of parser.c: the parameter readers, the
result writers, the error queue, the status registers.  `ApiInv codes P` lists the primitive changes these make
and says that `P` survives each of them; the theorems of this file conclude that `P` survives every reader, every
library handler and every handler script.  `ApiClosed` is the case of a `P` that does not look at the response, the
status registers or the error queue at all, and then `P` survives `processCommand` too (C01, C02, C05; the response
framing of C06 and the status invariant of the instrument model are instances of `ApiInv`).  `LoopInv` continues the
list with what the unit loop of SCPI_Parse does itself; `WriterClosed` decomposes the result writers once (item, header,
data, refused data, error string) for the two invariants that go through them writer by writer.
-/
import ScpiVerif.Lemmas.Builtin
import ScpiVerif.Lemmas.Readers
import ScpiVerif.Lemmas.ResultWrite

namespace ScpiVerif.Lemmas.Api
open ScpiVerif ScpiVerif.Lexer ScpiVerif.Ctx ScpiVerif.Lemmas.Params
open ScpiVerif.Spec.Params (Reader)
open ScpiVerif.Lemmas.Isolation (pcReset pcBody pcOut pcTail processCommand_eq setUnit)

/-- what a script operation applies to the output state -/
inductive Writer : (Result.Out → Result.Out) → Prop
  | int (w v : Nat) (b : Int) (s : Bool) : Writer (Result.resultIntBaseSign · w v b s)
  | floatText (t : Bytes) : Writer (Result.resultFloatText · t)
  | bool (b : Bool) : Writer (Result.resultBool · b)
  | text (d : Bytes) : Writer (Result.resultText · d)
  | chars (d : Bytes) : Writer (Result.resultCharacters · d)
  | block (d : Bytes) : Writer (Result.resultBlock · d)
  | blockHeader (n : Nat) : Writer (Result.resultBlockHeader · n)
  | blockData (d : Bytes) : Writer (Result.resultBlockData · d)
  | arrBin (es : List Bytes) (sz : Nat) (same : Bool) : Writer (Result.resultArrayBinary · es sz same)
  | builtin (r : Regs.St) (q : Fifo.EQ) (b : Builtin) : Writer (Builtin.bOut r q b)

section closed
open ScpiVerif.Result

/-- a property of output transformers that holds of the pieces the result writers are put together from (`refuse`: an
array with a bad element size) and is kept by composition: it then holds of every writer (`writer`) -/
structure WriterClosed (P : (Out → Out) → Prop) : Prop where
  id : P (fun o => o)
  comp : ∀ {f g : Out → Out}, P f → P g → P (fun o => g (f o))
  item : ∀ ds : List Bytes, P (fun o => bump (ds.foldl writeData (writeDelimiter o)))
  header : ∀ n : Nat, P (resultBlockHeader · n)
  data : ∀ d : Bytes, P (resultBlockData · d)
  refuse : P (fun o => { o with pushed := o.pushed ++ [-310] })
  error : ∀ (code : Int) (desc : Bytes) (parts : List (Option Bytes)), P (resultError · code desc parts)

namespace WriterClosed
variable {P : (Out → Out) → Prop} (hP : WriterClosed P)
include hP

theorem foldl {α : Type} (f : Out → α → Out) (hf : ∀ a, P (f · a)) : ∀ l : List α, P (fun o => l.foldl f o)
  | [] => hP.id
  | a :: l => hP.comp (hf a) (foldl f hf l)

theorem writer {f : Out → Out} (hf : Writer f) : P f := by
  cases hf with
  | int w v b s => exact hP.item [_, _]
  | floatText t => exact hP.item [t]
  | bool b => exact hP.item [_, _]
  | text d => exact hP.item [_, _, _]
  | chars d => exact hP.item [d]
  | block d => exact hP.comp (hP.header _) (hP.data d)
  | blockHeader n => exact hP.header n
  | blockData d => exact hP.data d
  | arrBin es sz same =>
    simp only [Blocks.resultArrayBinary_eq]
    split
    · exact hP.comp (hP.header _) (hP.foldl _ hP.data _)
    · exact hP.refuse
  | builtin r q b =>
    cases b
    case idnQ fields => exact hP.foldl _ (fun i => hP.item [_]) _
    case errNextQ => exact hP.error _ _ _
    case versQ => exact hP.item [_]
    case eseQ | esrQ | opcQ | sreQ | stbQ | tstQ | stubQ | errCountQ | quesCondQ | quesEvenQ | quesEnabQ
        | operCondQ | operEvenQ | operEnabQ => exact hP.item [_, _]
    all_goals exact hP.id

end WriterClosed
end closed

/-- `codes`: the error codes a handler script may push besides the API's own -/
structure ApiInv (codes : Int → Prop) (P : Ctx → Prop) : Prop where
  emit : ∀ {c : Ctx} (e : Ev), apiEv e = true → P c → P (emit c e)
  pushError : ∀ {c : Ctx} (code : Int) (info : Option Bytes) (n : Nat), code ∈ apiCodes ∨ codes code → P c →
    P (pushError c code info n)
  cursor : ∀ {c : Ctx} (ppos inputCount : Nat), P c → P { c with ppos := ppos, inputCount := inputCount }
  write : ∀ {c : Ctx} {f : Result.Out → Result.Out}, Writer f → P c → P { c with out := f c.out }
  status : ∀ {c : Ctx} (b : Builtin), P c → P { c with regs := Builtin.bRegs c.regs b, eq := Builtin.bEq c.eq b }
  set : ∀ {c : Ctx} (reg : Nat) (v : Regs.Reg), reg ≠ Regs.STB → P c → P (regStep c (.set reg v))

structure ApiClosed (codes : Int → Prop) (P : Ctx → Prop) : Prop where
  emit : ∀ {c : Ctx} (e : Ev), apiEv e = true → P c → P (emit c e)
  pushError : ∀ {c : Ctx} (code : Int) (info : Option Bytes) (n : Nat), code ∈ apiCodes ∨ codes code → P c →
    P (pushError c code info n)
  out : ∀ {c : Ctx} (o : Result.Out), P c → P { c with out := o }
  regs : ∀ {c : Ctx} (r : Regs.St), P c → P { c with regs := r }
  eq : ∀ {c : Ctx} (q : Fifo.EQ), P c → P { c with eq := q }
  cursor : ∀ {c : Ctx} (ppos inputCount : Nat), P c → P { c with ppos := ppos, inputCount := inputCount }

theorem ApiClosed.inv {codes : Int → Prop} {P : Ctx → Prop} (hP : ApiClosed codes P) : ApiInv codes P where
  emit := hP.emit
  pushError := hP.pushError
  cursor := hP.cursor
  write _ h := hP.out _ h
  status := fun {c} b h => hP.eq (Builtin.bEq c.eq b) (hP.regs (Builtin.bRegs c.regs b) h)
  set _ _ _ h := hP.regs _ h

theorem apiEv_bEvs (r : Regs.St) (b : Builtin) : (Builtin.bEvs r b).all apiEv = true := by
  unfold Builtin.bEvs Builtin.cbEvs
  repeat' split
  all_goals rfl

namespace ApiInv
variable {codes : Int → Prop} {P : Ctx → Prop} (hP : ApiInv codes P)
include hP

theorem fail (code : Int) (hm : code ∈ apiCodes) {c : Ctx} (h : P c) : P (Ctx.pushError c code none) :=
  hP.pushError code none 0 (.inl hm) h

theorem parameter {c : Ctx} (mand : Bool) (h : P c) : P (Ctx.parameter c mand).1 := by
  rw [parameter_eq]
  split
  · split
    · exact hP.fail (-109) (by decide) h
    · exact h
  · split
    · exact hP.fail (-103) (by decide) (hP.cursor _ c.inputCount h)
    · split
      · exact hP.cursor _ _ h
      · exact hP.fail (-151) (by decide) (hP.cursor _ _ h)

theorem runReader {c : Ctx} (r : Reader) (mand : Bool) (h : P c) : P (Ctx.runReader c r mand).1 := by
  have h1 := hP.parameter mand h
  rw [runReader_eq]
  split
  · cases hv : verdict r (Ctx.parameter c mand).1 (Ctx.parameter c mand).2.2 with
    | none => exact h1
    | some e => exact hP.fail e (verdict_codes hv) h1
  · exact h1

theorem paramArrInt {c : Ctx} (w : Nat) (s : Bool) (cap : Nat) (m : Bool) (h : P c) :
    P (Ctx.paramArrInt c w s cap m).1 := by
  unfold Ctx.paramArrInt
  generalize ([] : List Int) = acc
  induction cap generalizing c m acc with
  | zero => exact h
  | succ n ih =>
    unfold paramArrInt.go
    have h1 : P (Ctx.paramInt c w s m).1 := hP.runReader (.int w s) m h
    generalize Ctx.paramInt c w s m = r at h1
    obtain ⟨c1, ok, v⟩ := r
    dsimp only
    split
    · exact ih false h1 _
    · exact h1

theorem emits {c : Ctx} (es : List Ev) (he : es.all apiEv = true) (h : P c) :
    P { c with events := c.events ++ es } := by
  induction es generalizing c with
  | nil => rw [List.append_nil]; exact h
  | cons e es ih =>
    rw [List.all_cons, Bool.and_eq_true] at he
    have := ih he.2 (hP.emit e he.1 h)
    rw [Ctx.emit, List.append_assoc] at this
    exact this

theorem runBuiltin {c : Ctx} (b : Builtin) (h : P c) : P (Ctx.runBuiltin c b).1 := by
  cases hp : Builtin.paramReg b with
  | none =>
    rw [Builtin.runBuiltin_pure c b hp]
    exact hP.emits _ (apiEv_bEvs c.regs b) (hP.status b (hP.write (.builtin c.regs c.eq b) h))
  | some p =>
    obtain ⟨reg, strict⟩ := p
    have hreg : reg ≠ Regs.STB := by cases b <;> cases hp <;> decide
    have h1 : P (Ctx.paramInt c 32 true true).1 := hP.runReader (.int 32 true) true h
    rw [Builtin.runBuiltin_param c b reg strict hp, Builtin.regFromParam_eq]
    dsimp only
    split
    · exact hP.set reg _ hreg h1
    · exact h1

theorem runOp {h : HState} (op : SOp) (hop : ∀ code info, op = SOp.ePush code info → codes code) (hh : P h.c) :
    P (Ctx.runOp h op).c := by
  unfold Ctx.runOp
  split
  · exact hh
  · extract_lets fin c
    -- a reader's context, then the event with its outcome
    have hfin : ∀ c1 ok e, apiEv e = true → P c1 → P (fin c1 ok e).c := by
      intro c1 ok e he h1
      simp only [fin]
      split <;> exact hP.emit e he h1
    clear_value fin
    have rd : ∀ (r : Reader) (m : Bool) {x : Ctx} ok e, (Ctx.runReader c r m).1 = x → apiEv e = true → P (fin x ok e).c :=
      fun r m _ ok e hx he => hfin _ ok e he (hx ▸ hP.runReader r m hh)
    cases op <;> dsimp only
    case pInt w s m => exact rd (.int w s) m _ _ rfl rfl
    case pFloat d m => exact rd (.float d) m _ _ rfl rfl
    case pBool m => exact rd .bool m _ _ rfl rfl
    case pChoice m k => exact rd (.choice _) m _ _ rfl rfl
    case pNumber m => exact rd .number m _ _ rfl (paramNumber_eq h.c m).1
    case pChars m => exact rd .chars m _ _ rfl rfl
    case pBlock m => exact rd .block m _ _ rfl rfl
    case pText m cap => rw [paramText_ctx]; exact rd .text m _ _ rfl rfl
    case pArrInt w s cap m => exact hfin _ _ _ rfl (hP.paramArrInt w s cap m hh)
    case rInt w s v b => exact hP.write (.int w v b s) hh
    case rIntN n s v b => exact hP.write (.int 32 _ b s) hh
    case rFloatText t => exact hP.write (.floatText t) hh
    case rBool b => exact hP.write (.bool b) hh
    case rText d => exact hP.write (.text d) hh
    case rChars d => exact hP.write (.chars d) hh
    case rBlock d => exact hP.write (.block d) hh
    case rBlockHeader n => exact hP.write (.blockHeader n) hh
    case rBlockData d =>
      have h1 := hP.write (.blockData d) hh
      split
      · exact hP.fail (-310) (by decide) h1
      · exact h1
    case rArrBin sz es same =>
      have h1 := hP.write (.arrBin es sz same) hh
      split
      · exact hP.fail (-310) (by decide) h1
      · exact h1
    case ePush code info => exact hP.pushError code info 0 (.inr (hop code info rfl)) hh
    case iTag => exact hP.emit _ rfl hh
    case iNums n d =>
      split
      · exact hP.emit _ rfl hh
      · exact hh
    case iIsCmd s => exact hP.emit _ rfl hh
    case iMatch pat s => exact hP.emit _ rfl hh
    case onFail s => exact hh
    case ret ok => exact hh
    case builtin b =>
      have h1 := hP.runBuiltin b hh
      split <;> exact h1

theorem runScript {c : Ctx} (s : List SOp) (hs : ∀ op ∈ s, ∀ code info, op = SOp.ePush code info → codes code)
    (h : P c) : P (Ctx.runScript c s).1 := by
  unfold Ctx.runScript
  suffices ∀ st : HState, P st.c → P (s.foldl Ctx.runOp st).c from this _ h
  induction s with
  | nil => exact fun _ h => h
  | cons op s ih =>
    exact fun st h => ih (fun o ho => hs o (List.mem_cons_of_mem _ ho)) _
      (hP.runOp op (hs op List.mem_cons_self) h)

theorem pcBody {c : Ctx}
    (hs : ∀ cmd, c.cur = some cmd → ∀ op ∈ cmd.script, ∀ code info, op = SOp.ePush code info → codes code)
    (h : P (Stage.enter c)) : P (pcBody c).1 := by
  cases hc : c.cur with
  | none =>
    rw [Stage.pcBody_none hc]
    rwa [Stage.enter, hc] at h
  | some cmd =>
    have h2 := hP.runScript cmd.script (hs cmd hc) h
    rw [Stage.pcBody_some hc]
    unfold Stage.pcVerdict
    split
    · split
      · exact hP.fail (-200) (by decide) h2
      · exact h2
    · exact h2

/-- `processCommand`, for a `P` that does not look at the response: the counters of the response are reset before the
handler runs and closed after it -/
theorem processCommand {c : Ctx} (hout : ∀ {c : Ctx} (o : Result.Out), P c → P { c with out := o })
    (hs : ∀ cmd, c.cur = some cmd → ∀ op ∈ cmd.script, ∀ code info, op = SOp.ePush code info → codes code)
    (h : P (Stage.enter (pcReset c))) : P (Ctx.processCommand c).1 := by
  have h1 := hP.pcBody (c := pcReset c) hs h
  rw [processCommand_eq]
  unfold pcTail
  split
  · exact hP.fail (-108) (by decide) (hout _ h1)
  · exact hout _ h1

end ApiInv

namespace ApiClosed
variable {codes : Int → Prop} {P : Ctx → Prop} (hP : ApiClosed codes P)
include hP

theorem parameter {c : Ctx} (mand : Bool) (h : P c) : P (Ctx.parameter c mand).1 := hP.inv.parameter mand h

theorem processCommand {c : Ctx}
    (hs : ∀ cmd, c.cur = some cmd → ∀ op ∈ cmd.script, ∀ code info, op = SOp.ePush code info → codes code)
    (h : P (Stage.enter (pcReset c))) : P (Ctx.processCommand c).1 := hP.inv.processCommand hP.out hs h

end ApiClosed

/-- a predicate on contexts that survives what the unit loop of SCPI_Parse does itself: an error of the dispatcher, the
in-place composition of a header (`core`), a whole unit handed to `processCommand` -/
structure LoopInv (P : Ctx → Prop) : Prop where
  pushError : ∀ {c : Ctx} (code : Int) (info : Option Bytes) (n : Nat), P c → P (pushError c code info n)
  core : ∀ {c : Ctx} (buf : Bytes) (oob : Bool), P c → P { c with buf := buf, oob := oob }
  unit : ∀ {c : Ctx} (base dptr dlen : Nat) (cmd : Cmd) (cur : Nat × Nat), P c →
    P (Ctx.processCommand (setUnit base dptr dlen cmd cur c)).1

namespace LoopInv
variable {P : Ctx → Prop} (hP : LoopInv P)
include hP

theorem stepCore {c : Ctx} (base : Nat) (prev : Option (Nat × Nat)) (res : Bool) (u : Parser.Unit) (h : P c) :
    P (Stage.stepCore c base prev res u).1 := by
  have hs := Stage.stepCore_step c base prev res u
  generalize Stage.stepCore c base prev res u = x at hs
  cases hs
  case invalid | separator => dsimp only; exact hP.pushError _ _ _ h
  case noHeader => exact h
  case header =>
    unfold Isolation.unitCmd
    split <;> dsimp only [Stage.compose]
    · exact hP.unit _ _ _ _ _ (hP.core _ _ h)
    · exact hP.pushError _ _ _ (hP.core _ _ h)

theorem parseLoop : ∀ (fuel : Nat) {c : Ctx} (base len : Nat) (prev : Option (Nat × Nat)) (res : Bool),
    P c → P (Ctx.parseLoop fuel c base len prev res).1 := by
  intro fuel
  induction fuel with
  | zero => intro c _ _ _ _ h; exact hP.core c.buf true h
  | succ fuel ih =>
    intro c base len prev res h
    have h1 := hP.stepCore base prev res (Parser.detectUnit ((c.buf.drop base).take len)) h
    rw [Stage.parseLoop_succ]
    split
    · exact ih _ _ _ _ h1
    · exact h1

end LoopInv

end ScpiVerif.Lemmas.Api
