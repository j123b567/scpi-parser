/-
What every result writer of Model/Result.lean is made of: the delimiter in closed form, the base prefix, the
integer formatter on the scratch buffers the writers hand to it, which never truncate, the binary array as a block header
and its data calls, the string of SCPI_ResultError as one write.  The declarations are in the namespaces of their users,
`Blocks` and `Framing`.
-/
import ScpiVerif.Model.Result
import ScpiVerif.Spec.Message
import ScpiVerif.Lemmas.IntFmt

namespace ScpiVerif.Lemmas.Blocks
open ScpiVerif ScpiVerif.Lexer ScpiVerif.Result

def sepOf (o : Out) : Bytes := if o.outputCount > 0 then [44] else if o.outputCount < 0 then [59] else []

/-- the data calls of produceResultArrayBinary: one for the whole array where no byte moves, otherwise one per element
(SCPI_SwapNN), after a zero-length one for an empty array, which still has to complete the block -/
def arrayChunks (es : List Bytes) (sz : Nat) (same : Bool) : List Bytes :=
  if same = true ∨ sz = 1 then [es.flatten] else (if es.isEmpty then [[]] else []) ++ es.map List.reverse

theorem resultArrayBinary_eq (o : Out) (es : List Bytes) (sz : Nat) (same : Bool) :
    resultArrayBinary o es sz same =
      if sz = 1 ∨ sz = 2 ∨ sz = 4 ∨ sz = 8 then
        (arrayChunks es sz same).foldl resultBlockData
          (resultBlockHeader o (if same then es.flatten.length else es.length * sz))
      else { o with pushed := o.pushed ++ [-310] } := by
  unfold resultArrayBinary arrayChunks
  by_cases hsz : sz = 1 ∨ sz = 2 ∨ sz = 4 ∨ sz = 8
  · rw [if_pos hsz, if_neg (by simp only [beq_iff_eq, Bool.not_eq_true', decide_eq_false_iff_not, Decidable.not_not]; exact hsz)]
    cases same
    · by_cases h1 : sz = 1
      · simp [h1]
      · cases es <;> simp [h1, List.foldl_map]
    · simp [resultBlock]
  · rw [if_neg hsz, if_pos (by simp only [beq_iff_eq, Bool.not_eq_true', decide_eq_false_iff_not]; exact hsz)]

end ScpiVerif.Lemmas.Blocks

namespace ScpiVerif.Lemmas.Framing
open ScpiVerif ScpiVerif.Lexer ScpiVerif.Result

theorem writeDelimiter_eq (o : Out) :
    writeDelimiter o =
      { o with gPartial := o.gPartial || !o.gCur.isEmpty,
               outputCount := if o.outputCount < 0 then 0 else o.outputCount,
               written := o.written ++ Blocks.sepOf o } := by
  unfold writeDelimiter writeSep Blocks.sepOf
  by_cases h1 : o.outputCount > 0
  · have : ¬ o.outputCount < 0 := by omega
    simp [h1, this]
  · by_cases h2 : o.outputCount < 0
    · simp [h1, h2]
    · simp [h1, h2]

theorem basePrefix_eq (base : Int) :
    basePrefix base =
      (if base = 2 then Spec.Message.bytesOf "#B" else if base = 8 then Spec.Message.bytesOf "#Q"
       else if base = 16 then Spec.Message.bytesOf "#H" else []) := by
  unfold basePrefix
  by_cases h2 : base = 2
  · subst h2; rfl
  · by_cases h8 : base = 8
    · subst h8; rfl
    · by_cases h16 : base = 16
      · subst h16; rfl
      · have e2 : ((2 : Int) == base) = false := by simpa using fun h => h2 h.symm
        have e8 : ((8 : Int) == base) = false := by simpa using fun h => h8 h.symm
        have e16 : ((16 : Int) == base) = false := by simpa using fun h => h16 h.symm
        simp [Gen.basePrefixes, e2, e8, e16, h2, h8, h16]

theorem toStr_chars (w : Nat) (hw : w = 32 ∨ w = 64) (v : Nat) (hv : v < 2^w) (base : Int) (sign : Bool) :
    (IntFmt.toStrBaseSign w (if w == 32 then tbl32 else tbl64) v
        (if w == 32 then Gen.bufU32 else Gen.bufU64) base sign).1.chars = IntFmt.canon w v base sign := by
  have hlen := Lemmas.IntFmt.canon_length_le (by omega) v base sign hv
  rcases hw with rfl | rfl
  · have := (Lemmas.IntFmt.toStr_spec 32 tbl32 (.inl rfl) Lemmas.IntFmt.div32_ok v Gen.bufU32 base sign hv).1
    simp only [beq_self_eq_true, if_true]
    rw [this, List.take_of_length_le]
    have : Gen.bufU32 = 33 := rfl
    omega
  · have := (Lemmas.IntFmt.toStr_spec 64 tbl64 (.inr rfl) Lemmas.IntFmt.div64_ok v Gen.bufU64 base sign hv).1
    have h : ((64 : Nat) == 32) = false := by decide
    simp only [h, Bool.false_eq_true, if_false]
    rw [this, List.take_of_length_le]
    have : Gen.bufU64 = 65 := rfl
    omega

theorem specDigits10_len {n : Nat} (h : n < 10^9) :
    1 ≤ (IntFmt.specDigits 10 n).length ∧ (IntFmt.specDigits 10 n).length ≤ 9 :=
  ⟨List.length_pos_iff.2 (Lemmas.IntFmt.specDigits_ok (by omega) (by omega) n).ne,
    Lemmas.IntFmt.specDigits_length_le_pow (by omega) (by omega) h⟩

theorem blockHeader_chars {n : Nat} (h : n < 10^9) :
    (IntFmt.toStrBaseSign 32 tbl32 (n % 2^32) Gen.blockHeaderLen Gen.blockHeaderBase false).1.chars =
      IntFmt.specDigits 10 n := by
  have hn : n % 2^32 = n := Nat.mod_eq_of_lt (by omega)
  have hv : n < 2^32 := by omega
  rw [hn, (Lemmas.IntFmt.toStr_spec 32 tbl32 (.inl rfl) Lemmas.IntFmt.div32_ok n Gen.blockHeaderLen
        Gen.blockHeaderBase false hv).1]
  have hc : IntFmt.canon 32 n (Gen.blockHeaderBase : Nat) false = IntFmt.specDigits 10 n := by
    simp [IntFmt.canon, IntFmt.effBase, Gen.blockHeaderBase]
  rw [hc, List.take_of_length_le]
  have := (specDigits10_len h).2
  have : Gen.blockHeaderLen = 10 := rfl
  omega

theorem writeData_nil (o : Out) : writeData o [] = o := by
  simp [writeData]

theorem writeData_writeData (o : Out) (a b : Bytes) : writeData (writeData o a) b = writeData o (a ++ b) := by
  simp [writeData]

/-- The inner loop of SCPI_ResultError does nothing to the output state but `writeData`, and neither what it writes nor
what it leaves of the part and the budget depends on that state. -/
theorem errPartLoop_appends : ∀ (fuel : Nat) (d : Bytes) (len lim : Nat),
    ∃ (x : Bytes) (r : Bytes × Nat × Nat), ∀ o, errPartLoop fuel o d len lim = (writeData o x, r)
  | 0, d, len, lim => ⟨[], (d, len, lim), fun o => by rw [errPartLoop, writeData_nil]⟩
  | fuel + 1, d, len, lim => by
    unfold errPartLoop
    cases quotePos d len with
    | none => exact ⟨[], (d, len, lim), fun o => by rw [writeData_nil]⟩
    | some q =>
      dsimp only
      split
      · exact ⟨[], _, fun o => by rw [writeData_nil]⟩
      · obtain ⟨x, r, h⟩ := errPartLoop_appends fuel (d.drop (q + 1))
          (if len - (q + 1) > lim - (q + 1 + 1) then lim - (q + 1 + 1) else len - (q + 1)) (lim - (q + 1 + 1))
        exact ⟨d.take (q + 1) ++ ([34] ++ x), r, fun o => by rw [h, writeData_writeData, writeData_writeData]⟩

/-- The same of the loop over the parts: `pos` is the one thing it reads of the state (`writeSemicolon`), and no write
changes it. -/
theorem errParts_appends : ∀ (ps : List (Option Bytes)) (i lim : Nat) (pos : Bool),
    ∃ x : Bytes, ∀ o, decide (o.outputCount > 0) = pos → errParts i ps o lim = writeData o x
  | [], i, lim, pos => ⟨[], fun o _ => by rw [errParts, writeData_nil]⟩
  | none :: ps, i, lim, pos => ⟨[], fun o _ => by rw [errParts, writeData_nil]⟩
  | some d :: ps, i, lim, pos => by
    by_cases hl : lim = 0
    · exact ⟨[], fun o _ => by rw [errParts, if_pos hl, writeData_nil]⟩
    · -- the optional ';' and the budget behind it
      let s : Bytes := if i == 1 ∧ pos then [59] else []
      let lim1 := if i == 1 then lim - 1 else lim
      obtain ⟨x, r, hx⟩ := errPartLoop_appends (d.length + 1) d (if d.length > lim1 then lim1 else d.length) lim1
      obtain ⟨y, hy⟩ := errParts_appends ps (i + 1) (r.2.2 - r.2.1) pos
      refine ⟨s ++ (x ++ (r.1.take r.2.1 ++ y)), fun o ho => ?_⟩
      have hs : (if i == 1 then ((if o.outputCount > 0 then writeData o [59] else o), lim - 1) else (o, lim)) =
          (writeData o s, lim1) := by
        simp only [s, lim1]
        by_cases hi : (i == 1) = true
        · by_cases hp : o.outputCount > 0
          · simp [hi, hp, ← ho]
          · simp [hi, hp, ← ho, writeData_nil]
        · simp [hi, writeData_nil]
      rw [errParts, if_neg hl]
      simp only [hs, hx]
      rw [hy (writeData (writeData (writeData o s) x) (r.1.take r.2.1)) ho, writeData_writeData, writeData_writeData,
        writeData_writeData]

end ScpiVerif.Lemmas.Framing
