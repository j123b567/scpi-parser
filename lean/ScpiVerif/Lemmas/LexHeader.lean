/-
The program header, in the shape of the decimal number.  `headerSpec s` is the header at the start of `s` in closed form, over the
greedy lengths `header_mlen` (a mnemonic), `header_G` (`(:mnemonic)*`) and `header_P` (the whole path).  The loops of the model
compute these lengths, hence `lexProgramHeader_eq : lexProgramHeader buf pos = found pos (headerSpec ..)`; the lengths are greedy, so
the longest match of each of the three header languages is known and the selection `header_sel` of Lemmas/LexCalc.lean comes out the
same (`specToken_header`); the two give `programHeader_eq`.
-/
import ScpiVerif.Lemmas.LexCalc

namespace ScpiVerif.Lemmas.Lexer
open ScpiVerif ScpiVerif.Lexer ScpiVerif.Spec ScpiVerif.Lemmas.Regex
open ScpiVerif.Spec.Re (opt plus nullable deriv longest)

section header_token

local notation "headerAl" => (fun b : UInt8 => isAlnum b || b == 95)

def header_mlen (t : Bytes) : Nat := if hd t isAlpha = true then 1 + tw headerAl (t.drop 1) else 0

theorem header_mlen_le (t : Bytes) : header_mlen t ≤ t.length := by
  unfold header_mlen
  split
  · have := tw_le_length headerAl (t.drop 1)
    have := hd_length ‹_›
    simp at *; omega
  · omega

theorem header_mlen_pos {t : Bytes} : 0 < header_mlen t ↔ hd t isAlpha = true := by
  by_cases h : hd t isAlpha = true
  · simp [header_mlen, h]; omega
  · simp [header_mlen, h]

theorem header_mlen_zero {t : Bytes} : header_mlen t = 0 ↔ hd t isAlpha = false := by
  unfold header_mlen; split <;> simp [*]

theorem header_mlen_end {t : Bytes} (h : 0 < header_mlen t) : hd (t.drop (header_mlen t)) headerAl = false := by
  unfold header_mlen at h ⊢
  split at h
  · rename_i ha
    rw [if_pos ha]
    have := hd_drop_tw headerAl (t.drop 1)
    rw [List.drop_drop] at this
    exact this
  · omega

def header_S : Re := .star (.seq (Re.c 58) mnemonic)

def header_path : Re := .seq (opt (Re.c 58)) (.seq mnemonic header_S)

/-- a scan of the path that stops before one of these has stopped early -/
def pathByte (b : UInt8) : Bool := headerAl b || b == 58

theorem header_alpha_ne_star : ∀ b : UInt8, isAlpha b = true → (b == 42) = false := class_ne_beq (by decide)
theorem header_colon_ne_star : ∀ b : UInt8, (b == 58) = true → (b == 42) = false := class_of_beq (by decide)

def header_G (t : Bytes) : Nat :=
  if h : hd t (· == 58) = true ∧ 0 < header_mlen (t.drop 1) then
    1 + header_mlen (t.drop 1) + header_G (t.drop (1 + header_mlen (t.drop 1)))
  else 0
termination_by t.length
decreasing_by have := hd_length h.1; simp only [List.length_drop]; omega

theorem header_G_nil : header_G [] = 0 := by
  rw [header_G]; exact dif_neg fun h => Bool.false_ne_true h.1

/-- greedy length of the path `:? mnemonic (:mnemonic)*` -/
def header_P (s : Bytes) : Nat :=
  let a := if hd s (· == 58) = true then 1 else 0
  if 0 < header_mlen (s.drop a) then a + (header_mlen (s.drop a) + header_G ((s.drop a).drop (header_mlen (s.drop a)))) else 0

theorem header_P_zero {s : Bytes} (h : header_P s = 0) :
    header_mlen (s.drop (if hd s (· == 58) = true then 1 else 0)) = 0 := by
  unfold header_P at h
  dsimp only at h
  by_cases hM : 0 < header_mlen (s.drop (if hd s (· == 58) = true then 1 else 0))
  · rw [if_pos hM] at h; omega
  · omega

/-- a complete header of `n0` bytes and the `?` that may follow -/
def headerDone (s : Bytes) (n0 : Nat) : Option Expect :=
  some ⟨n0 + if hd (s.drop n0) (· == 63) = true then 1 else 0,
    if hd s (· == 42) = true then (if hd (s.drop n0) (· == 63) = true then .commonQueryHeader else .commonHeader)
    else (if hd (s.drop n0) (· == 63) = true then .compoundQueryHeader else .compoundHeader), 0,
    n0 + if hd (s.drop n0) (· == 63) = true then 1 else 0⟩

def headerSpec (s : Bytes) : Option Expect :=
  if hd s (· == 42) = true then
    if header_mlen (s.drop 1) = 0 then some ⟨1, .incompleteCommonHeader, 0, 1⟩
    else headerDone s (1 + header_mlen (s.drop 1))
  else if header_P s = 0 then (if hd s (· == 58) = true then some ⟨1, .incompleteCompoundHeader, 0, 1⟩ else none)
  else if hd (s.drop (header_P s)) (· == 58) = true then
    some ⟨header_P s + 1, .incompleteCompoundHeader, 0, header_P s + 1⟩
  else headerDone s (header_P s)

theorem header_skipMn_pos (buf : Bytes) (p : Nat) :
    (if peekP buf p isAlpha = true then skipMany buf (p + 1) headerAl else p) = p + header_mlen (buf.drop p) := by
  unfold header_mlen
  lex_rel
  split <;> omega

theorem header_skipMn (buf : Bytes) (p : Nat) :
    skipProgramMnemonic buf p =
      (p + header_mlen (buf.drop p),
        if (buf.drop (p + header_mlen (buf.drop p))).length = 0 then -((header_mlen (buf.drop p) : Nat) : Int)
        else ((header_mlen (buf.drop p) : Nat) : Int)) := by
  unfold skipProgramMnemonic
  simp only [header_skipMn_pos, iseos_eq, decide_eq_true_eq]
  split
  · congr 1; omega
  · congr 1; omega

theorem header_loop_eos (buf : Bytes) (fuel p : Nat) (h : (buf.drop p).length = 0) :
    compoundLoop buf fuel p = (p, 1) := by
  cases fuel with
  | zero => rfl
  | succ fuel => rw [compoundLoop, peekP_eq, List.eq_nil_of_length_eq_zero h]; rfl

/-- at the end of the input the C loop returns at once; the next round would do the same -/
theorem header_loop_step (buf : Bytes) (fuel p : Nat) :
    compoundLoop buf (fuel + 1) p =
      if hd (buf.drop p) (· == 58) = true then
        (if header_mlen (buf.drop (p + 1)) = 0 then (p + 1, -1)
         else compoundLoop buf fuel (p + 1 + header_mlen (buf.drop (p + 1))))
      else (p, 1) := by
  rw [compoundLoop, peekP_eq, header_skipMn]
  by_cases hc : hd (buf.drop p) (· == 58) = true
  · simp only [hc, if_true]
    by_cases hM : header_mlen (buf.drop (p + 1)) = 0
    · simp [hM]
    · simp only [hM, if_false]
      by_cases he : (buf.drop (p + 1 + header_mlen (buf.drop (p + 1)))).length = 0
      · simp only [he, if_true]
        rw [if_pos (by omega), header_loop_eos _ _ _ he]
      · simp only [he, if_false]
        rw [if_neg (by omega), if_neg (by simp; omega)]
  · simp only [hc]; simp

/-- the `while (skipColon)` loop follows the greedy path of `(:mnemonic)*`; it reports -1 exactly when the path is
followed by one more (dangling) colon, which it consumes -/
theorem header_loop_eq (buf : Bytes) (fuel p : Nat) (hf : buf.length - p < fuel) :
    compoundLoop buf fuel p =
      if hd ((buf.drop p).drop (header_G (buf.drop p))) (· == 58) = true then (p + header_G (buf.drop p) + 1, -1)
      else (p + header_G (buf.drop p), 1) := by
  induction fuel generalizing p with
  | zero => omega
  | succ fuel ih =>
    rw [header_loop_step, header_G, drop_add buf p 1]
    by_cases hc : hd (buf.drop p) (· == 58) = true
    · have hl := hd_length hc
      by_cases hM : header_mlen ((buf.drop p).drop 1) = 0
      · rw [if_pos hc, if_pos hM, dif_neg (by omega), List.drop_zero, if_pos hc]
      · rw [if_pos hc, if_neg hM, dif_pos ⟨hc, by omega⟩, ih _ (by simp at hl; omega), Nat.add_assoc p, drop_add,
          List.drop_drop]
        simp only [Nat.add_assoc]
    · rw [if_neg hc, dif_neg (fun h => hc h.1), List.drop_zero, if_neg hc]; rfl

theorem header_skipCommon (buf : Bytes) (pos : Nat) :
    skipCommonProgramHeader buf pos =
      if hd (buf.drop pos) (· == 42) = true then
        (pos + 1 + header_mlen (buf.drop (pos + 1)), if 0 < header_mlen (buf.drop (pos + 1)) then 1 else -1)
      else (pos, 0) := by
  unfold skipCommonProgramHeader
  rw [peekP_eq, header_skipMn]
  by_cases hs : hd (buf.drop pos) (· == 42) = true
  · simp only [hs, if_true]
    by_cases hM : header_mlen (buf.drop (pos + 1)) = 0
    · simp [hM]
    · by_cases he : (buf.drop (pos + 1 + header_mlen (buf.drop (pos + 1)))).length = 0
      · simp only [he, if_true]
        rw [if_neg (by simp; omega), if_pos (by omega), if_pos (by omega)]
      · simp only [he, if_false]
        rw [if_neg (by simp; omega), if_neg (by omega), if_pos (by omega), if_pos (by omega)]
  · simp only [hs]; simp

theorem header_skipCompound_eq (buf : Bytes) (pos : Nat) :
    skipCompoundProgramHeader buf pos =
      if header_P (buf.drop pos) = 0 then
        (pos + (if hd (buf.drop pos) (· == 58) = true then 1 else 0), if hd (buf.drop pos) (· == 58) = true then -1 else 0)
      else if hd ((buf.drop pos).drop (header_P (buf.drop pos))) (· == 58) = true then (pos + header_P (buf.drop pos) + 1, -1)
      else (pos + header_P (buf.drop pos), 1) := by
  obtain ⟨a, ha⟩ : ∃ a, a = if hd (buf.drop pos) (· == 58) = true then 1 else 0 := ⟨_, rfl⟩
  unfold skipCompoundProgramHeader header_P
  simp only [skipChr_eq, ← ha, header_skipMn, header_loop_eq buf _ _ (Nat.lt_succ_self _), drop_add]
  generalize buf.drop pos = s at *
  have hdrop : ∀ G, s.drop (a + (header_mlen (s.drop a) + G)) = ((s.drop a).drop (header_mlen (s.drop a))).drop G :=
    fun G => by simp only [List.drop_drop, Nat.add_assoc]
  generalize header_mlen (s.drop a) = M at *
  by_cases hM : M = 0
  · subst hM
    cases hc : hd s (· == 58) <;> simp [hc] at ha <;> subst ha <;> simp
  · have hpos : 0 < M := by omega
    simp only [if_pos hpos, hdrop]
    rw [if_neg (show ¬ a + (M + header_G ((s.drop a).drop M)) = 0 by omega)]
    generalize (s.drop a).drop M = t
    by_cases he : t.length = 0
    · rw [List.eq_nil_of_length_eq_zero he, header_G_nil]
      simp only [List.length_nil, if_true, List.drop_nil, hd_nil, Bool.false_eq_true, if_false, Nat.add_zero]
      rw [if_neg (by omega), if_pos (by omega), Nat.add_assoc]
    · simp only [he, if_false]
      rw [if_pos (by omega)]
      split <;> simp only [Prod.mk.injEq, and_true] <;> omega

theorem lexProgramHeader_eq (buf : Bytes) (pos : Nat) :
    lexProgramHeader buf pos = found pos (headerSpec (buf.drop pos)) := by
  unfold lexProgramHeader headerSpec headerDone
  cases hstar : hd (buf.drop pos) (· == 42)
  · simp only [header_skipCommon, hstar, Bool.false_eq_true, if_false, header_skipCompound_eq]
    by_cases hP : header_P (buf.drop pos) = 0
    · simp only [hP, if_true]
      cases hc : hd (buf.drop pos) (· == 58) <;> simp [found, mkTok]
      omega
    · by_cases hD : hd (buf.drop (pos + header_P (buf.drop pos))) (· == 58) = true
      · simp [hP, hD, found, mkTok]
        omega
      · by_cases hq : hd (buf.drop (pos + header_P (buf.drop pos))) (· == 63) = true
        · simp [hP, hD, hq, found, mkTok, skipChr_eq]
          omega
        · simp [hP, hD, hq, found, mkTok, skipChr_eq]
          omega
  · by_cases hM : header_mlen (buf.drop (pos + 1)) = 0
    · simp [header_skipCommon, hstar, hM, found, mkTok]
      omega
    · have e : pos + (1 + header_mlen (buf.drop (pos + 1))) = pos + 1 + header_mlen (buf.drop (pos + 1)) := by omega
      by_cases hq : hd (buf.drop (pos + 1 + header_mlen (buf.drop (pos + 1)))) (· == 63) = true
      · simp [header_skipCommon, hstar, hM, Nat.pos_of_ne_zero hM, e, hq, found, mkTok, skipChr_eq]
        omega
      · simp [header_skipCommon, hstar, hM, Nat.pos_of_ne_zero hM, e, hq, found, mkTok, skipChr_eq]
        omega

theorem header_mn {t : Bytes} (h : 0 < header_mlen t) : Greedy mnemonic headerAl t (header_mlen t) := by
  have ha := header_mlen_pos.1 h
  rw [header_mlen, if_pos ha]; exact .chr_seq ha .star_chr

theorem header_first {X : Re} : ∀ (t : Bytes) (j : Nat), PM (.seq mnemonic X) t j → hd t isAlpha = true :=
  (First.seq_left rfl .chr_seq).hd rfl

theorem header_no_mn {t : Bytes} (h : header_mlen t = 0) {X : Re} (j : Nat) : ¬ PM (.seq mnemonic X) t j := fun hj => by
  obtain ⟨_, _, _, hm, _⟩ := PM_seq.1 hj
  have := header_mlen_pos.2 (PM_mnemonic.1 hm).1; omega

theorem header_G_greedy (t : Bytes) : Greedy header_S pathByte t (header_G t) := by
  rw [header_G]
  split
  · next h =>
    have := hd_length h.1
    exact .star_cons (.chr_seq h.1 (header_mn h.2)) (by omega) (header_G_greedy _) .chr_seq
      (class_ne_beq (by decide)) (by simp +contextual [pathByte]) (by simp +contextual [pathByte])
  · next h =>
    refine .star_nil fun j hj => ?_
    cases hc : hd t (· == 58)
    · exact First.chr_seq.eq_zero hc hj
    · obtain ⟨i, k, _, hi, hk⟩ := PM_seq.1 hj
      obtain ⟨rfl, _⟩ := PM_chr.1 hi
      exact absurd ⟨hc, header_mlen_pos.2 (PM_mnemonic.1 hk).1⟩ h
termination_by t.length
decreasing_by simp only [List.length_drop]; omega

theorem header_PM_path {X : Re} {s : Bytes} {n : Nat} :
    PM (.seq (opt (Re.c 58)) (.seq mnemonic (.seq header_S X))) s n ↔ PM (.seq header_path X) s n := by
  unfold header_path
  simp only [PM_seq, List.drop_drop]
  constructor
  · rintro ⟨i, _, rfl, hi, j, _, rfl, hj, k, l, rfl, hk, hl⟩
    exact ⟨i + (j + k), l, by omega, ⟨i, j + k, rfl, hi, j, k, rfl, hj, hk⟩, by rwa [← Nat.add_assoc]⟩
  · rintro ⟨_, l, rfl, ⟨i, _, rfl, hi, j, k, rfl, hj, hk⟩, hl⟩
    exact ⟨i, j + k + l, by omega, hi, j, k + l, by omega, hj, k, l, rfl, hk, by rwa [← Nat.add_assoc] at hl⟩

theorem header_no_star {s : Bytes} (hstar : hd s (· == 42) = false) {X : Re} (n : Nat) :
    ¬ PM (.seq (Re.c 42) X) s n := fun hn => by
  obtain ⟨i, _, _, hi, _⟩ := PM_seq.1 hn
  rw [Re.c, PM_chr, hstar] at hi; simp at hi

section header_compound
variable {s : Bytes} {a P : Nat}

theorem header_no_path (ha : a = if hd s (· == 58) = true then 1 else 0) (hM : header_mlen (s.drop a) = 0)
    {X : Re} (n : Nat) : ¬ PM (.seq (opt (Re.c 58)) (.seq mnemonic X)) s n := fun hn => by
  subst ha
  obtain ⟨j, _, hj⟩ := (Greedy.opt_chr.seq_iff header_first (class_of_beq (by decide))).1 hn
  exact header_no_mn hM j hj

theorem header_path_greedy (ha : a = if hd s (· == 58) = true then 1 else 0) (hM : 0 < header_mlen (s.drop a))
    {G : Nat} (hG : Greedy header_S pathByte ((s.drop a).drop (header_mlen (s.drop a))) G) :
    Greedy header_path pathByte s (a + (header_mlen (s.drop a) + G)) := by
  subst ha
  exact .seq .opt_chr (.seq (header_mn hM) hG (.star .chr_seq) (class_ne_beq (by decide)) (by simp +contextual [pathByte]))
    (fun t j h _ => header_first t j h) (class_of_beq (by decide)) (by simp +contextual [pathByte])

theorem header_path_within : reAll (pathByte · = true) header_path := by
  simp +contextual [reAll, header_path, mnemonic, header_S, opt, Re.c, pathByte, isAlnum]

theorem header_comp_compound (hstar : hd s (· == 42) = false) (hP : Greedy header_path pathByte s P) :
    headerComplete.longest s = some (P + if hd (s.drop P) (· == 63) = true then 1 else 0) := by
  have hg : Greedy (.seq header_path (opt (Re.c 63))) (fun c => pathByte c || c == 63) s
      (P + if hd (s.drop P) (· == 63) = true then 1 else 0) :=
    .seq hP (.mono (by simp +contextual) .opt_chr) (.opt .chr) (class_ne_beq (by decide)) (by simp +contextual)
  refine longest_eq_some (PM_alt.2 (.inr (header_PM_path.2 hg.mem))) fun n hn => ?_
  rcases PM_alt.1 hn with hn | hn
  · exact absurd hn (header_no_star hstar n)
  · exact hg.le (header_PM_path.1 hn)

theorem header_incP_bound (hP : Greedy header_path pathByte s P) (hpos : 0 < P) (n : Nat)
    (hn : PM headerIncompleteCompound s n) : n ≤ P + if hd (s.drop P) (· == 58) = true then 1 else 0 := by
  rcases PM_alt.1 hn with hn | hn
  · have := (PM_chr.1 hn).1; omega
  · obtain ⟨i, j, rfl, hi, hj⟩ := PM_seq.1 (header_PM_path.1 hn)
    obtain ⟨rfl, hc⟩ := PM_chr.1 hj
    have := hP.le hi
    by_cases hiP : i = P
    · subst hiP; simp [hc]
    · omega

theorem header_incP_mem (hP : Greedy header_path pathByte s P) (hc : hd (s.drop P) (· == 58) = true) :
    PM headerIncompleteCompound s (P + 1) :=
  PM_alt.2 (.inr (header_PM_path.2 (PM_seq.2 ⟨P, 1, rfl, hP.mem, PM_chr.2 ⟨rfl, hc⟩⟩)))

end header_compound

theorem header_P_greedy {s : Bytes} (h : header_P s ≠ 0) : Greedy header_path pathByte s (header_P s) := by
  unfold header_P at h ⊢
  dsimp only at h ⊢
  by_cases hM : 0 < header_mlen (s.drop (if hd s (· == 58) = true then 1 else 0))
  · rw [if_pos hM]; exact header_path_greedy rfl hM (header_G_greedy _)
  · exact absurd (if_neg hM) h

/-- `hlast`: without the `?` the last byte of the header must not be one for the type to come out right -/
theorem header_sel_complete {s : Bytes} {n0 : Nat} {comp incC incP : Option Nat} (hpos : 0 < n0)
    (hlast : hd (s.drop (n0 - 1)) (· == 63) = false)
    (h1 : comp = some (n0 + if hd (s.drop n0) (· == 63) = true then 1 else 0))
    (h2 : ∀ k, incC = some k → k ≤ n0) (h3 : ∀ k, incP = some k → k ≤ n0) :
    header_sel s comp incC incP = headerDone s n0 := by
  subst h1
  have hb : ([some (n0 + if hd (s.drop n0) (· == 63) = true then 1 else 0), incC, incP].filterMap id).foldl max 0 =
      n0 + if hd (s.drop n0) (· == 63) = true then 1 else 0 := by
    rcases incC with _ | k2 <;> rcases incP with _ | k3 <;> simp at h2 h3 ⊢ <;> omega
  have hstar : (s.head? == some 42) = hd s (· == 42) := by cases s <;> simp
  have hq : ∀ i, (s[i]? == some 63) = hd (s.drop i) (· == 63) := fun i => by
    rw [getElem?_eq_head_drop]; cases s.drop i <;> simp
  unfold header_sel headerDone
  simp only [hb, hstar, hq, beq_self_eq_true, if_true]
  rw [if_neg (by omega)]
  cases hqq : hd (s.drop n0) (· == 63)
  · simp [hlast]
  · simp [hqq]

theorem header_incC_some {s : Bytes} (hstar : hd s (· == 42) = true) : headerIncompleteCommon.longest s = some 1 :=
  longest_eq_some (PM_chr.2 ⟨rfl, hstar⟩) fun _ hm => Nat.le_of_eq (PM_chr.1 hm).1

theorem header_incC_none {s : Bytes} (hstar : hd s (· == 42) = false) : headerIncompleteCommon.longest s = none :=
  longest_eq_none fun m hm => by have := (PM_chr.1 hm).2; rw [hstar] at this; cases this

theorem header_star_dead {s : Bytes} (hstar : hd s (· == 42) = true) {X : Re} (n : Nat) :
    ¬ PM (.seq (opt (Re.c 58)) (.seq mnemonic X)) s n :=
  header_no_path (a := 0) (by rw [hd_disj (class_of_beq (p := (· == 58)) (by decide)) hstar]; rfl)
    (header_mlen_zero.2 (hd_disj (class_of_beq (by decide)) hstar)) n

theorem header_star_incP {s : Bytes} (hstar : hd s (· == 42) = true) : headerIncompleteCompound.longest s = none :=
  longest_eq_none fun m hm => (PM_alt.1 hm).elim
    (fun h => by rw [Re.c, PM_chr, hd_disj (class_of_beq (p := (· == 58)) (by decide)) hstar] at h; simp at h) (header_star_dead hstar m)

theorem header_comp_none {s : Bytes} {a : Nat} (hstar : hd s (· == 42) = false)
    (ha : a = if hd s (· == 58) = true then 1 else 0) (hM : header_mlen (s.drop a) = 0) :
    headerComplete.longest s = none :=
  longest_eq_none fun m hm => (PM_alt.1 hm).elim (header_no_star hstar m) (header_no_path ha hM m)

theorem specToken_header (s : Bytes) : specToken .header s = headerSpec s := by
  rw [header_spec_sel, headerSpec]
  cases hstar : hd s (· == 42)
  · rw [if_neg Bool.false_ne_true, header_incC_none hstar]
    by_cases hP0 : header_P s = 0
    · have hM := header_P_zero hP0
      rw [if_pos hP0, header_comp_none hstar rfl hM]
      cases hc : hd s (· == 58)
      · have e3 : headerIncompleteCompound.longest s = none := longest_eq_none fun m hm => (PM_alt.1 hm).elim
          (fun h => by rw [Re.c, PM_chr, hc] at h; simp at h) (header_no_path rfl hM m)
        rw [e3]; rfl
      · have e3 : headerIncompleteCompound.longest s = some 1 :=
          longest_eq_some (PM_alt.2 (.inl (PM_chr.2 ⟨rfl, hc⟩))) fun m hm => (PM_alt.1 hm).elim
            (fun h => Nat.le_of_eq (PM_chr.1 h).1) (fun h => absurd h (header_no_path rfl hM m))
        rw [e3]; rfl
    · have hP := header_P_greedy hP0
      have hpos : 0 < header_P s := Nat.pos_of_ne_zero hP0
      have hcomp := header_comp_compound hstar hP
      have hinc := fun m hm => header_incP_bound hP hpos m hm
      rw [if_neg hP0]
      cases hD : hd (s.drop (header_P s)) (· == 58)
      · rw [hD] at hinc
        exact header_sel_complete hpos
          (hd_disj (class_ne_beq (x := 63) (by decide)) (PM_last hP.mem header_path_within hpos)) hcomp
          (fun k h => by cases h) (longest_le_of_bound hinc)
      · rw [hD] at hinc
        rw [hd_disj (class_of_beq (p := (· == 63)) (by decide)) hD] at hcomp
        rw [hcomp, longest_eq_some (header_incP_mem hP hD) hinc]
        simp [header_sel]
  · rw [if_pos rfl, header_incC_some hstar, header_star_incP hstar]
    by_cases hM : header_mlen (s.drop 1) = 0
    · have e1 : headerComplete.longest s = none := longest_eq_none fun m hm => (PM_alt.1 hm).elim
        (fun h => by
          obtain ⟨i, j, _, hi, hj⟩ := PM_seq.1 h
          obtain ⟨rfl, _⟩ := PM_chr.1 hi
          exact header_no_mn hM j hj) (header_star_dead hstar m)
      rw [if_pos hM, e1]; rfl
    · rw [if_neg hM]
      have hmn := header_mn (Nat.pos_of_ne_zero hM)
      have hg : Greedy (.seq (Re.c 42) (.seq mnemonic (opt (Re.c 63)))) (fun c => headerAl c || c == 63) s _ :=
        .chr_seq hstar (.seq hmn (.mono (by simp +contextual) .opt_chr) (.opt .chr)
          (class_ne_beq (by decide)) (by simp +contextual))
      rw [List.drop_drop, ← Nat.add_assoc] at hg
      exact header_sel_complete (by omega)
        (hd_disj (class_ne_beq (x := 63) (by decide))
          (PM_last (c := fun b => b == 42 || headerAl b) (r := .seq (Re.c 42) mnemonic)
            (PM_seq.2 ⟨1, _, rfl, PM_chr.2 ⟨rfl, hstar⟩, hmn.mem⟩)
            (by simp +contextual [reAll, mnemonic, Re.c, isAlnum]) (by omega)))
        (longest_eq_some (PM_alt.2 (.inl hg.mem)) fun m hm =>
          (PM_alt.1 hm).elim hg.le fun h => absurd h (header_star_dead hstar m))
        (fun k h => by cases h; omega) (fun k h => by cases h)

theorem programHeader_eq (buf : Bytes) (pos : Nat) :
    lexProgramHeader buf pos = found pos (specToken .header (buf.drop pos)) := by
  rw [specToken_header, lexProgramHeader_eq]

end header_token

end ScpiVerif.Lemmas.Lexer
