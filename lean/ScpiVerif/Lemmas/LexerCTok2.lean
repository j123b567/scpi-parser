/-
Part 3 of the refinement of ScpiVerif.Lexer by the text generated from lexer.c: the recognisers whose loops are not plain
character-class skips (suffix, program headers, expressions, strings, blocks); statement as in Lemmas/LexerCTok.lean.  Such a
loop is compared with the generic fuel-recursive loop `loopM` on the cursors (`whileC_jump`), in which the model's `suffixLoop`,
`compoundLoop` and `skipQuote` are expressed; the counted digit loop of the block has its own lemma (`whileC_block`).
-/
import ScpiVerif.Lemmas.LexerCTok
import ScpiVerif.Lemmas.LexString
import ScpiVerif.Lemmas.LexHeader

namespace ScpiVerif.Lemmas.LexerC
open ScpiVerif ScpiVerif.Gen.LexerC

/-- generic model loop: `c n` - the condition holds at offset `n`; `g n` - cursor after the trip; `e n` - the body returns;
`upd n` - what the trip does to the loop-carried locals -/
def loopM {L ρ : Type} (c : Nat → Bool) (g : Nat → Nat) (e : Nat → Option ρ) (upd : Nat → L → L) : Nat → Nat → L → Nat × L × Option ρ
  | 0, n, l => (n, l, none)
  | f + 1, n, l =>
    if c n then (match e n with | some r => (g n, upd n l, some r) | none => loopM c g e upd f (g n) (upd n l)) else (n, l, none)

theorem loopM_fuel {L ρ : Type} (c : Nat → Bool) (g : Nat → Nat) (e : Nat → Option ρ) (upd : Nat → L → L) (len : Nat)
    (hg : ∀ n, c n = true → n < len ∧ n < g n) :
    ∀ (f1 f2 n : Nat) (l : L), len - n < f1 → len - n < f2 → loopM c g e upd f1 n l = loopM c g e upd f2 n l := by
  intro f1
  induction f1 with
  | zero => intro f2 n l h; omega
  | succ f1 ih =>
    intro f2 n l h1 h2
    cases f2 with
    | zero => omega
    | succ f2 =>
      simp only [loopM]
      cases hc : c n
      · simp
      · have := hg n hc
        simp only [if_true]
        cases e n
        · exact ih f2 (g n) _ (by omega) (by omega)
        · rfl

/-- the generated loops are given `len + 1` trips, the hand model gives its own `len - n + 1` -/
theorem loopM_len {L ρ : Type} {c : Nat → Bool} {g : Nat → Nat} {e : Nat → Option ρ} {upd : Nat → L → L} {len : Nat}
    (hg : ∀ n, c n = true → n < len ∧ n < g n) (n : Nat) (l : L) :
    loopM c g e upd (len + 1) n l = loopM c g e upd (len - n + 1) n l :=
  loopM_fuel c g e upd len hg _ _ n l (by omega) (by omega)

/-- a loop one trip of which, on a clean state at offset `n`, either stops (condition false: state unchanged), or moves the
cursor to `g n > n` and goes on, or moves it to `g n` and returns (`e n = some r`), is `loopM` on the cursors, with the same fuel -/
theorem whileC_jump {L ρ : Type} (cond : CLex → L → CLex × Bool) (body : CLex → L → CLex × L × Flow ρ)
    (c : Nat → Bool) (g : Nat → Nat) (e : Nat → Option ρ) (upd : Nat → L → L) (buf : Lexer.Bytes)
    (ht : ∀ n l, tripC cond body (st buf n) l =
      if c n then (match e n with
        | some r => (st buf (g n), upd n l, Flow.ret r)
        | none => (st buf (g n), upd n l, Flow.next)) else (st buf n, l, Flow.brk))
    (hg : ∀ n, c n = true → n < buf.length ∧ n < g n)
    (fuel : Nat) (n : Nat) (l : L) (hf : buf.length - n < fuel) :
    whileC cond body fuel (st buf n) l =
      (st buf (loopM c g e upd fuel n l).1, (loopM c g e upd fuel n l).2.1, (loopM c g e upd fuel n l).2.2) := by
  induction fuel generalizing n l with
  | zero => omega
  | succ fuel ih =>
    rw [whileC_succ, ht n l]
    simp only [loopM]
    cases hc : c n
    · simp
    · have := hg n hc
      simp only [if_true]
      cases he : e n
      · simp only []
        exact ih (g n) (upd n l) (by omega)
      · simp

/-- cursor after one trip of the suffix loop that started on a '/' or '.' at offset `n` -/
def suffixStep (buf : Lexer.Bytes) (n : Nat) : Nat :=
  Lexer.skipOne buf (Lexer.skipChr buf (Lexer.skipAlpha buf (n + 1)) 45) Lexer.isDigit

theorem suffixLoop_eq (buf : Lexer.Bytes) (f n : Nat) :
    Lexer.suffixLoop buf f n =
      (loopM (L := Unit) (ρ := Int) (fun n => Lexer.peekP buf n (fun b => b == 47 || b == 46)) (suffixStep buf) (fun _ => none)
        (fun _ _ => ()) f n ()).1 := by
  induction f generalizing n with
  | zero => rfl
  | succ f ih =>
    simp only [Lexer.suffixLoop, loopM]
    split
    · exact ih _
    · rfl

theorem suffixStep_gt (buf : Lexer.Bytes) (n : Nat) : n < suffixStep buf n := by
  have h1 := skipMany_ge buf (n + 1) Lexer.isAlpha
  have h2 := skipOne_ge buf (Lexer.skipAlpha buf (n + 1)) (· == 45)
  have h3 := skipOne_ge buf (Lexer.skipChr buf (Lexer.skipAlpha buf (n + 1)) 45) Lexer.isDigit
  simp only [suffixStep, Lexer.skipChr, Lexer.skipAlpha] at *
  omega

theorem scpiLex_SuffixProgramData_ref (buf : Lexer.Bytes) (n : Nat) (tok : CTok) :
    scpiLex_SuffixProgramData (st buf n) tok = res buf (Lexer.lexSuffix buf n) := by
  simp [scpiLex_SuffixProgramData, Lexer.lexSuffix, lexc_ref, one_val]
  rw [whileC_jump (c := fun n => Lexer.peekP buf n (fun b => b == 47 || b == 46)) (g := suffixStep buf) (e := fun _ => none)
    (upd := fun _ _ => ()) (buf := buf) (hg := ?hg), loopM_len ?hg, ← suffixLoop_eq]
  case ht =>
    intro m l
    cases hp : Lexer.peekP buf m (fun b => b == 47 || b == 46) <;>
      simp [tripC, lexc_ref, one_val, suffixStep, hp, skipOne_pos, skipOne_neg]
  case hg => exact fun k hk => ⟨peekP_lt hk, suffixStep_gt buf k⟩
  case hf => omega
  simp [st_ite, cast_sub_eq_zero, lexc_ref]
  generalize (if _ = Lexer.skipOne buf n _ then _ else Lexer.suffixLoop buf _ _) = p
  split <;> simp [lexc_code]

@[lexc_ref] theorem skipProgramMnemonic_ref (buf : Lexer.Bytes) (n : Nat) :
    skipProgramMnemonic (st buf n) = (st buf (Lexer.skipProgramMnemonic buf n).1, (Lexer.skipProgramMnemonic buf n).2) := by
  cases hb : buf[n]? <;> simp [skipProgramMnemonic, Lexer.skipProgramMnemonic, Lexer.peekP, lexc_rd, lexc_cls, hb]
  lexc_loop (fun b => Lexer.isAlnum b || b == 95), buf
  simp [st_ite, ite_pair, lexc_rd]
  simp only [← Nat.not_lt, ite_not]

@[lexc_ref] theorem skipCommonProgramHeader_ref (buf : Lexer.Bytes) (n : Nat) :
    skipCommonProgramHeader (st buf n) = (st buf (Lexer.skipCommonProgramHeader buf n).1, (Lexer.skipCommonProgramHeader buf n).2) := by
  cases hp : Lexer.peekP buf n (· == 42) <;>
    simp [skipCommonProgramHeader, Lexer.skipCommonProgramHeader, lexc_ref, one_eq, hp, iseos_ref, ite_pair]

/-- what the body of the compound loop returns after the mnemonic behind a colon at offset `n` -/
def compoundExit (buf : Lexer.Bytes) (n : Nat) : Option Int :=
  if (Lexer.skipProgramMnemonic buf (n + 1)).2 ≤ -1 then some 1
  else if (Lexer.skipProgramMnemonic buf (n + 1)).2 = 0 then some (-1) else none

theorem skipProgramMnemonic_ge (buf : Lexer.Bytes) (m : Nat) : m ≤ (Lexer.skipProgramMnemonic buf m).1 := by
  rw [Lemmas.Lexer.header_skipMn]; exact Nat.le_add_right _ _

theorem compoundLoop_eq (buf : Lexer.Bytes) (f n : Nat) (l : Int) :
    Lexer.compoundLoop buf f n =
      (fun r => (r.1, r.2.2.getD 1))
        (loopM (fun n => Lexer.peekP buf n (· == 58)) (fun n => (Lexer.skipProgramMnemonic buf (n + 1)).1) (compoundExit buf)
          (fun n _ => (Lexer.skipProgramMnemonic buf (n + 1)).2) f n l) := by
  induction f generalizing n l with
  | zero => rfl
  | succ f ih =>
    simp only [Lexer.compoundLoop, loopM, compoundExit]
    by_cases hp : Lexer.peekP buf n (· == 58) = true
    case neg => simp [hp]
    by_cases h1 : (Lexer.skipProgramMnemonic buf (n + 1)).2 ≤ -1
    case pos => simp [hp, h1]
    by_cases h2 : (Lexer.skipProgramMnemonic buf (n + 1)).2 = 0
    case pos => simp [hp, h2]
    simp only [hp, h1, h2, if_true, if_false, beq_iff_eq]
    exact ih _ _

@[lexc_ref] theorem skipCompoundProgramHeader_ref (buf : Lexer.Bytes) (n : Nat) :
    skipCompoundProgramHeader (st buf n) =
      (st buf (Lexer.skipCompoundProgramHeader buf n).1, (Lexer.skipCompoundProgramHeader buf n).2) := by
  simp [skipCompoundProgramHeader, Lexer.skipCompoundProgramHeader, lexc_ref, one_val]
  rw [whileC_jump (c := fun n => Lexer.peekP buf n (· == 58)) (g := fun n => (Lexer.skipProgramMnemonic buf (n + 1)).1)
    (e := compoundExit buf) (upd := fun n _ => (Lexer.skipProgramMnemonic buf (n + 1)).2) (buf := buf) (hg := ?hg), loopM_len ?hg]
  case ht =>
    intro m l
    cases hp : Lexer.peekP buf m (· == 58)
    case' true =>
      by_cases h1 : (Lexer.skipProgramMnemonic buf (m + 1)).2 ≤ -1
      case' neg => by_cases h2 : (Lexer.skipProgramMnemonic buf (m + 1)).2 = 0
    all_goals simp [tripC, lexc_ref, one_eq, compoundExit, *]
  case hg => exact fun k hk => ⟨peekP_lt hk, skipProgramMnemonic_ge buf (k + 1)⟩
  case hf => omega
  rw [compoundLoop_eq buf _ _ (Lexer.skipProgramMnemonic buf (Lexer.skipOne buf n (· == 58))).2]
  generalize loopM _ _ _ _ _ _ _ = r
  rcases r with ⟨a, b, _ | v⟩ <;> cases hp0 : Lexer.peekP buf n (· == 58) <;>
    simp [ite_pair, st_ite, skipOne_eq_self, hp0]

theorem scpiLex_ProgramHeader_ref (buf : Lexer.Bytes) (n : Nat) (tok : CTok) :
    scpiLex_ProgramHeader (st buf n) tok = res buf (Lexer.lexProgramHeader buf n) := by
  rcases h1 : Lexer.skipCommonProgramHeader buf n with ⟨p1, r1⟩
  rcases h2 : Lexer.skipCompoundProgramHeader buf p1 with ⟨p2, r2⟩
  by_cases ha : r1 ≥ 1
  case' pos => cases hq : Lexer.peekP buf p1 (· == 63)
  case' neg =>
    by_cases hb : r1 ≤ -1
    case' neg =>
      have h0 : r1 = 0 := by omega
      by_cases hc : r2 ≥ 1
      case' pos => cases hq : Lexer.peekP buf p2 (· == 63)
      case' neg => by_cases hd : r2 ≤ -1
  all_goals simp [scpiLex_ProgramHeader, Lexer.lexProgramHeader, lexc_ref, one_eq, Lexer.skipOne, *]

theorem scpiLex_ProgramExpression_ref (buf : Lexer.Bytes) (n : Nat) (tok : CTok) :
    scpiLex_ProgramExpression (st buf n) tok = res buf (Lexer.lexExpression buf n) := by
  have hq : (n : Int) < (Lexer.skipMany buf (n + 1) Lexer.isProgramExpression : Nat) + 1 := by
    have := skipMany_ge buf (n + 1) Lexer.isProgramExpression; omega
  cases hb : buf[n]?
  case' some b => by_cases h40 : b = 40
  case' pos => cases hb1 : buf[Lexer.skipMany buf (n + 1) Lexer.isProgramExpression]?
  case' some b1 => by_cases h41 : b1 = 41
  all_goals simp [scpiLex_ProgramExpression, Lexer.lexExpression, Lexer.peekP, lexc_rd, lexc_cls, lexc_ref, *]

/-- the quote loop goes on at offset `n`: an ordinary 7-bit character, or a doubled quote -/
def quoteGo (buf : Lexer.Bytes) (q : UInt8) (n : Nat) : Bool :=
  match buf[n]? with
  | none => false
  | some b => (Lexer.isAscii7 b && b != q) || (b == q && Lexer.peekP buf (n + 1) (· == q))

def quoteStep (buf : Lexer.Bytes) (q : UInt8) (n : Nat) : Nat :=
  match buf[n]? with
  | none => n + 1
  | some b => if Lexer.isAscii7 b && b != q then n + 1 else n + 2

theorem skipQuote_eq (buf : Lexer.Bytes) (q : UInt8) (f n : Nat) :
    Lexer.skipQuote buf q f n =
      (loopM (L := Unit) (ρ := Unit) (quoteGo buf q) (quoteStep buf q) (fun _ => none) (fun _ _ => ()) f n ()).1 := by
  induction f generalizing n with
  | zero => rfl
  | succ f ih =>
    cases hb : buf[n]?
    case' some b => by_cases h1 : (Lexer.isAscii7 b && b != q) = true
    case' neg => by_cases h2 : (b == q) = true
    case' pos => cases h3 : Lexer.peekP buf (n + 1) (· == q)
    all_goals simp [Lexer.skipQuote, loopM, quoteGo, quoteStep, *]

theorem quote_hg (buf : Lexer.Bytes) (q : UInt8) (k : Nat) (hk : quoteGo buf q k = true) : k < buf.length ∧ k < quoteStep buf q k := by
  simp only [quoteGo, quoteStep] at *
  cases hb : buf[k]? with
  | none => simp [hb] at hk
  | some b => exact ⟨(List.getElem?_eq_some_iff.mp hb).1, by simp only []; split <;> omega⟩

@[lexc_ref] theorem skipQuoteProgramData_ref (buf : Lexer.Bytes) (n : Nat) (k : Int) (h1 : -128 ≤ k) (h2 : k ≤ 127) :
    skipQuoteProgramData (st buf n) k = st buf (Lexer.skipQuote buf (uc k) (buf.length - n + 1) n) := by
  simp only [skipQuoteProgramData, st_buf]
  rw [whileC_jump (c := quoteGo buf (uc k)) (g := quoteStep buf (uc k)) (e := fun _ => none) (upd := fun _ _ => ()) (buf := buf)
    (hg := ?hg), loopM_len ?hg, ← skipQuote_eq]
  case ht =>
    intro m l
    cases hb : buf[m]?
    case' some b => by_cases hq : b = uc k
    case' neg => cases ha : Lexer.isAscii7 b
    case' pos => cases hb1 : buf[m + 1]?
    case' some b1 => by_cases hq1 : b1 = uc k
    all_goals simp [tripC, quoteGo, quoteStep, Lexer.peekP, lexc_rd, lexc_cls, mk_st_succ2, *]
  case hg => exact quote_hg buf (uc k)
  case hf => omega

-- the two wrappers `skipQuoteProgramData(state, '"')`, `skipQuoteProgramData(state, '\'')`
attribute [lexc_ref] skipDoubleQuoteProgramData skipSingleQuoteProgramData

theorem scpiLex_StringProgramData_ref (buf : Lexer.Bytes) (n : Nat) (tok : CTok) :
    scpiLex_StringProgramData (st buf n) tok = res buf (Lexer.lexString buf n) := by
  cases hb : buf[n]? with
  | none => simp [scpiLex_StringProgramData, Lexer.lexString, Lexer.peekP, lexc_rd, lexc_ref, hb]
  | some b =>
    have hf : buf.length - (n + 1) + 1 = buf.length - n := by
      have := (List.getElem?_eq_some_iff.mp hb).1; omega
    have hg : (n : Int) < (Lexer.skipQuote buf b (buf.length - n) (n + 1) : Nat) + 1 := by
      obtain ⟨e, he, _⟩ := Lemmas.Lexer.string_skipQuote buf b (buf.length - n) (n + 1) (by rw [List.length_drop]; omega)
      omega
    by_cases hd : b = 34 ∨ b = 39
    case neg =>
      simp only [not_or] at hd
      simp [scpiLex_StringProgramData, Lexer.lexString, Lexer.peekP, lexc_rd, lexc_cls, lexc_ref, *]
    cases hb1 : buf[Lexer.skipQuote buf b (buf.length - n) (n + 1)]?
    case' some b1 => by_cases hq : b1 = b
    all_goals rcases hd with rfl | rfl <;>
      simp [scpiLex_StringProgramData, Lexer.lexString, Lexer.peekP, lexc_rd, lexc_cls, lexc_ref, *]

/-- value of the digit at offset `n` as the model's `blockDigits` adds it -/
def digAt (buf : Lexer.Bytes) (n : Nat) : Nat :=
  match buf[n]? with
  | some b => b.toNat - 48
  | none => 0

theorem sc_digit : ∀ b : UInt8, Lexer.isDigit b = true → sc b - 48 = ((b.toNat - 48 : Nat) : Int) :=
  ByteList.forall_byte (by decide +kernel)

/-- the counted digit loop `for (; i > 0; i--)` of the block recogniser (locals: the length read so
far and the number of digits still expected) against the model's `blockDigits`. -/
theorem whileC_block {ρ : Type} (cond : CLex → Int × Int → CLex × Bool) (body : CLex → Int × Int → CLex × (Int × Int) × Flow ρ)
    (buf : Lexer.Bytes)
    (ht : ∀ n (a i : Int), tripC cond body (st buf n) (a, i) =
      if i > 0 ∧ Lexer.peekP buf n Lexer.isDigit = true then (st buf (n + 1), (a * 10 + (digAt buf n : Int), i - 1), Flow.next)
      else (st buf n, (a, i), Flow.brk)) :
    ∀ (fuel i n acc : Nat) (a j : Int), a = (acc : Int) → j = (i : Int) → buf.length - n < fuel →
      whileC cond body fuel (st buf n) (a, j) =
        (st buf (Lexer.blockDigits buf i n acc).1,
          ((((Lexer.blockDigits buf i n acc).2.2 : Nat) : Int), (((Lexer.blockDigits buf i n acc).2.1 : Nat) : Int)), none) := by
  intro fuel
  induction fuel with
  | zero => intro i n acc a j _ _ h; omega
  | succ fuel ih =>
    intro i n acc a j ha hj hf
    subst ha hj
    rw [whileC_succ, ht]
    cases i with
    | zero => simp [Lexer.blockDigits]
    | succ i =>
      cases hb : buf[n]? with
      | none => simp [peekP_at hb, Lexer.blockDigits, hb]
      | some b =>
        cases hd : Lexer.isDigit b
        · simp [peekP_at hb, Lexer.blockDigits, hb, hd]
        · have hlt := (List.getElem?_eq_some_iff.mp hb).1
          have hi : ((i + 1 : Nat) : Int) > 0 := by omega
          simp only [peekP_at hb, hd, hi, and_self, if_true]
          rw [ih i (n + 1) (acc * 10 + (b.toNat - 48)) _ _ (by simp [digAt, hb]) (by omega) (by omega)]
          simp [Lexer.blockDigits, hb, hd]

theorem scpiLex_ArbitraryBlockProgramData_ref (buf : Lexer.Bytes) (n : Nat) (tok : CTok) :
    scpiLex_ArbitraryBlockProgramData (st buf n) tok = res buf (Lexer.lexBlock buf n) := by
  cases hb0 : buf[n]?
  case' some b0 => cases h35 : b0 == 35
  case' true => cases hb : buf[n + 1]?
  case' some d => cases hd : Lexer.isDigit d && d != 48
  all_goals simp [scpiLex_ArbitraryBlockProgramData, Lexer.lexBlock, Lexer.peekP, lexc_ref, one_eq, lexc_rd, lexc_cls, ite_pair, *]
  rw [whileC_block _ _ buf ?ht (buf.length + 1) (d.toNat - 48) (n + 1 + 1) 0 0 _ (by simp)
    (sc_digit d (by simp at hd; exact hd.1)) (by omega)]
  case ht =>
    intro m a i
    by_cases hi : i > 0
    case' pos => cases hbm : buf[m]?
    case' some b => cases hdm : Lexer.isDigit b
    all_goals simp [tripC, Lexer.peekP, lexc_rd, lexc_cls, digAt, sc_digit, *]
  rcases Lexer.blockDigits buf (d.toNat - 48) (n + 1 + 1) 0 with ⟨p2, irem, blen⟩
  simp [lexc_rd, mk_st_add, cast_add_le]
  cases irem with
  | zero => by_cases hfit : p2 + blen ≤ buf.length <;> simp [hfit, mk_st, lexc_code]
  | succ i => by_cases he : p2 < buf.length <;> simp [← Nat.not_lt, he, mk_st, lexc_code]

end ScpiVerif.Lemmas.LexerC
