/-
The parameter readers of Model/Ctx.lean in closed form: what `pushError` changes, `SCPI_Parameter` as four cases,
and every typed reader as `SCPI_Parameter` followed by a verdict on the token it delivered.
`apiEv` and `apiCodes` are in the namespace `Api` of Lemmas/ApiFrame.lean, whose structures are stated with them; the rest is
in `Params`, the namespace of the C05 development (Lemmas/Params.lean).
-/
import ScpiVerif.Model.Readers
import ScpiVerif.Lemmas.Stages

namespace ScpiVerif.Lemmas.Api
open ScpiVerif ScpiVerif.Ctx

/-- the events logged on behalf of a handler -/
def apiEv : Ev → Bool
  | .handler .. | .error .. => false
  | _ => true

/-- the error codes the readers, the result writers and `processCommand` push on their own -/
def apiCodes : List Int := [-109, -103, -151, -104, -138, -224, -131, -310, -200, -108]

theorem apiCodes_ne_overflow {code : Int} (h : code ∈ apiCodes) : code ≠ Fifo.overflowCode := by
  rintro rfl
  revert h
  decide

end ScpiVerif.Lemmas.Api

namespace ScpiVerif.Lemmas.Params
open ScpiVerif ScpiVerif.Ctx ScpiVerif.Lexer ScpiVerif.Spec.Params

theorem pushError_events (c : Ctx) (code : Int) (info : Option Bytes) (infoLen : Nat) :
    (pushError c code info infoLen).events = c.events ++ pushEvents c code info infoLen := by
  rw [Isolation.pushError_eq]

@[simp] theorem pushError_ppos (c : Ctx) (code : Int) (info : Option Bytes) (n : Nat) :
    (pushError c code info n).ppos = c.ppos := by
  rw [Isolation.pushError_eq]
@[simp] theorem pushError_pbase (c : Ctx) (code : Int) (info : Option Bytes) (n : Nat) :
    (pushError c code info n).pbase = c.pbase := by
  rw [Isolation.pushError_eq]
@[simp] theorem pushError_plen (c : Ctx) (code : Int) (info : Option Bytes) (n : Nat) :
    (pushError c code info n).plen = c.plen := by
  rw [Isolation.pushError_eq]
@[simp] theorem pushError_buf (c : Ctx) (code : Int) (info : Option Bytes) (n : Nat) :
    (pushError c code info n).buf = c.buf := by
  rw [Isolation.pushError_eq]
@[simp] theorem pushError_cmdError (c : Ctx) (code : Int) (info : Option Bytes) (n : Nat) :
    (pushError c code info n).cmdError = true := by
  rw [Isolation.pushError_eq]
@[simp] theorem pushError_out (c : Ctx) (code : Int) (info : Option Bytes) (n : Nat) :
    (pushError c code info n).out = c.out := by
  rw [Isolation.pushError_eq]
@[simp] theorem pushError_cur (c : Ctx) (code : Int) (info : Option Bytes) (n : Nat) :
    (pushError c code info n).cur = c.cur := by
  rw [Isolation.pushError_eq]

/-- the token types SCPI_Parameter delivers -/
def validType (t : TokType) : Bool :=
  match t with
  | .hexnum | .octnum | .binnum | .programMnemonic | .decimal | .decimalWithSuffix | .block
  | .singleQuote | .doubleQuote | .expression => true
  | _ => false

def inval : Token := ⟨.unknown, 0, 0⟩

def pstart (c : Ctx) : Nat :=
  if c.inputCount != 0 then (lexComma (pwin c) (c.ppos - c.pbase)).1 else c.ppos - c.pbase

def pnext (c : Ctx) : Ctx :=
  { c with inputCount := c.inputCount + 1,
           ppos := c.pbase + (Parser.parseProgramData (pwin c) (pstart c)).1 }

def ptok (c : Ctx) : Token := (Parser.parseProgramData (pwin c) (pstart c)).2.1

theorem parameter_eq (c : Ctx) (mand : Bool) : parameter c mand =
    if c.ppos ≥ c.pbase + c.plen then
      (if mand then (pushError c (-109) none, false, inval) else (c, false, ⟨.programMnemonic, 0, 0⟩))
    else if c.inputCount != 0 ∧ (lexComma (pwin c) (c.ppos - c.pbase)).2.1.type != .comma then
      (pushError { c with ppos := c.pbase + (lexComma (pwin c) (c.ppos - c.pbase)).1 } (-103) none, false, inval)
    else if validType (ptok c).type then (pnext c, true, { ptok c with ptr := c.pbase + (ptok c).ptr })
    else (pushError (pnext c) (-151) none, false, inval) := by
  unfold parameter
  by_cases h1 : c.ppos ≥ c.pbase + c.plen
  · simp only [h1, if_true]; rfl
  · simp only [h1, if_false, ptok, pnext, pstart]
    by_cases h2 : (c.inputCount != 0) = true
    · simp only [h2, if_true, true_and]
      by_cases h3 : ((lexComma (pwin c) (c.ppos - c.pbase)).2.1.type != .comma) = true
      · simp only [h3, if_true]; rfl
      · simp only [h3]
        generalize Parser.parseProgramData (pwin c) _ = r
        obtain ⟨p, ⟨ty, ptr, len⟩, x⟩ := r
        cases ty <;> rfl
    · simp only [h2, Bool.false_eq_true, if_false, false_and]
      generalize Parser.parseProgramData (pwin c) _ = r
      obtain ⟨p, ⟨ty, ptr, len⟩, x⟩ := r
      cases ty <;> rfl

/-- a delivered parameter: the window was not exhausted, and context and token are `pnext c`, `ptok c` -/
theorem parameter_true {c : Ctx} {mand : Bool} (h : (parameter c mand).2.1 = true) :
    c.ppos < c.pbase + c.plen ∧ validType (ptok c).type = true ∧
    parameter c mand = (pnext c, true, { ptok c with ptr := c.pbase + (ptok c).ptr }) := by
  rw [parameter_eq] at h ⊢
  split at h
  · cases mand <;> cases h
  · rename_i h1
    split at h
    · cases h
    · rename_i h2
      split at h
      · rename_i h3
        exact ⟨Nat.lt_of_not_le h1, h3, by rw [if_neg h1, if_neg h2, if_pos h3]⟩
      · cases h

/-- SCPI_ParamToChoice: `none` = found, else the error it pushes -/
def choiceVerdict (c : Ctx) (t : Token) (opts : List (Bytes × Int)) : Option Int :=
  if t.type == .programMnemonic then
    (if (opts.find? (fun o => matchName o.1 ((c.buf.drop t.ptr).take t.len.toNat))).isSome then none
     else some (-224))
  else some (-104)

/-- the unit text SCPI_ParamNumber cuts out of a decimal-with-suffix token -/
def unitTextOf (tokBytes : Bytes) : Bytes :=
  let st := (lexSuffix tokBytes (lexWhiteSpace tokBytes (lexDecimal tokBytes 0).1).1).2.1
  (tokBytes.drop st.ptr).take st.len.toNat

def unitVerdict (U : Bytes) : Option Int :=
  let s := (U.takeWhile (fun b => Prim.isSpace b)).length
  if s == U.length then none
  else match translateUnit (U.drop s) with
    | some _ => none
    | none => some (-131)

/-- the character-data token SCPI_ParamNumber re-lexes inside a mnemonic token -/
def specialTok (c : Ctx) (t : Token) : Token :=
  let tokBytes := (c.buf.drop t.ptr).take t.len.toNat
  let ct := (lexCharacterProgramData tokBytes (lexWhiteSpace tokBytes 0).1).2.1
  { ct with ptr := t.ptr + ct.ptr }

/-- `none` = success, else the error pushed -/
def verdict (r : Reader) (c : Ctx) (t : Token) : Option Int :=
  match r with
  | .int w s =>
    if isNumber t false then (if (paramToInt c t w s).1 then none else some (-104))
    else if isNumber t true then some (-138) else some (-104)
  | .float _ => if isNumber t false then none else if isNumber t true then some (-138) else some (-104)
  | .bool => if t.type == .decimal then none else choiceVerdict c t boolDef
  | .choice opts => choiceVerdict c t opts
  | .number =>
    match t.type with
    | .decimal | .hexnum | .octnum | .binnum => none
    | .decimalWithSuffix => unitVerdict (unitTextOf ((c.buf.drop t.ptr).take t.len.toNat))
    | .programMnemonic => choiceVerdict c (specialTok c t) specialDef
    | _ => some (-104)
  | .chars => none
  | .block => if t.type == .block then none else some (-104)
  | .text => match t.type with | .singleQuote | .doubleQuote => none | _ => some (-104)

def finish (c : Ctx) (v : Option Int) : Ctx × Bool :=
  match v with
  | none => (c, true)
  | some e => (pushError c e none, false)

theorem paramToChoice_eq (c : Ctx) (t : Token) (opts : List (Bytes × Int)) :
    ((paramToChoice c t opts).1, (paramToChoice c t opts).2.1) = finish c (choiceVerdict c t opts) := by
  unfold paramToChoice choiceVerdict finish
  by_cases h : (t.type == .programMnemonic) = true
  · simp only [h, if_true]
    cases hf : opts.find? (fun o => matchName o.1 ((c.buf.drop t.ptr).take t.len.toNat)) <;> simp
  · simp [h]


/-- SCPI_ParamNumber logs a `pNumber` event in every case; its flag is the result -/
theorem paramNumber_eq (c : Ctx) (mand : Bool) :
    Api.apiEv (paramNumber c mand).2 = true ∧
    ((paramNumber c mand).1, match (paramNumber c mand).2 with | .pNumber ok .. => ok | _ => false) =
      if (parameter c mand).2.1 then
        finish (parameter c mand).1 (verdict .number (parameter c mand).1 (parameter c mand).2.2)
      else ((parameter c mand).1, false) := by
  generalize hp : parameter c mand = p
  obtain ⟨c1, ok, ty, ptr, len⟩ := p
  cases ok
  · simp only [paramNumber, hp]; exact ⟨rfl, rfl⟩
  · simp only [paramNumber, hp, verdict, Bool.not_true, Bool.false_eq_true, if_false, if_true]
    split
    · exact ⟨rfl, rfl⟩
    · exact ⟨rfl, rfl⟩
    · exact ⟨rfl, rfl⟩
    · exact ⟨rfl, rfl⟩
    · dsimp only [unitTextOf, unitVerdict]
      generalize lexSuffix _ _ = sx
      generalize List.take sx.2.1.len.toNat _ = U
      generalize translateUnit _ = o
      split
      · exact ⟨rfl, rfl⟩
      · cases o <;> exact ⟨rfl, rfl⟩
    · exact ⟨rfl, paramToChoice_eq c1 (specialTok c1 ⟨.programMnemonic, ptr, len⟩) specialDef⟩
    · -- neither a number nor a mnemonic: the last case on both sides
      dsimp only
      split <;> first | contradiction | exact ⟨rfl, rfl⟩

theorem runReader_eq (c : Ctx) (r : Reader) (mand : Bool) :
    runReader c r mand =
      if (parameter c mand).2.1 then finish (parameter c mand).1 (verdict r (parameter c mand).1 (parameter c mand).2.2)
      else ((parameter c mand).1, false) := by
  generalize hp : parameter c mand = p
  obtain ⟨c1, ok, ty, ptr, len⟩ := p
  cases ok
  · cases r <;> simp only [runReader, paramInt, paramFloat, paramBool, paramChoice, paramNumber, paramChars,
      paramBlock, paramText, hp] <;> rfl
  · cases r with
    | int w s =>
      simp only [runReader, paramInt, hp, verdict, finish, Bool.not_true, Bool.false_eq_true, if_false, if_true]
      split
      · split <;> rfl
      · split <;> rfl
    | float d =>
      simp only [runReader, paramFloat, hp, verdict, finish, Bool.not_true, Bool.false_eq_true, if_false, if_true]
      split
      · split <;> rfl
      · split <;> rfl
    | bool =>
      simp only [runReader, paramBool, hp, verdict, Bool.not_true, Bool.false_eq_true, if_false, if_true]
      split
      · rfl
      · exact paramToChoice_eq c1 _ boolDef
    | choice opts =>
      simp only [runReader, paramChoice, hp, verdict, Bool.not_true, Bool.false_eq_true, if_false, if_true]
      exact paramToChoice_eq c1 _ opts
    | number => exact hp ▸ (paramNumber_eq c mand).2
    | chars =>
      simp only [runReader, paramChars, hp, verdict, Bool.not_true, Bool.false_eq_true, if_false, if_true]
      split <;> rfl
    | block =>
      simp only [runReader, paramBlock, hp, verdict, Bool.not_true, Bool.false_eq_true, if_false, if_true]
      split <;> rfl
    | text =>
      simp only [runReader, paramText, hp, verdict, Bool.not_true, Bool.false_eq_true, if_false, if_true]
      split
      · rfl
      · rfl
      · split <;> first | contradiction | rfl

theorem verdict_codes {r : Reader} {c : Ctx} {t : Token} {e : Int} (h : verdict r c t = some e) : e ∈ Api.apiCodes := by
  cases r <;> simp only [verdict, choiceVerdict, unitVerdict] at h <;> (repeat' split at h) <;> cases h <;> decide

theorem paramText_ctx (c : Ctx) (mand : Bool) (cap : Nat) : (paramText c mand cap).1 = (paramText c mand 16).1 := by
  unfold paramText
  generalize parameter c mand = p
  obtain ⟨c1, ok, t⟩ := p
  cases ok
  · rfl
  · simp only []
    cases t.type <;> rfl

end ScpiVerif.Lemmas.Params
