/-
The shape of an item that `Spec.specData` finds, by token kind (`ItemShape`, `specData_item_shape`), as the parameter readers
(Lemmas/Params.lean) and Lemmas/ParseLocalLex.lean take it; needs `Strto.digitOK` for the digits of a nondecimal number.  The
namespace is `Lemmas.Params`.
-/
import ScpiVerif.Lemmas.LexData
import ScpiVerif.Lemmas.Strto

namespace ScpiVerif.Lemmas.Params
open ScpiVerif ScpiVerif.Lexer ScpiVerif.Spec ScpiVerif.Lemmas.Lexer ScpiVerif.Lemmas.Strto

theorem nondecimal_some_cases {s : Bytes} {e : Expect} (h : specToken .nondecimal s = some e) :
    ∃ base, ((e.type = .hexnum ∧ base = 16) ∨ (e.type = .octnum ∧ base = 8) ∨ (e.type = .binnum ∧ base = 2)) ∧
      e.payloadOff = 2 ∧ 0 < e.payloadLen ∧ e.consumed = 2 + e.payloadLen ∧ hd (s.drop 2) (digitOK base) = true := by
  rw [specToken_nondecimal] at h
  rcases pdata_orElse_some h with h | h
  · have p := pick_some h
    exact ⟨16, .inl ⟨p.type, rfl⟩, p.off, p.len, p.consumed, hd_imp (fun b hb => (digit_table b).xdigit hb) p.digit⟩
  · rcases pdata_orElse_some h with h | h
    · have p := pick_some h
      exact ⟨8, .inr (.inl ⟨p.type, rfl⟩), p.off, p.len, p.consumed, hd_imp (fun b hb => (digit_table b).qdigit hb) p.digit⟩
    · have p := pick_some h
      exact ⟨2, .inr (.inr ⟨p.type, rfl⟩), p.off, p.len, p.consumed, hd_imp (fun b hb => (digit_table b).bdigit hb) p.digit⟩

/-- what `specData s = .item n t po pl` says of the item beyond its bounds (`specData_item`), by alternative -/
inductive ItemShape (s : Bytes) (n : Nat) (t : TokType) (po pl : Nat) : Prop where
  | nondecimal (base : Nat)
      (ht : (t = .hexnum ∧ base = 16) ∨ (t = .octnum ∧ base = 8) ∨ (t = .binnum ∧ base = 2))
      (hpo : po = 2) (hpl : 0 < pl) (hn : n = 2 + pl) (hd : hd (s.drop 2) (digitOK base) = true)
  | chr (ht : t = .programMnemonic) (hpo : po = 0) (hpl : pl = n)
      (hs : specToken .chr s = some ⟨n, .programMnemonic, 0, n⟩)
  | decimal (ht : t = .decimal) (hpo : po = 0) (hpl : pl = n)
      (hs : specToken .decimal s = some ⟨n, .decimal, 0, n⟩)
  | withSuffix (e sf : Nat) (ht : t = .decimalWithSuffix) (hpo : po = 0) (hpl : pl = n)
      (hs : specToken .decimal s = some ⟨e, .decimal, 0, e⟩)
      (hsf : specToken .suffix (s.drop (e + wsLen (s.drop e))) = some ⟨sf, .suffix, 0, sf⟩)
      (hn : n = e + wsLen (s.drop e) + sf)
  | other (ht : t = .singleQuote ∨ t = .doubleQuote ∨ t = .block ∨ t = .expression)

theorem specData_item_shape {s : Bytes} {n : Nat} {t : TokType} {po pl : Nat}
    (h : specData s = .item n t po pl) : ItemShape s n t po pl := by
  rw [pdata_specData_eq] at h
  rcases pdata_tok_item h with he | h
  · obtain ⟨base, h1, h2, h3, h4, h5⟩ := nondecimal_some_cases he
    exact .nondecimal base h1 h2 h3 h4 h5
  rcases pdata_tok_item h with he | h
  · obtain ⟨_, ⟨⟩, -⟩ := plainSpec_cases (r := mnemonic) he
    exact .chr rfl rfl rfl he
  unfold pdata_sd3 at h
  split at h
  · rename_i e he
    obtain ⟨e, rfl, -⟩ := plainSpec_cases (r := decimal) he
    dsimp only at h
    split at h
    · rename_i sf hsf
      obtain ⟨sf, rfl, -⟩ := plainSpec_cases (r := suffix) hsf
      cases h
      exact .withSuffix e sf rfl rfl rfl he hsf rfl
    · cases h
      exact .decimal rfl rfl rfl he
  rcases pdata_tok_item h with he | h
  · refine .other ?_
    simp only [specToken] at he
    split at he
    · cases he; exact .inr (.inl rfl)
    · split at he
      · cases he; exact .inl rfl
      · cases he
  unfold pdata_sd5 at h
  split at h
  · cases h; exact .other (.inr (.inr (.inl rfl)))
  · cases h
  · rcases pdata_tok_item h with he | h
    · obtain ⟨_, ⟨⟩, -⟩ := plainSpec_cases (r := expression) he
      exact .other (.inr (.inr (.inr rfl)))
    · cases h

end ScpiVerif.Lemmas.Params
