/-
The two-run simulation of the context-level model (`Model/Ctx.lean`).  Two runs whose contexts are related and whose
buffers agree up to a stopper at index `P` (`Lemmas/UpTo.lean`) read the same parameters, run the same handler scripts,
find the same commands and stay related, as long as everything they read ends at most `e ≤ 1` bytes behind `P`
(`Frame.parseLoop_sim`).  What "related" means outside the buffer, and which observations are compared, is a parameter
(`Frame`) with two instances: C09 (`Lemmas/Isolation.lean`), a NUL at `P` behind the pending input, `e = 0`; C08
(`Lemmas/ParseLocal.lean`), the line terminator of the message at `P`, `e = 1`.  The first part of the file, on the
output state and on one run of a parameter reader, is in namespace `Lemmas.Isolation`.
-/
import ScpiVerif.Lemmas.Stages
import ScpiVerif.Lemmas.Bounds
import ScpiVerif.Lemmas.UpTo
import ScpiVerif.Lemmas.ParseLocalLex
import ScpiVerif.Lemmas.ResultWrite


namespace ScpiVerif.Lemmas.Isolation
open ScpiVerif ScpiVerif.Lexer ScpiVerif.Ctx ScpiVerif.Result
open ScpiVerif.Lemmas.ParseLocalAux (numType programData_num_first)
open ScpiVerif.Lemmas.Params (pstart pnext ptok)

/-! ## output state: the result writers commute with prepending history -/

def shift (o : Out) (w : Bytes) (p : List Int) (k : Nat) : Out :=
  { o with written := w ++ o.written, pushed := p ++ o.pushed, flushes := k + o.flushes }

def obase (o : Out) : Out := { o with written := [], pushed := [], flushes := 0 }

theorem shift_obase (o : Out) : shift (obase o) o.written o.pushed o.flushes = o := by
  simp [shift, obase]

@[simp] theorem obase_shift (o : Out) (w : Bytes) (p : List Int) (k : Nat) : obase (shift o w p k) = obase o := rfl

def Equi (f : Out → Out) : Prop := ∀ o w p k, f (shift o w p k) = shift (f o) w p k

theorem Equi.comp {f g : Out → Out} (hf : Equi f) (hg : Equi g) : Equi (fun o => g (f o)) := by
  intro o w p k; simp only [hf o w p k, hg (f o) w p k]

theorem Equi.id : Equi (fun o => o) := fun _ _ _ _ => rfl

theorem equi_writeData (d : Bytes) : Equi (fun o => writeData o d) := by
  intro o w p k; simp [writeData, shift]
theorem equi_writeSep (d : Bytes) : Equi (fun o => writeSep o d) := by
  intro o w p k; simp [writeSep, shift]
theorem equi_bump : Equi bump := by
  intro o w p k; simp [bump, shift]
theorem equi_endUnit : Equi endUnit := by
  intro o w p k; simp [endUnit, shift]

theorem equi_writeDelimiter : Equi writeDelimiter := by
  intro o w p k
  by_cases h1 : o.outputCount > 0
  · simp [writeDelimiter, writeSep, shift, h1]
  · by_cases h2 : o.outputCount < 0
    · simp [writeDelimiter, writeSep, shift, h1, h2]
    · simp [writeDelimiter, shift, h1, h2]

theorem equi_resultIntBaseSign (w' val : Nat) (base : Int) (sign : Bool) :
    Equi (fun o => resultIntBaseSign o w' val base sign) :=
  ((equi_writeDelimiter.comp (equi_writeData _)).comp (equi_writeData _)).comp equi_bump

theorem equi_resultBlockHeader (n : Nat) : Equi (fun o => resultBlockHeader o n) :=
  (Equi.comp (f := fun o => { o with arbRemaining := n }) (fun _ _ _ _ => rfl) equi_writeDelimiter).comp (equi_writeData _)

theorem equi_resultBlockData (d : Bytes) : Equi (fun o => resultBlockData o d) := by
  intro o w p k
  by_cases h1 : o.arbRemaining < d.length
  · simp [resultBlockData, shift, h1]
  · by_cases h2 : o.arbRemaining - d.length = 0
    · simp [resultBlockData, writeData, bump, shift, h1, h2]
    · simp [resultBlockData, writeData, shift, h1, h2]

theorem equi_foldl {α : Type} (f : Out → α → Out) (hf : ∀ a, Equi (fun o => f o a)) (l : List α) :
    Equi (fun o => l.foldl f o) := by
  induction l with
  | nil => exact Equi.id
  | cons a l ih =>
    intro o w p k
    simp only [List.foldl_cons, hf a o w p k]
    exact ih _ w p k

theorem equi_writeNewLine : Equi writeNewLine := by
  intro o w p k
  unfold writeNewLine
  have h1 : (shift o w p k).firstOutput = o.firstOutput := rfl
  simp only [h1]
  split
  · simp [writeSep, shift, Nat.add_assoc]
  · rfl

theorem equi_pcOut : Equi pcOut := by
  intro o w p k
  by_cases h : o.outputCount > 0
  · simp [pcOut, endUnit, shift, h]
  · simp [pcOut, endUnit, shift, h]

/-! ### SCPI_ResultError (reached through the library's SYSTem:ERRor[:NEXT]? handler) -/

theorem writeData_shift (o : Out) (d : Bytes) (w : Bytes) (p : List Int) (k : Nat) :
    writeData (shift o w p k) d = shift (writeData o d) w p k := equi_writeData d o w p k

/-- the error string is one `writeData` of a text that does not depend on the logs -/
theorem errParts_shift (ps : List (Option Bytes)) (i : Nat) (o : Out) (lim : Nat) (w : Bytes) (p : List Int) (k : Nat) :
    errParts i ps (shift o w p k) lim = shift (errParts i ps o lim) w p k := by
  obtain ⟨x, hx⟩ := Lemmas.Framing.errParts_appends ps i lim (decide (o.outputCount > 0))
  rw [hx o rfl, hx (shift o w p k) rfl, writeData_shift]

theorem equi_resultError (code : Int) (desc : Bytes) (parts : List (Option Bytes)) :
    Equi (fun o => resultError o code desc parts) := by
  intro o w p k
  have hi := equi_resultIntBaseSign 32 (if code < 0 then (2^32 - code.natAbs) else code.toNat) 10 true o w p k
  have hd := fun o => equi_writeDelimiter o w p k
  dsimp only at hi hd
  simp only [resultError, hi, hd, writeData_shift, errParts_shift]
  rfl

theorem equi_closed : Api.WriterClosed Equi where
  id := Equi.id
  comp := Equi.comp
  item ds := (equi_writeDelimiter.comp (equi_foldl _ equi_writeData ds)).comp equi_bump
  header := equi_resultBlockHeader
  data := equi_resultBlockData
  refuse := fun _ _ _ _ => by simp [shift]
  error := equi_resultError

def OutSim (o1 o2 : Out) : Prop := obase o1 = obase o2

theorem OutSim.outputCount {o1 o2 : Out} (h : OutSim o1 o2) : o2.outputCount = o1.outputCount :=
  (congrArg Out.outputCount h).symm
theorem OutSim.firstOutput {o1 o2 : Out} (h : OutSim o1 o2) : o2.firstOutput = o1.firstOutput :=
  (congrArg Out.firstOutput h).symm
theorem OutSim.arbRemaining {o1 o2 : Out} (h : OutSim o1 o2) : o2.arbRemaining = o1.arbRemaining :=
  (congrArg Out.arbRemaining h).symm

structure OutStep (o1 o2 o1' o2' : Out) : Prop where
  sim : OutSim o1' o2'
  ext : ∃ w p k, o1'.written = o1.written ++ w ∧ o2'.written = o2.written ++ w ∧
      o1'.pushed = o1.pushed ++ p ∧ o2'.pushed = o2.pushed ++ p ∧
      o1'.flushes = o1.flushes + k ∧ o2'.flushes = o2.flushes + k

theorem Equi.apply {f : Out → Out} (hf : Equi f) (o : Out) :
    f o = shift (f (obase o)) o.written o.pushed o.flushes := by
  conv => lhs; rw [← shift_obase o]
  exact hf _ _ _ _

theorem Equi.step {f : Out → Out} (hf : Equi f) {o1 o2 : Out} (h : OutSim o1 o2) :
    OutStep o1 o2 (f o1) (f o2) := by
  have e1 := hf.apply o1
  have e2 := hf.apply o2
  unfold OutSim at h
  rw [← h] at e2
  refine ⟨?_, (f (obase o1)).written, (f (obase o1)).pushed, (f (obase o1)).flushes, ?_⟩
  · unfold OutSim; rw [e1, e2]; rfl
  · rw [e1, e2]; exact ⟨rfl, rfl, rfl, rfl, rfl, rfl⟩

theorem pwin_get (c : Ctx) (i : Nat) (b : UInt8) (h : (pwin c)[i]? = some b) :
    i < c.plen ∧ Prim.rd c.buf (c.pbase + i) = b := by
  unfold pwin at h
  simp only [List.getElem?_take, List.getElem?_drop] at h
  split at h
  · refine ⟨by assumption, ?_⟩
    simp only [Prim.rd, List.getD_eq_getElem?_getD, h, Option.getD_some]
  · cases h

/-- a delivered token lies inside the parameter window, and a numeric one starts at a byte that is not
white space -/
theorem parameter_tok (c : Ctx) (mand : Bool) (hw : c.pbase + c.plen ≤ c.buf.length)
    (hok : (parameter c mand).2.1 = true) :
    (parameter c mand).2.2.ptr + (parameter c mand).2.2.len.toNat ≤ c.pbase + c.plen ∧
    (numType (parameter c mand).2.2.type = true →
      (parameter c mand).2.2.ptr < c.pbase + c.plen ∧
      Prim.isSpace (Prim.rd (parameter c mand).1.buf (parameter c mand).2.2.ptr) = false) := by
  obtain ⟨h1, _, e⟩ := Params.parameter_true hok
  have hl : (pwin c).length = c.plen := Bounds.window_length _ _ _ hw
  rw [e]
  have hs : pstart c ≤ c.plen := by
    unfold pstart
    split
    · have := (Bounds.lb_comma (pwin c) (c.ppos - c.pbase) (by omega)).2.1; omega
    · omega
  have b4 := (Bounds.lb_programData (pwin c) (pstart c) (by omega)).2.2.2
  refine ⟨by show c.pbase + (ptok c).ptr + (ptok c).len.toNat ≤ _; unfold ptok; omega, fun hn => ?_⟩
  obtain ⟨b, hb, hsp⟩ := programData_num_first (pwin c) (pstart c) hn
  obtain ⟨g1, g2⟩ := pwin_get c _ b hb
  exact ⟨by show c.pbase + (ptok c).ptr < _; unfold ptok; omega, by show Prim.isSpace (Prim.rd c.buf (c.pbase + (ptok c).ptr)) = false; unfold ptok; rw [g2]; exact hsp⟩

theorem isNumber_numType (t : Token) (b : Bool) (h : isNumber t b = true) : numType t.type = true := by
  unfold isNumber at h
  cases htt : t.type with
  | hexnum | octnum | binnum | decimal | decimalWithSuffix => rfl
  | _ => rw [htt] at h; cases h

theorem paramToInt_not_num (c : Ctx) (t : Token) (w : Nat) (s : Bool) (h : numType t.type = false) :
    paramToInt c t w s = (false, 0) := by
  obtain ⟨ty, ptr, len⟩ := t
  cases ty with
  | hexnum | octnum | binnum | decimal | decimalWithSuffix => cases h
  | _ => rfl

/-- the common tail of the reader operations (the local `fin` of `Ctx.runOp`) -/
def finX (h : HState) (c : Ctx) (ok : Bool) (e : Ev) : HState :=
  if !ok ∧ h.stopOnFail then { h with c := emit c e, result := false, done := true } else { h with c := emit c e }

end ScpiVerif.Lemmas.Isolation

namespace ScpiVerif.Lemmas.TwoRun
open ScpiVerif ScpiVerif.Lexer ScpiVerif.Ctx ScpiVerif.Result ScpiVerif.Lemmas.UpTo
open ScpiVerif.Lemmas.ParseLocalAux (numType programData_num_first)
open ScpiVerif.Lemmas.Params (pstart pnext ptok)
open ScpiVerif.Lemmas.Isolation (Equi pushError_eq parameter_tok finX pcReset pcBody
  pcOut pcTail processCommand_eq equi_pcOut setUnit unitCmd equi_closed)

/-- two results of `composeCompound`: the same header, starting at or before the current one, and buffers
that still agree -/
def SameCompound (S : UInt8 → Bool) (P : Nat) (cur : Nat × Nat) (r1 r2 : Bytes × (Nat × Nat) × Bool) : Prop :=
  r1.2 = r2.2 ∧ UpTo S P r1.1 r2.1 ∧ r1.2.1.1 ≤ cur.1

theorem composeCompound_agree {S : UInt8 → Bool} {P : Nat} {b1 b2 : Bytes} (h : UpTo S P b1 b2) (prev : Option (Nat × Nat))
    (cur : Nat × Nat) (h0 : 0 < cur.2) (hcur : cur.1 ≤ P) (hprev : ∀ pp pl, prev = some (pp, pl) → pp + pl ≤ cur.1) :
    SameCompound S P cur (Match.composeCompound b1 prev cur) (Match.composeCompound b2 prev cur) := by
  -- what is moved is read at or before the current header, where the buffers agree
  have e : Bounds.composeShift b2 prev cur.1 = Bounds.composeShift b1 prev cur.1 ∧
      Bounds.composePath b2 prev (Bounds.composeShift b1 prev cur.1) = Bounds.composePath b1 prev (Bounds.composeShift b1 prev cur.1) ∧
      Bounds.composeShift b1 prev cur.1 ≤ cur.1 := by
    match prev, hprev with
    | none, _ => exact ⟨rfl, rfl, Nat.zero_le _⟩
    | some (pp, pl), hprev =>
      have hp := hprev pp pl rfl
      have hl := Bounds.composeShift_le b1 cur.1 (prev := some (pp, pl)) rfl
      refine ⟨?_, List.map_congr_left fun j hj => (h.mrd (by rw [List.mem_range] at hj; omega)).symm, by omega⟩
      unfold Bounds.composeShift
      dsimp only
      have e3 : (List.range pl).reverse.find? (fun k => Match.rd b2 (pp + k) == 58) =
          (List.range pl).reverse.find? (fun k => Match.rd b1 (pp + k) == 58) := by
        apply ByteList.find?_congr
        intro k hk
        rw [List.mem_reverse, List.mem_range] at hk
        rw [h.mrd (i := pp + k) (by omega)]
      rw [← h.mrd hcur, ← h.mrd (show pp ≤ P by omega), e3]
  rw [Bounds.composeCompound_eq b1 prev cur h0 hprev, Bounds.composeCompound_eq b2 prev cur h0 hprev, e.1, e.2.1]
  exact ⟨rfl, h.store _ _ (by rw [Bounds.composePath_length]; omega), Nat.sub_le _ _⟩

/-- what the readers of one unit look at outside the buffer is the same in both runs, and the windows
they read end at most `e` bytes behind `P` -/
structure Win (P e : Nat) (c1 c2 : Ctx) : Prop where
  choices : c2.choices = c1.choices
  cmdError : c2.cmdError = c1.cmdError
  inputCount : c2.inputCount = c1.inputCount
  pbase : c2.pbase = c1.pbase
  plen : c2.plen = c1.plen
  ppos : c2.ppos = c1.ppos
  cur : c2.cur = c1.cur
  rawOff : c2.rawOff = c1.rawOff
  rawLen : c2.rawLen = c1.rawLen
  win : c1.pbase + c1.plen ≤ P + e
  rawo : c1.rawOff ≤ P
  raw : c1.rawOff + c1.rawLen ≤ P + e

def Keeps (R R' : Ctx → Ctx → Prop) (T : Ctx → Ctx → Ctx → Ctx → Prop) (g : Ctx → Ctx) : Prop :=
  ∀ c1 c2, R c1 c2 → R' (g c1) (g c2) ∧ T c1 c2 (g c1) (g c2)

/-- what a handler of the library that reads no parameter does to the context (`Lemmas.Builtin.runBuiltin_pure`) -/
def pureBuiltin (b : Builtin) (c : Ctx) : Ctx :=
  { c with regs := Lemmas.Builtin.bRegs c.regs b, eq := Lemmas.Builtin.bEq c.eq b,
           out := Lemmas.Builtin.bOut c.regs c.eq b c.out, events := c.events ++ Lemmas.Builtin.bEvs c.regs b }

/-- The relations of a two-run simulation and what the walk needs of them: `W` relates the contexts
between two units of a message, `S` while a unit is processed, `T c1 c2 d1 d2` says that the step from
`c1` to `d1` and the step from `c2` to `d2` make the same observations. -/
structure Frame (P : Nat) where
  Sc : UInt8 → Bool
  e : Nat
  W : Ctx → Ctx → Prop
  S : Ctx → Ctx → Prop
  T : Ctx → Ctx → Ctx → Ctx → Prop
  sc_ctl : ∀ b, Sc b = true → ctl b = true
  e_le : e ≤ 1
  t_refl : ∀ c1 c2, T c1 c2 c1 c2
  t_trans : ∀ {c1 c2 d1 d2 e1 e2}, T c1 c2 d1 d2 → T d1 d2 e1 e2 → T c1 c2 e1 e2
  w_buf : ∀ {c1 c2}, W c1 c2 → UpTo Sc P c1.buf c2.buf
  w_inb : ∀ {c1 c2}, W c1 c2 → P < c1.buf.length
  w_cmds : ∀ {c1 c2}, W c1 c2 → c2.cmds = c1.cmds
  w_err : ∀ code info n, Keeps W W T (fun c => pushError c code info n)
  w_oob : Keeps W W T (fun c => { c with oob := true })
  w_setBuf : ∀ {c1 c2 b1 b2}, W c1 c2 → UpTo Sc P b1 b2 → b1.length = c1.buf.length → ∀ o,
    W { c1 with buf := b1, oob := c1.oob || o } { c2 with buf := b2, oob := c2.oob || o } ∧
    T c1 c2 { c1 with buf := b1, oob := c1.oob || o } { c2 with buf := b2, oob := c2.oob || o }
  w_unit : ∀ {c1 c2}, W c1 c2 → ∀ base dptr dlen cmd cur, base + dptr + dlen ≤ P + e → cur.1 ≤ P → cur.1 + cur.2 ≤ P + e →
    S (pcReset (setUnit base dptr dlen cmd cur c1)) (pcReset (setUnit base dptr dlen cmd cur c2)) ∧
    T c1 c2 (pcReset (setUnit base dptr dlen cmd cur c1)) (pcReset (setUnit base dptr dlen cmd cur c2))
  s_w : ∀ {c1 c2}, S c1 c2 → W c1 c2
  s_win : ∀ {c1 c2}, S c1 c2 → Win P e c1 c2
  s_err : ∀ code info n, Keeps S S T (fun c => pushError c code info n)
  s_param : ∀ {c1 c2}, S c1 c2 → ∀ {n1 n2 p1 p2 : Nat}, n2 = n1 → p2 = p1 →
    S { c1 with inputCount := n1, ppos := p1 } { c2 with inputCount := n2, ppos := p2 } ∧
    T c1 c2 { c1 with inputCount := n1, ppos := p1 } { c2 with inputCount := n2, ppos := p2 }
  s_emit : ∀ ev, Keeps S S T (fun c => emit c ev)
  s_out : ∀ f, Equi f → Keeps S S T (fun c => { c with out := f c.out })
  s_pushed : ∀ {c1 c2}, S c1 c2 → ∀ f, Equi f →
    ((f c2.out).pushed.length > c2.out.pushed.length) = ((f c1.out).pushed.length > c1.out.pushed.length)
  s_regStep : ∀ op, Keeps S S T (fun c => regStep c op)
  s_builtin : ∀ b, Keeps S S T (pureBuiltin b)

namespace Frame
variable {P : Nat} (F : Frame P)

theorem s_buf {c1 c2 : Ctx} (h : F.S c1 c2) : UpTo F.Sc P c1.buf c2.buf := F.w_buf (F.s_w h)

theorem s_ctl {c1 c2 : Ctx} (h : F.S c1 c2) : UpTo ctl P c1.buf c2.buf := (F.s_buf h).mono F.sc_ctl

theorem window_eq {c1 c2 : Ctx} (h : F.W c1 c2) (a n : Nat) (hb : n = 0 ∨ a + n ≤ P + F.e) :
    (c2.buf.drop a).take n = (c1.buf.drop a).take n :=
  ((F.w_buf h).window a n (by have := F.e_le; omega)).symm

/-- `c1`, `c2` are `R`-related, and the two runs have made the same observations since they were at `a1`, `a2`.
Every statement of the walk is about two runs that started at a pair of anchors: what they observe on the way is
carried by the relation and not said again in each conclusion. -/
def Since (R : Ctx → Ctx → Prop) (a1 a2 c1 c2 : Ctx) : Prop := R c1 c2 ∧ F.T a1 a2 c1 c2

def RR {α : Type} (a1 a2 : Ctx) (x1 x2 : Ctx × α) : Prop := F.Since F.S a1 a2 x1.1 x2.1 ∧ x1.2 = x2.2

section
variable {F} {α β : Type} {R R' : Ctx → Ctx → Prop} {a1 a2 c1 c2 d1 d2 : Ctx}

theorem Since.refl (h : R c1 c2) : F.Since R c1 c2 c1 c2 := ⟨h, F.t_refl _ _⟩

theorem Since.step (h : F.Since R a1 a2 c1 c2) (k : R' d1 d2 ∧ F.T c1 c2 d1 d2) : F.Since R' a1 a2 d1 d2 :=
  ⟨k.1, F.t_trans h.2 k.2⟩

theorem Since.keep {g : Ctx → Ctx} (h : F.Since R a1 a2 c1 c2) (hg : Keeps R R' F.T g) : F.Since R' a1 a2 (g c1) (g c2) :=
  h.step (hg _ _ h.1)

theorem Since.same (h : F.Since F.S a1 a2 c1 c2) (v : α) : F.RR a1 a2 (c1, v) (c2, v) := ⟨h, rfl⟩

theorem Since.err (h : F.Since F.S a1 a2 c1 c2) (code : Int) (v : α) :
    F.RR a1 a2 (pushError c1 code none, v) (pushError c2 code none, v) := ⟨h.keep (F.s_err code none 0), rfl⟩

theorem rr_map {x1 x2 : Ctx × α} (f : α → β) (h : F.RR a1 a2 x1 x2) : F.RR a1 a2 (x1.1, f x1.2) (x2.1, f x2.2) :=
  ⟨h.1, congrArg f h.2⟩

theorem rr_elim {x1 x2 : Ctx × α} (h : F.RR a1 a2 x1 x2) :
    ∃ d1 d2 v, x1 = (d1, v) ∧ x2 = (d2, v) ∧ F.Since F.S a1 a2 d1 d2 := by
  obtain ⟨d1, v1⟩ := x1
  obtain ⟨d2, v2⟩ := x2
  obtain ⟨hs, hv⟩ := h
  cases hv
  exact ⟨d1, d2, v1, rfl, rfl, hs⟩

end

theorem pwin_eq {c1 c2 : Ctx} (h : F.S c1 c2) : pwin c2 = pwin c1 := by
  unfold pwin
  rw [(F.s_win h).pbase, (F.s_win h).plen]
  exact F.window_eq (F.s_w h) _ _ (.inr (F.s_win h).win)

variable {a1 a2 : Ctx}

theorem parameter_sim {c1 c2 : Ctx} (h : F.Since F.S a1 a2 c1 c2) (mand : Bool) :
    F.RR a1 a2 (parameter c1 mand) (parameter c2 mand) := by
  have hw := F.s_win h.1
  have ew := F.pwin_eq h.1
  have es : pstart c2 = pstart c1 := by unfold pstart; rw [hw.inputCount, hw.ppos, hw.pbase, ew]
  have et : ptok c2 = ptok c1 := by unfold ptok; rw [ew, es]
  have e0 : (c2.ppos ≥ c2.pbase + c2.plen) = (c1.ppos ≥ c1.pbase + c1.plen) := by rw [hw.ppos, hw.pbase, hw.plen]
  have e1 : (c2.inputCount != 0) = (c1.inputCount != 0) := by rw [hw.inputCount]
  have e2 : c2.ppos - c2.pbase = c1.ppos - c1.pbase := by rw [hw.ppos, hw.pbase]
  rw [Params.parameter_eq, Params.parameter_eq]
  simp only [e0, e1, e2, ew, et]
  split
  · cases mand
    · exact h.same _
    · exact h.err _ _
  · split
    · exact (h.step (F.s_param h.1 hw.inputCount
        (show c2.pbase + (Lexer.lexComma (pwin c1) (c1.ppos - c1.pbase)).1 = c1.pbase + _ by rw [hw.pbase]))).err _ _
    · have hs : F.Since F.S a1 a2 (pnext c1) (pnext c2) :=
        h.step (F.s_param h.1 (congrArg (· + 1) hw.inputCount) (by rw [hw.pbase, ew, es]))
      split
      · exact ⟨hs, by rw [hw.pbase]⟩
      · exact hs.err _ _

/-- How every typed reader starts: both runs call `parameter`, which leaves related contexts `d1`, `d2` with
the same flag and token, and give up with a default value unless a token was delivered.  What is left is to
relate what the readers make of a delivered token: it ends at most `e` bytes behind `P`, and a numeric one
starts at a byte at or before `P` that is not white space. -/
theorem reader_open {c1 c2 : Ctx} (h : F.Since F.S a1 a2 c1 c2) (mand : Bool) :
    ∃ d1 d2 ok t, parameter c1 mand = (d1, ok, t) ∧ parameter c2 mand = (d2, ok, t) ∧
      ∀ {α : Type} (dflt : α) (x1 x2 : Ctx × α),
        (F.Since F.S a1 a2 d1 d2 → t.ptr + t.len.toNat ≤ P + F.e ∧
            (numType t.type = true → t.ptr ≤ P ∧ Prim.isSpace (Prim.rd d1.buf t.ptr) = false) →
          F.RR a1 a2 x1 x2) →
        F.RR a1 a2 (if !ok then (d1, dflt) else x1) (if !ok then (d2, dflt) else x2) := by
  obtain ⟨d1, d2, ⟨ok, t⟩, e1, e2, hs⟩ := rr_elim (F.parameter_sim h mand)
  refine ⟨d1, d2, ok, t, e1, e2, fun dflt x1 x2 k => ?_⟩
  cases ok
  · exact hs.same _
  have h1 := (F.s_win h.1).win
  have h2 := F.w_inb (F.s_w h.1)
  have h3 := F.e_le
  have hb := parameter_tok c1 mand (by omega)
  rw [e1] at hb
  obtain ⟨a, b⟩ := hb rfl
  dsimp only at a b
  exact k hs ⟨by omega, fun hn => ⟨by have := (b hn).1; omega, (b hn).2⟩⟩

theorem paramToInt_eq {c1 c2 : Ctx} (h : F.S c1 c2) (t : Token) (w : Nat) (s : Bool)
    (ht : numType t.type = true → t.ptr ≤ P ∧ Prim.isSpace (Prim.rd c1.buf t.ptr) = false) :
    paramToInt c2 t w s = paramToInt c1 t w s := by
  cases hnum : numType t.type with
  | false => rw [Isolation.paramToInt_not_num _ _ _ _ hnum, Isolation.paramToInt_not_num _ _ _ _ hnum]
  | true =>
    obtain ⟨a, b⟩ := ht hnum
    have e1 : ∀ base, Prim.strtoulTo w c2.buf t.ptr base = Prim.strtoulTo w c1.buf t.ptr base :=
      fun bs => (strtoulTo_agree (F.s_ctl h) w t.ptr bs a b).symm
    have e2 : ∀ base, Prim.strtolTo w c2.buf t.ptr base = Prim.strtolTo w c1.buf t.ptr base :=
      fun bs => (strtolTo_agree (F.s_ctl h) w t.ptr bs a b).symm
    unfold paramToInt
    simp only [e1, e2]

theorem strtod_eq {c1 c2 : Ctx} (h : F.S c1 c2) (t : Token)
    (ht : t.ptr ≤ P ∧ Prim.isSpace (Prim.rd c1.buf t.ptr) = false) :
    Prim.strtodLen c2.buf t.ptr = Prim.strtodLen c1.buf t.ptr ∧
    (c2.buf.drop t.ptr).take (Prim.strtodLen c1.buf t.ptr) = (c1.buf.drop t.ptr).take (Prim.strtodLen c1.buf t.ptr) := by
  obtain ⟨f1, f2⟩ := strtodLen_agree (F.s_ctl h) t.ptr ht.1 ht.2
  exact ⟨f1.symm, F.window_eq (F.s_w h) _ _ (by omega)⟩

theorem paramInt_sim {c1 c2 : Ctx} (h : F.Since F.S a1 a2 c1 c2) (w : Nat) (s m : Bool) :
    F.RR a1 a2 (paramInt c1 w s m) (paramInt c2 w s m) := by
  unfold paramInt
  obtain ⟨d1, d2, ok, t1, e1, e2, k⟩ := F.reader_open h m
  rw [e1, e2]
  refine k _ _ _ fun hs hb => ?_
  dsimp only
  rw [F.paramToInt_eq hs.1 t1 w s hb.2]
  split
  · generalize paramToInt d1 t1 w s = y
    obtain ⟨r, v⟩ := y
    simp only []
    split
    · exact hs.same _
    · exact hs.err _ _
  · split
    · exact hs.err _ _
    · exact hs.err _ _

theorem paramFloat_sim {c1 c2 : Ctx} (h : F.Since F.S a1 a2 c1 c2) (dbl m : Bool) :
    F.RR a1 a2 (paramFloat c1 dbl m) (paramFloat c2 dbl m) := by
  unfold paramFloat
  obtain ⟨d1, d2, ok, t1, e1, e2, k⟩ := F.reader_open h m
  rw [e1, e2]
  refine k _ _ _ fun hs hb => ?_
  dsimp only
  rw [F.paramToInt_eq hs.1 t1 _ false hb.2]
  split
  · rename_i hnum
    obtain ⟨f1, f3⟩ := F.strtod_eq hs.1 t1 (hb.2 (Isolation.isNumber_numType _ _ hnum))
    rw [f1, f3]
    split
    · exact hs.same _
    · exact hs.same _
  · split
    · exact hs.err _ _
    · exact hs.err _ _

theorem paramToChoice_sim {c1 c2 : Ctx} (h : F.Since F.S a1 a2 c1 c2) (t : Token) (opts : List (Bytes × Int))
    (ht : t.ptr + t.len.toNat ≤ P + F.e) :
    F.RR a1 a2 (paramToChoice c1 t opts) (paramToChoice c2 t opts) := by
  unfold paramToChoice
  simp only [F.window_eq (F.s_w h.1) _ _ (.inr ht)]
  split
  · split
    · exact h.same _
    · exact h.err _ _
  · exact h.err _ _

theorem paramBool_sim {c1 c2 : Ctx} (h : F.Since F.S a1 a2 c1 c2) (m : Bool) :
    F.RR a1 a2 (paramBool c1 m) (paramBool c2 m) := by
  unfold paramBool
  obtain ⟨d1, d2, ok, t1, e1, e2, k⟩ := F.reader_open h m
  rw [e1, e2]
  refine k _ _ _ fun hs hb => ?_
  dsimp only
  rw [F.paramToInt_eq hs.1 t1 32 true hb.2]
  split
  · exact hs.same _
  · exact rr_map (fun p : Bool × Int => (p.1, p.2 != 0)) (F.paramToChoice_sim hs t1 boolDef hb.1)

theorem paramChoice_sim {c1 c2 : Ctx} (h : F.Since F.S a1 a2 c1 c2) (m : Bool) (opts : List (Bytes × Int)) :
    F.RR a1 a2 (paramChoice c1 m opts) (paramChoice c2 m opts) := by
  unfold paramChoice
  obtain ⟨d1, d2, ok, t1, e1, e2, k⟩ := F.reader_open h m
  rw [e1, e2]
  refine k _ _ _ fun hs hb => ?_
  exact F.paramToChoice_sim hs t1 opts hb.1

theorem paramChars_sim {c1 c2 : Ctx} (h : F.Since F.S a1 a2 c1 c2) (m : Bool) :
    F.RR a1 a2 (paramChars c1 m) (paramChars c2 m) := by
  unfold paramChars
  obtain ⟨d1, d2, ok, t1, e1, e2, k⟩ := F.reader_open h m
  rw [e1, e2]
  refine k _ _ _ fun hs hb => ?_
  have ht := hb.1
  rw [F.window_eq (F.s_w hs.1) t1.ptr _ (.inr ht), F.window_eq (F.s_w hs.1) (t1.ptr + 1) (t1.len.toNat - 2) (by omega)]
  split <;> exact hs.same _

theorem paramBlock_sim {c1 c2 : Ctx} (h : F.Since F.S a1 a2 c1 c2) (m : Bool) :
    F.RR a1 a2 (paramBlock c1 m) (paramBlock c2 m) := by
  unfold paramBlock
  obtain ⟨d1, d2, ok, t1, e1, e2, k⟩ := F.reader_open h m
  rw [e1, e2]
  refine k _ _ _ fun hs hb => ?_
  rw [F.window_eq (F.s_w hs.1) _ _ (.inr hb.1)]
  split
  · exact hs.same _
  · exact hs.err _ _

theorem paramText_sim {c1 c2 : Ctx} (h : F.Since F.S a1 a2 c1 c2) (m : Bool) (cap : Nat) :
    F.RR a1 a2 (paramText c1 m cap) (paramText c2 m cap) := by
  unfold paramText
  obtain ⟨d1, d2, ok, t1, e1, e2, k⟩ := F.reader_open h m
  rw [e1, e2]
  refine k _ _ _ fun hs hb => ?_
  dsimp only
  rw [F.window_eq (F.s_w hs.1) _ _ (.inr hb.1)]
  split
  · exact hs.same _
  · exact hs.same _
  · exact hs.err _ _

theorem paramArr_go_sim (w : Nat) (s : Bool) : ∀ (n : Nat) (c1 c2 : Ctx) (m : Bool) (acc : List Int),
    F.Since F.S a1 a2 c1 c2 → F.RR a1 a2 (paramArrInt.go w s n c1 m acc) (paramArrInt.go w s n c2 m acc) := by
  intro n
  induction n with
  | zero => intro c1 c2 m acc h; exact h.same _
  | succ n ih =>
    intro c1 c2 m acc h
    unfold paramArrInt.go
    obtain ⟨d1, d2, ⟨ok1, v1⟩, e1, e2, hs⟩ := rr_elim (F.paramInt_sim h w s m)
    rw [e1, e2]
    simp only []
    split
    · exact ih d1 d2 false _ hs
    · exact hs.same _

theorem paramArrInt_sim {c1 c2 : Ctx} (h : F.Since F.S a1 a2 c1 c2) (w : Nat) (s : Bool) (cap : Nat) (m : Bool) :
    F.RR a1 a2 (paramArrInt c1 w s cap m) (paramArrInt c2 w s cap m) :=
  F.paramArr_go_sim w s cap c1 c2 m [] h

theorem paramNumber_sim {c1 c2 : Ctx} (h : F.Since F.S a1 a2 c1 c2) (m : Bool) :
    F.RR a1 a2 (paramNumber c1 m) (paramNumber c2 m) := by
  unfold paramNumber
  obtain ⟨d1, d2, ok, t1, e1, e2, k⟩ := F.reader_open h m
  rw [e1, e2]
  refine k _ _ _ fun hs hb => ?_
  dsimp only
  have ht := hb.1
  rw [F.window_eq (F.s_w hs.1) t1.ptr t1.len.toNat (.inr ht), F.paramToInt_eq hs.1 t1 64 false hb.2]
  generalize htb : (d1.buf.drop t1.ptr).take t1.len.toNat = tokBytes
  have hlen : tokBytes.length ≤ t1.len.toNat := by rw [← htb]; exact List.length_take_le _ _
  split
  · rename_i htt
    obtain ⟨f1, f3⟩ := F.strtod_eq hs.1 t1 (hb.2 (by rw [htt]; rfl))
    rw [f1, f3]
    exact hs.same _
  · exact hs.same _
  · exact hs.same _
  · exact hs.same _
  · rename_i htt
    obtain ⟨f1, f3⟩ := F.strtod_eq hs.1 t1 (hb.2 (by rw [htt]; rfl))
    rw [f1, f3]
    split
    · exact hs.same _
    · split
      · exact hs.same _
      · exact hs.err _ _
  · have hw := Bounds.lb_whiteSpace tokBytes 0 (Nat.zero_le _)
    have hc := (Bounds.lb_characterData tokBytes _ hw.2.1).2.2.2
    generalize Lexer.lexCharacterProgramData tokBytes (Lexer.lexWhiteSpace tokBytes 0).1 = ct at hc ⊢
    obtain ⟨cp, ctok, cr⟩ := ct
    simp only [] at hc ⊢
    exact rr_map (fun p : Bool × Int => Ev.pNumber p.1 true p.2 [] 0 1 1 10)
      (F.paramToChoice_sim hs _ specialDef (by simp only []; omega))
  · exact hs.err _ _

structure HS (a1 a2 : Ctx) (h1 h2 : HState) : Prop where
  sim : F.Since F.S a1 a2 h1.c h2.c
  stopOnFail : h2.stopOnFail = h1.stopOnFail
  result : h2.result = h1.result
  done : h2.done = h1.done

variable {F}

theorem HS.set {h1 h2 : HState} (hh : F.HS a1 a2 h1 h2) {d1 d2 : Ctx} (hs : F.Since F.S a1 a2 d1 d2) :
    F.HS a1 a2 { h1 with c := d1 } { h2 with c := d2 } := ⟨hs, hh.stopOnFail, hh.result, hh.done⟩

theorem HS.keep {h1 h2 : HState} (hh : F.HS a1 a2 h1 h2) {g : Ctx → Ctx} (hg : Keeps F.S F.S F.T g) :
    F.HS a1 a2 { h1 with c := g h1.c } { h2 with c := g h2.c } := hh.set (hh.sim.keep hg)

theorem fin_sim {α : Type} {h1 h2 : HState} (hh : F.HS a1 a2 h1 h2) {x1 x2 : Ctx × α}
    (hr : F.RR a1 a2 x1 x2) (okf : α → Bool) (E : α → Ev) :
    F.HS a1 a2 (finX h1 x1.1 (okf x1.2) (E x1.2)) (finX h2 x2.1 (okf x2.2) (E x2.2)) := by
  obtain ⟨d1, d2, v1, rfl, rfl, hs⟩ := rr_elim hr
  have hse := hs.keep (F.s_emit (E v1))
  unfold finX
  by_cases hc : (!okf v1) = true ∧ h1.stopOnFail = true
  · rw [if_pos hc, if_pos (hh.stopOnFail ▸ hc)]
    exact ⟨hse, hh.stopOnFail, rfl, rfl⟩
  · rw [if_neg hc, if_neg (hh.stopOnFail ▸ hc)]
    exact hh.set hse

theorem out_err_sim {h1 h2 : HState} (hh : F.HS a1 a2 h1 h2) {f : Out → Out} (hf : Equi f) :
    F.HS a1 a2
      { h1 with c := if (f h1.c.out).pushed.length > h1.c.out.pushed.length
                     then pushError { h1.c with out := f h1.c.out } (-310) none else { h1.c with out := f h1.c.out } }
      { h2 with c := if (f h2.c.out).pushed.length > h2.c.out.pushed.length
                     then pushError { h2.c with out := f h2.c.out } (-310) none else { h2.c with out := f h2.c.out } } := by
  have hs := hh.sim.keep (F.s_out f hf)
  simp only [F.s_pushed hh.sim.1 f hf]
  split
  · exact hh.set (hs.keep (F.s_err (-310) none 0))
  · exact hh.set hs

variable (F)

theorem runBuiltin_sim {c1 c2 : Ctx} (h : F.Since F.S a1 a2 c1 c2) (b : Builtin) :
    F.RR a1 a2 (runBuiltin c1 b) (runBuiltin c2 b) := by
  cases hp : Lemmas.Builtin.paramReg b with
  | none =>
    rw [Lemmas.Builtin.runBuiltin_pure c1 b hp, Lemmas.Builtin.runBuiltin_pure c2 b hp]
    exact ⟨h.keep (F.s_builtin b), rfl⟩
  | some pr =>
    obtain ⟨reg, strict⟩ := pr
    rw [Lemmas.Builtin.runBuiltin_param c1 b reg strict hp, Lemmas.Builtin.runBuiltin_param c2 b reg strict hp,
      Lemmas.Builtin.regFromParam_eq, Lemmas.Builtin.regFromParam_eq]
    obtain ⟨d1, d2, ⟨ok1, v1⟩, e1, e2, hs⟩ := rr_elim (F.paramInt_sim h 32 true true)
    rw [e1, e2]
    dsimp only
    cases ok1
    · exact ⟨hs, rfl⟩
    · exact ⟨hs.keep (F.s_regStep _), rfl⟩

theorem runOp_sim {h1 h2 : HState} (hh : F.HS a1 a2 h1 h2) (op : SOp) :
    F.HS a1 a2 (runOp h1 op) (runOp h2 op) := by
  have hw := F.s_win hh.sim.1
  unfold runOp
  by_cases hd : h1.done = true
  · rw [if_pos hd, if_pos (hh.done ▸ hd)]; exact hh
  · rw [if_neg hd, if_neg (hh.done ▸ hd)]
    cases op
    case pInt w s m => exact fin_sim hh (F.paramInt_sim hh.sim w s m) (fun p => p.1) (fun p => .pInt p.1 p.2)
    case pFloat d m => exact fin_sim hh (F.paramFloat_sim hh.sim d m) (fun p => p.1) (fun p => .pLit p.1 p.2)
    case pBool m => exact fin_sim hh (F.paramBool_sim hh.sim m) (fun p => p.1) (fun p => .pBool p.1 p.2)
    case pChoice m k =>
      dsimp only
      rw [hw.choices]
      exact fin_sim hh (F.paramChoice_sim hh.sim m _) (fun p => p.1) (fun p => .pChoice p.1 p.2)
    case pNumber m =>
      exact fin_sim hh (F.paramNumber_sim hh.sim m) (fun e => match e with | .pNumber ok .. => ok | _ => false) (fun e => e)
    case pChars m => exact fin_sim hh (F.paramChars_sim hh.sim m) (fun p => p.1) (fun p => .pBytes p.1 p.2.1 p.2.2)
    case pBlock m => exact fin_sim hh (F.paramBlock_sim hh.sim m) (fun p => p.1) (fun p => .pBytes p.1 p.2.1 p.2.2)
    case pText m cap => exact fin_sim hh (F.paramText_sim hh.sim m cap) (fun p => p.1) (fun p => .pText p.1 p.2.1 p.2.2)
    case pArrInt w s cap m => exact fin_sim hh (F.paramArrInt_sim hh.sim w s cap m) (fun p => p.1) (fun p => .pArr p.1 p.2)
    case rInt w s v b => exact hh.keep (F.s_out _ (equi_closed.writer (.int w v b s)))
    case rIntN n s v b => exact hh.keep (F.s_out _ (equi_closed.writer (.int 32 _ b s)))
    case rFloatText t => exact hh.keep (F.s_out _ (equi_closed.writer (.floatText t)))
    case rBool b => exact hh.keep (F.s_out _ (equi_closed.writer (.bool b)))
    case rText d => exact hh.keep (F.s_out _ (equi_closed.writer (.text d)))
    case rChars d => exact hh.keep (F.s_out _ (equi_closed.writer (.chars d)))
    case rBlock d => exact hh.keep (F.s_out _ (equi_closed.writer (.block d)))
    case rBlockHeader n => exact hh.keep (F.s_out _ (equi_closed.writer (.blockHeader n)))
    case rBlockData d => exact out_err_sim hh (equi_closed.writer (.blockData d))
    case rArrBin sz es same => exact out_err_sim hh (equi_closed.writer (.arrBin es sz same))
    case ePush code info => exact hh.keep (F.s_err code info 0)
    case iTag => dsimp only; rw [hw.cur]; exact hh.keep (F.s_emit _)
    case iIsCmd s => dsimp only; rw [hw.cur]; exact hh.keep (F.s_emit _)
    case iMatch pat s => exact hh.keep (F.s_emit _)
    case iNums n d =>
      dsimp only
      rw [hw.cur]
      split
      · rename_i cmd _
        have := matchCommand_agree ((F.s_ctl hh.sim.1).drop h1.c.rawOff hw.rawo) cmd.pattern h1.c.rawLen
          (some (List.replicate n (-777))) d (by have := hw.raw; have := F.e_le; omega)
        rw [hw.rawOff, hw.rawLen, ← this]
        exact hh.keep (F.s_emit _)
      · exact hh
    case onFail s => exact ⟨hh.sim, rfl, hh.result, hh.done⟩
    case ret ok => exact ⟨hh.sim, hh.stopOnFail, rfl, rfl⟩
    case builtin b =>
      obtain ⟨hs, hv⟩ := F.runBuiltin_sim hh.sim b
      dsimp only
      rw [← hv]
      split
      · exact hh.set hs
      · exact ⟨hs, hh.stopOnFail, rfl, rfl⟩

theorem foldl_runOp_sim (s : List SOp) : ∀ {h1 h2 : HState}, F.HS a1 a2 h1 h2 →
    F.HS a1 a2 (s.foldl runOp h1) (s.foldl runOp h2) := by
  induction s with
  | nil => exact fun hh => hh
  | cons op s ih => exact fun hh => ih (F.runOp_sim hh op)

theorem runScript_sim {c1 c2 : Ctx} (h : F.Since F.S a1 a2 c1 c2) (s : List SOp) :
    F.RR a1 a2 (runScript c1 s) (runScript c2 s) :=
  have a := F.foldl_runOp_sim s (h1 := { c := c1 }) (h2 := { c := c2 }) ⟨h, rfl, rfl, rfl⟩
  ⟨a.sim, a.result.symm⟩

theorem pcBody_tail {x1 x2 : Ctx × Bool} (h : F.RR a1 a2 x1 x2) : F.RR a1 a2 (Stage.pcVerdict x1) (Stage.pcVerdict x2) := by
  obtain ⟨d1, d2, r1, rfl, rfl, hs⟩ := rr_elim h
  unfold Stage.pcVerdict
  rw [(F.s_win hs.1).cmdError]
  split
  · split
    · exact hs.err _ _
    · exact hs.same _
  · exact hs.same _

theorem pcBody_sim {c1 c2 : Ctx} (h : F.Since F.S a1 a2 c1 c2) : F.RR a1 a2 (pcBody c1) (pcBody c2) := by
  have hw := F.s_win h.1
  cases hc : c1.cur with
  | none => rw [Stage.pcBody_none hc, Stage.pcBody_none (hw.cur.trans hc)]; exact h.same _
  | some cmd =>
    rw [Stage.pcBody_some hc, Stage.pcBody_some (hw.cur.trans hc)]
    refine F.pcBody_tail (F.runScript_sim ?_ cmd.script)
    unfold Stage.enter
    rw [hw.cur, hc, hw.rawOff, hw.rawLen, F.window_eq (F.s_w h.1) _ _ (.inr hw.raw)]
    exact h.keep (F.s_emit _)

theorem pcTail_sim {x1 x2 : Ctx × Bool} (h : F.RR a1 a2 x1 x2) : F.RR a1 a2 (pcTail x1) (pcTail x2) := by
  obtain ⟨d1, d2, r1, rfl, rfl, hs⟩ := rr_elim h
  have hw := F.s_win hs.1
  have hs' := hs.keep (F.s_out pcOut equi_pcOut)
  have e : (d2.ppos < d2.pbase + d2.plen ∧ (!d2.cmdError) = true) = (d1.ppos < d1.pbase + d1.plen ∧ (!d1.cmdError) = true) := by
    rw [hw.ppos, hw.pbase, hw.plen, hw.cmdError]
  unfold pcTail
  dsimp only
  by_cases hc : d1.ppos < d1.pbase + d1.plen ∧ (!d1.cmdError) = true
  · rw [if_pos hc, if_pos (e ▸ hc)]
    exact hs'.err _ _
  · rw [if_neg hc, if_neg (e ▸ hc)]
    exact hs'.same _

theorem processCommand_sim {c1 c2 : Ctx} (hs : F.Since F.S a1 a2 (pcReset c1) (pcReset c2)) :
    F.RR a1 a2 (processCommand c1) (processCommand c2) := by
  rw [processCommand_eq, processCommand_eq]
  exact F.pcTail_sim (F.pcBody_sim hs)

theorem findCommand_eq {c1 c2 : Ctx} (hw : F.W c1 c2) (off len : Nat) (ho : off ≤ P) (hl : off + len ≤ P + F.e) :
    findCommand c2 off len = findCommand c1 off len := by
  unfold findCommand
  rw [F.w_cmds hw]
  apply ByteList.find?_congr
  intro cmd _
  rw [matchCommand_agree (((F.w_buf hw).mono F.sc_ctl).drop off ho) cmd.pattern len none 0 (by have := F.e_le; omega)]

theorem unitCmd_sim {c1 c2 : Ctx} (h : F.Since F.W a1 a2 c1 c2) (base r dptr dlen : Nat) (cur : Nat × Nat) (res : Bool)
    (hr : base + r ≤ P + F.e) (hd : dptr + dlen ≤ r) (hcur0 : cur.1 ≤ P) (hcur : cur.1 + cur.2 ≤ base + r) :
    F.Since F.W a1 a2 (unitCmd c1 base r dptr dlen cur res).1 (unitCmd c2 base r dptr dlen cur res).1 ∧
    (unitCmd c1 base r dptr dlen cur res).2 = (unitCmd c2 base r dptr dlen cur res).2 := by
  have hcur' : cur.1 + cur.2 ≤ P + F.e := Nat.le_trans hcur hr
  unfold unitCmd
  rw [F.findCommand_eq h.1 cur.1 cur.2 hcur0 hcur']
  split
  · rename_i cmd _
    obtain ⟨d1, d2, r, e1, e2, hs⟩ :=
      rr_elim (F.processCommand_sim (h.step (F.w_unit h.1 base dptr dlen cmd cur (by omega) hcur0 hcur')))
    rw [e1, e2]
    exact ⟨⟨F.s_w hs.1, hs.2⟩, rfl⟩
  · dsimp only
    rw [F.window_eq h.1 _ _ (.inr hr)]
    exact ⟨h.keep (F.w_err (-113) _ _), rfl⟩

/-- the in-place composition of the header of `u` in both runs: the same effective header, which ends where the header
as written ends and starts at or before it -/
theorem compose_sim {c1 c2 : Ctx} (h : F.Since F.W a1 a2 c1 c2) (base : Nat) (prev : Option (Nat × Nat)) (u : Parser.Unit)
    (hl : 0 < u.header.len) (hin : base + u.header.ptr ≤ P)
    (hprev : ∀ pp pl, prev = some (pp, pl) → pp + pl ≤ base + u.header.ptr) :
    F.Since F.W a1 a2 (Stage.compose c1 base prev u).1 (Stage.compose c2 base prev u).1 ∧
    (Stage.compose c1 base prev u).2 = (Stage.compose c2 base prev u).2 ∧
    (Stage.compose c1 base prev u).2.1 ≤ base + u.header.ptr ∧
    (Stage.compose c1 base prev u).2.1 + (Stage.compose c1 base prev u).2.2 = base + u.header.ptr + u.header.len.toNat := by
  have h0 : 0 < u.header.len.toNat := by omega
  obtain ⟨e, hb, hle⟩ := composeCompound_agree (F.w_buf h.1) prev (base + u.header.ptr, u.header.len.toNat) h0 hin hprev
  obtain ⟨_, k2, _, k4⟩ := Bounds.compose_inv c1.buf prev (base + u.header.ptr, u.header.len.toNat) 0 h0 (Nat.zero_le _)
    fun pp pl hh => ⟨Nat.zero_le _, hprev pp pl hh⟩
  unfold Stage.compose
  rw [← e]
  exact ⟨h.step (F.w_setBuf h.1 hb k2.1 _), rfl, hle, k4⟩

/-- one iteration in both runs, on the unit `u` the first run detects (the windows are equal) -/
theorem stepUnit_sim {c1 c2 : Ctx} (h : F.Since F.W a1 a2 c1 c2) (base len : Nat) (prev : Option (Nat × Nat)) (res : Bool)
    {u : Parser.Unit} (hu : Parser.detectUnit ((c1.buf.drop base).take len) = u)
    (hbl : base + len ≤ P + F.e) (hprev : ∀ pp pl, prev = some (pp, pl) → pp + pl ≤ base) :
    F.Since F.W a1 a2 (Stage.stepCore c1 base prev res u).1 (Stage.stepCore c2 base prev res u).1 ∧
    (Stage.stepCore c1 base prev res u).2 = (Stage.stepCore c2 base prev res u).2 := by
  have hr : base + u.consumed ≤ P + F.e :=
    Nat.le_trans (Nat.add_le_add_left (hu ▸ Bounds.window_consumed_le c1.buf base len) base) hbl
  refine Stage.stepCore_cases (motive := fun f => F.Since F.W a1 a2 (f c1).1 (f c2).1 ∧ (f c1).2 = (f c2).2) base prev res u
    (fun _ => ⟨h.keep (F.w_err (-101) none 0), rfl⟩) (fun _ _ _ => ⟨h.keep (F.w_err (-103) none 0), rfl⟩)
    (fun _ _ => ⟨h, rfl⟩) fun hi hl => ?_
  have hin := (hu ▸ Lemmas.Lexer.detect_header_inside ((c1.buf.drop base).take len)) hi hl
  have hP : base + u.header.ptr ≤ P := by have := F.e_le; omega
  obtain ⟨hc, e, k1, k2⟩ := F.compose_sim h base prev u hl hP
    fun pp pl hh => Nat.le_trans (hprev pp pl hh) (Nat.le_add_right _ _)
  dsimp only
  rw [← e]
  exact F.unitCmd_sim hc base u.consumed u.data.ptr u.data.len.toNat _ res hr
    (hu ▸ Lemmas.Lexer.detect_data_inside ((c1.buf.drop base).take len)) (Nat.le_trans k1 hP) (by omega)

theorem parseLoop_sim : ∀ (fuel : Nat) (c1 c2 : Ctx) (base len : Nat) (prev : Option (Nat × Nat)) (res : Bool),
    F.Since F.W a1 a2 c1 c2 → base + len ≤ P + F.e → (∀ pp pl, prev = some (pp, pl) → pp + pl ≤ base) →
    F.Since F.W a1 a2 (parseLoop fuel c1 base len prev res).1 (parseLoop fuel c2 base len prev res).1 ∧
    (parseLoop fuel c1 base len prev res).2 = (parseLoop fuel c2 base len prev res).2 := by
  intro fuel
  induction fuel with
  | zero =>
    intro c1 c2 base len prev res h _ _
    exact ⟨h.keep F.w_oob, rfl⟩
  | succ fuel ih =>
    intro c1 c2 base len prev res h hbl hprev
    rw [Stage.parseLoop_succ, Stage.parseLoop_succ, F.window_eq h.1 _ _ (.inr hbl)]
    generalize hu : Parser.detectUnit ((c1.buf.drop base).take len) = u
    obtain ⟨b1, b3⟩ := F.stepUnit_sim h base len prev res hu hbl hprev
    have hin := hu ▸ Lemmas.Lexer.detect_header_inside ((c1.buf.drop base).take len)
    -- where the header of this unit ends is a fact about one run
    have b4 := (Bounds.stepCore_frame 0 (base + u.consumed) c1 base prev res u (Nat.zero_le _) hin
      (fun hi hl => by have := hin hi hl; omega) (fun pp pl hh => ⟨Nat.zero_le _, hprev pp pl hh⟩)).2.2
    rw [← b3]
    split
    · exact ih _ _ (base + u.consumed) (len - u.consumed) _ _ b1 (by omega) fun pp pl hh => (b4 pp pl hh).2
    · exact ⟨b1, rfl⟩

end Frame

end ScpiVerif.Lemmas.TwoRun
