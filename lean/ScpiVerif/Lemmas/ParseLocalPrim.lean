/-
Two byte buffers that agree up to and including an index `P` holding the line feed or carriage return
that ends a message: the stopper of `ParseLocal` (Lemmas/ParseLocal.lean), an instance of
`Lemmas/UpTo.lean`.  A line feed is white space for `strtol`/`strtod`, so the number readers are used
only where the byte they start at is not white space.
-/
import ScpiVerif.Lemmas.UpTo


namespace ScpiVerif.Lemmas.ParseLocalAux
open ScpiVerif ScpiVerif.Lexer ScpiVerif.Lemmas.UpTo

def stp (b : UInt8) : Bool := b == 10 || b == 13

structure AgreeL (P : Nat) (b1 b2 : Bytes) : Prop where
  len : b1.length = b2.length
  eq : ∀ i, i ≤ P → b1.getD i 0 = b2.getD i 0
  lf : stp (b1.getD P 0) = true

theorem AgreeL.upTo {P : Nat} {b1 b2 : Bytes} (h : AgreeL P b1 b2) : UpTo stp P b1 b2 := ⟨h.len, h.eq, h.lf⟩

theorem AgreeL.of_upTo {P : Nat} {b1 b2 : Bytes} (h : UpTo stp P b1 b2) : AgreeL P b1 b2 := ⟨h.len, h.eq, h.stop⟩

theorem AgreeL.ctl {P : Nat} {b1 b2 : Bytes} (h : AgreeL P b1 b2) : UpTo ctl P b1 b2 :=
  h.upTo.mono fun b hb => by
    have : b = 10 ∨ b = 13 := by simpa [stp] using hb
    rcases this with rfl | rfl <;> rfl

theorem AgreeL.symm {P : Nat} {b1 b2 : Bytes} (h : AgreeL P b1 b2) : AgreeL P b2 b1 :=
  .of_upTo h.upTo.symm

theorem strtoulTo_agree {P : Nat} {b1 b2 : Bytes} (h : AgreeL P b1 b2) (w off base : Nat) (ho : off ≤ P)
    (hns : Prim.isSpace (Prim.rd b1 off) = false) :
    Prim.strtoulTo w b1 off base = Prim.strtoulTo w b2 off base :=
  UpTo.strtoulTo_agree h.ctl w off base ho hns

theorem strtolTo_agree {P : Nat} {b1 b2 : Bytes} (h : AgreeL P b1 b2) (w off base : Nat) (ho : off ≤ P)
    (hns : Prim.isSpace (Prim.rd b1 off) = false) :
    Prim.strtolTo w b1 off base = Prim.strtolTo w b2 off base :=
  UpTo.strtolTo_agree h.ctl w off base ho hns

theorem strtodLen_agree {P : Nat} {b1 b2 : Bytes} (h : AgreeL P b1 b2) (off : Nat) (ho : off ≤ P)
    (hns : Prim.isSpace (Prim.rd b1 off) = false) :
    Prim.strtodLen b1 off = Prim.strtodLen b2 off ∧ off + Prim.strtodLen b1 off ≤ P :=
  UpTo.strtodLen_agree h.ctl off ho hns

/-- from the hypotheses of `ParseLocal` -/
theorem AgreeL.of_take {b1 b2 : Bytes} {k : Nat} (hl : b1.length = b2.length) (hk : k ≤ b1.length)
    (ht : b1.take k = b2.take k) {x : UInt8} (hlast : (b1.take k).getLast? = some x) (hx : stp x = true) :
    0 < k ∧ AgreeL (k - 1) b1 b2 := by
  have hk0 : 0 < k := by
    rcases Nat.eq_zero_or_pos k with h0 | h0
    · subst h0; simp at hlast
    · exact h0
  refine ⟨hk0, hl, ?_, ?_⟩
  · intro i hi
    have h1 : (b1.take k)[i]? = (b2.take k)[i]? := by rw [ht]
    simp only [List.getElem?_take] at h1
    rw [if_pos (by omega), if_pos (by omega)] at h1
    simp only [List.getD_eq_getElem?_getD, h1]
  · rw [List.getLast?_eq_getElem?] at hlast
    simp only [List.length_take, List.getElem?_take] at hlast
    have e : min k b1.length - 1 = k - 1 := by omega
    rw [e, if_pos (by omega)] at hlast
    simp only [List.getD_eq_getElem?_getD, hlast, Option.getD_some]
    exact hx

end ScpiVerif.Lemmas.ParseLocalAux
