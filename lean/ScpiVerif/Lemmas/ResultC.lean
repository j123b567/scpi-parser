/-
Refinement of the hand-written model of the response framing functions (Model/Result.lean: writeData, writeSep,
writeDelimiter, writeNewLine, resultCharacters) by the definitions GENERATED from libscpi/src/parser.c on every run
(Gen/ResultC.lean).  The generated code knows nothing about the ghost fields of `Result.Out` nor about arbRemaining / pushed,
which these functions do not touch: the refinement is stated on the projection `View = (output_count, first_output, written,
flushes)`.  Each generated function is first brought to a plain update of the state (`.._eq`: with the callbacks present the
CHECK before a call through the callback table passes; the tests on `output_count` are decided by `omega`, in whatever order
the C text makes them); the statements of Props/C06Gen.lean are read off those equations.
-/
import ScpiVerif.Gen.ResultC
import ScpiVerif.Model.Result

namespace ScpiVerif.Lemmas.ResultC
open ScpiVerif ScpiVerif.Gen.ResultC
open ScpiVerif.Lexer (Bytes)

variable {ρ : Type}

/-- what both sides can see -/
abbrev View := Int × Bool × Bytes × Nat

def cview (c : CCtx ρ) : View := (c.output_count, c.first_output, c.written, c.flushes)
def oview (o : Result.Out) : View := (o.outputCount, o.firstOutput, o.written, o.flushes)

/-- the application provides the callback table with `write` and `flush` (what the harness does and the hand model assumes) -/
def IfaceOK (c : CCtx ρ) : Prop :=
  c.interface_nonnull = true ∧ c.interface_write_nonnull = true ∧ c.interface_flush_nonnull = true

/-- the C range of `output_count` below its maximum: one more `++` is defined -/
def CountOK (c : CCtx ρ) : Prop := -9223372036854775808 ≤ c.output_count ∧ c.output_count < 9223372036854775807

/-- the line ending the hand model writes (the generated constant of Gen/Tables.lean) is the string literal of parser.c -/
theorem line_ending_literal : Result.bytesOf Gen.LINE_ENDING = [13, 10] := by decide +kernel

theorem chk_eq (c : CCtx ρ) (ok : Bool) : c.chk ok = { c with ub := c.ub || !ok } := by
  cases ok <;> cases c <;> simp [CCtx.chk]

theorem view_eq {c : CCtx ρ} {o : Result.Out} : cview c = oview o ↔
    c.output_count = o.outputCount ∧ c.first_output = o.firstOutput ∧ c.written = o.written ∧ c.flushes = o.flushes := by
  simp only [cview, oview, Prod.mk.injEq]

theorem writeData_eq (c : CCtx ρ) (hi : IfaceOK c) (d : Bytes) (len : Int) (h0 : 0 ≤ len) (h1 : len ≤ d.length) :
    writeData c (some d) len = ({ c with written := c.written ++ d.take len.toNat }, len) := by
  obtain ⟨i1, i2, -⟩ := hi
  by_cases hl : len > 0
  · simp only [writeData, cb_write, CCtx.chk, hl, h0, h1, i1, i2, decide_true, and_self, Option.isSome_some, Option.getD_some,
      Bool.and_self, Bool.not_true, Bool.or_false, if_true]
  · obtain rfl : len = 0 := by omega
    simp only [writeData, hl, decide_false, Bool.false_and, Bool.false_eq_true, if_false, Int.toNat_zero, List.take_zero,
      List.append_nil]

theorem flushData_eq (c : CCtx ρ) (hi : IfaceOK c) : flushData c = ({ c with flushes := c.flushes + 1 }, SCPI_RES_OK) := by
  obtain ⟨i1, -, i3⟩ := hi
  simp only [flushData, cb_flush, CCtx.chk, i1, i3, Bool.and_self, if_true, SCPI_RES_OK]

theorem writeData_count (c : CCtx ρ) (p : Option (List UInt8)) (len : Int) : (writeData c p len).1.output_count = c.output_count := by
  simp only [writeData, cb_write, chk_eq]
  split <;> rfl

/-- a one-character separator, written from its string literal -/
theorem writeData_char (c : CCtx ρ) (hi : IfaceOK c) (x : UInt8) :
    writeData c (some [x, 0]) 1 = ({ c with written := c.written ++ [x] }, 1) :=
  writeData_eq c hi [x, 0] 1 (by decide) (show (1 : Int) ≤ ((2 : Nat) : Int) by decide)

/-- "," behind an item of the same unit, ";" (and the count back to 0) behind an earlier unit, nothing at the start; whatever
order the C text tests the two cases in -/
theorem writeDelimiter_eq (c : CCtx ρ) (hi : IfaceOK c) : writeDelimiter c =
    if c.output_count > 0 then ({ c with written := c.written ++ [44] }, 1)
    else if c.output_count < 0 then ({ c with output_count := 0, written := c.written ++ [59] }, 1)
    else (c, 0) := by
  rcases Int.lt_trichotomy c.output_count 0 with h | h | h <;>
    simp (disch := omega) only [writeDelimiter, decide_eq_true_eq, if_pos, if_neg, writeData_char c hi,
      writeData_char { c with output_count := 0 } hi]

theorem writeDelimiter_count (c : CCtx ρ) : (writeDelimiter c).1.output_count = if c.output_count < 0 then 0 else c.output_count := by
  rcases Int.lt_trichotomy c.output_count 0 with h | h | h <;>
    simp (disch := omega) only [writeDelimiter, decide_eq_true_eq, if_pos, if_neg, writeData_count]

/-- the separator inside the error string of SCPI_ResultError -/
theorem writeSemicolon_eq (c : CCtx ρ) (hi : IfaceOK c) : writeSemicolon c =
    if c.output_count > 0 then ({ c with written := c.written ++ [59] }, 1) else (c, 0) := by
  by_cases h : c.output_count > 0 <;>
    simp (disch := omega) only [writeSemicolon, decide_eq_true_eq, if_pos, if_neg, writeData_char c hi]

/-- the line ending and one flush behind a response, nothing when nothing was written; whichever case the C text tests for,
and whether it takes the length of the literal by `strlen` or by `sizeof` -/
theorem writeNewLine_eq (c : CCtx ρ) (hi : IfaceOK c) : writeNewLine c =
    if c.first_output then (c, 0) else ({ c with written := c.written ++ [13, 10], flushes := c.flushes + 1 }, 2) := by
  have hlen : cstrlen [13, 10, 0] = 2 := by decide
  have w : writeData c (some [13, 10, 0]) 2 = ({ c with written := c.written ++ [13, 10] }, 2) :=
    writeData_eq c hi [13, 10, 0] 2 (by decide) (by decide)
  cases hf : c.first_output <;>
    simp only [writeNewLine, hf, Bool.not_true, Bool.not_false, Bool.false_eq_true, if_true, if_false, Option.getD_some, hlen, w,
      flushData_eq { c with first_output := false, written := c.written ++ [13, 10] } hi, SCPI_RES_OK]

/-- `context->output_count++` with its CHECK, as the translator emits it -/
def bump (c : CCtx ρ) : CCtx ρ :=
  let c := c.chk (decide ((-9223372036854775808) ≤ c.output_count + 1 ∧ c.output_count + 1 ≤ 9223372036854775807))
  { c with output_count := c.output_count + 1 }

theorem resultCharacters_eq (c : CCtx ρ) (p : Option (List UInt8)) (len : Int) :
    (SCPI_ResultCharacters c p len).1 = bump (writeData (writeDelimiter c).1 p len).1 := rfl

theorem writeDelimiter_ok (c : CCtx ρ) (hi : IfaceOK c) (hc : CountOK c) : IfaceOK (writeDelimiter c).1 ∧ CountOK (writeDelimiter c).1 := by
  rw [writeDelimiter_eq c hi]
  obtain ⟨c1, c2⟩ := hc
  split
  · exact ⟨hi, c1, c2⟩
  · split
    · exact ⟨hi, (by decide : (-9223372036854775808 : Int) ≤ 0), (by decide : (0 : Int) < 9223372036854775807)⟩
    · exact ⟨hi, c1, c2⟩

theorem bump_refines (c : CCtx ρ) (o : Result.Out) (hv : cview c = oview o) (hc : CountOK c) :
    cview (bump c) = oview (Result.bump o) ∧ (bump c).ub = c.ub := by
  obtain ⟨v1, v2, v3, v4⟩ := view_eq.mp hv
  obtain ⟨c1, c2⟩ := hc
  have hb : bump c = { c with output_count := c.output_count + 1 } := by
    rw [bump, decide_eq_true (by omega)]; rfl
  rw [hb]
  exact ⟨view_eq.mpr ⟨congrArg (· + 1) v1, v2, v3, v4⟩, rfl⟩

end ScpiVerif.Lemmas.ResultC
