/-
The C library specifications of Model/Prim.lean (`strtoSyntax` with `strtolTo` / `strtoulTo`, and `strtodLen`) over the
text `mem.drop off`, in the calculus `hd` / `tw` of Lemmas/ByteScan.lean: every scan is `i + tw p (mem.drop i)`, and
`strtoSyntax` IS the list function `syn` (`strtoSyntax_list`, no hypothesis), about which its users reason with list
lemmas.  The matcher's own model of `strtol(.., 10)`, `Match.strtol10`, is `strtolTo 32 .. 10` (`strtol10_eq_strtolTo`).
The stage definitions into which the two functions unfold by `rfl` (`strtoSyntax_eq`, `strtodLen_eq`) come first; the
agreement of the functions on two buffers (Lemmas/UpTo.lean) goes through them.  The closed form of `strtodLen` on a
decimal literal is stated in the lexer's terms and stands in Lemmas/StrtodLen.lean.
-/
import ScpiVerif.Model.Prim
import ScpiVerif.Model.Match
import ScpiVerif.Lemmas.ByteScan

namespace ScpiVerif.Lemmas.Strto
open ScpiVerif ScpiVerif.Lexer ScpiVerif.Lemmas.Lexer ScpiVerif.Prim

theorem skipSpaces_of_not_space (b : Bytes) (f i : Nat) (h : isSpace (rd b i) = false) :
    skipSpaces b f i = i := by
  cases f with
  | zero => rfl
  | succ f => simp only [skipSpaces, h, Bool.false_eq_true, if_false]

def sgnStep (mem : Bytes) (i0 : Nat) : Bool × Nat :=
  if rd mem i0 == 45 then (true, i0 + 1) else if rd mem i0 == 43 then (false, i0 + 1) else (false, i0)

def pfxStep (mem : Bytes) (base i1 : Nat) : Nat :=
  if base == 16 ∧ rd mem i1 == 48 ∧ (rd mem (i1 + 1) == 120 ∨ rd mem (i1 + 1) == 88) ∧
     isHexDigit (rd mem (i1 + 2)) then i1 + 2 else i1

theorem strtoSyntax_eq (mem : Bytes) (off base : Nat) :
    strtoSyntax mem off base =
      (let s := sgnStep mem (skipSpaces mem (mem.length - off + 1) off)
       let i2 := pfxStep mem base s.2
       let r := digitsOfBase mem base (mem.length - i2 + 2) i2 0
       if r.1 == i2 then (0, false, 0) else (r.1 - off, s.1, r.2)) := rfl

def dLower (b : UInt8) : UInt8 := if 65 ≤ b ∧ b ≤ 90 then b + 32 else b

def dWord (mem : Bytes) (w : List UInt8) (at_ : Nat) : Bool :=
  (w.zipIdx).all (fun (c, k) => dLower (rd mem (at_ + k)) == c)

def dSign (mem : Bytes) (i0 : Nat) : Nat :=
  if rd mem i0 == 45 ∨ rd mem i0 == 43 then i0 + 1 else i0

def dFrac (mem : Bytes) (p : UInt8 → Bool) (fuel a : Nat) : Nat :=
  if rd mem a == 46 then strtodLen.run mem p fuel (a + 1) else a

def dExp (mem : Bytes) (c1 c2 : UInt8) (fuel b : Nat) : Nat :=
  if rd mem b == c1 ∨ rd mem b == c2 then
    let s := dSign mem (b + 1)
    if isDigit (rd mem s) then strtodLen.run mem isDigit fuel s else b
  else b

def dHexCond (mem : Bytes) (i1 : Nat) : Prop :=
  rd mem i1 == 48 ∧ (rd mem (i1 + 1) == 120 ∨ rd mem (i1 + 1) == 88) ∧
    (isHexDigit (rd mem (i1 + 2)) ∨
      (rd mem (i1 + 2) == 46 ∧ isHexDigit (rd mem (i1 + 3))))

instance (mem : Bytes) (i1 : Nat) : Decidable (dHexCond mem i1) := by
  unfold dHexCond; infer_instance

/-- a hexadecimal floating constant behind its `0x` -/
def dHex (mem : Bytes) (off fuel i1 : Nat) : Nat :=
  let a := strtodLen.run mem isHexDigit fuel (i1 + 2)
  dExp mem 112 80 fuel (dFrac mem isHexDigit fuel a) - off

/-- a decimal floating constant -/
def dDec (mem : Bytes) (off fuel i1 : Nat) : Nat :=
  let a := strtodLen.run mem isDigit fuel i1
  let b := dFrac mem isDigit fuel a
  let nd := (a - i1) + (if rd mem a == 46 then b - (a + 1) else 0)
  if nd == 0 then 0 else dExp mem 101 69 fuel b - off

def dBody (mem : Bytes) (off i1 : Nat) : Nat :=
  if dWord mem [105, 110, 102] i1 then
    (if dWord mem [105, 110, 102, 105, 110, 105, 116, 121] i1 then i1 + 8 else i1 + 3) - off
  else if dWord mem [110, 97, 110] i1 then i1 + 3 - off
  else if dHexCond mem i1 then dHex mem off (mem.length - i1 + 2) i1
  else dDec mem off (mem.length - i1 + 2) i1

theorem strtodLen_eq (mem : Bytes) (off : Nat) :
    strtodLen mem off = dBody mem off (dSign mem (skipSpaces mem (mem.length - off + 1) off)) := rfl

/-- `x` is a digit of `base` for the strto* family -/
def digitOK (base : Nat) (x : UInt8) : Bool :=
  match digitVal x with
  | some d => decide (d < base)
  | none => false

structure DigitRow (x : UInt8) : Prop where
  ten : digitOK 10 x = isDigit x
  xdigit : isXDigit x = true → digitOK 16 x = true
  qdigit : isQDigit x = true → digitOK 8 x = true
  bdigit : isBDigit x = true → digitOK 2 x = true
  hexdigit : isHexDigit x = true → digitOK 16 x = true
  start : (digitVal x).isSome = true ∨ x = 46 → isSpace x = false ∧ x ≠ 43 ∧ x ≠ 45
  noX : digitOK 16 x = true → (x == 120 || x == 88) = false

/-- the lexer's digit classes are digits of their bases; a digit or the point is neither white space nor a sign, and
`x` is no hexadecimal digit (256 rows) -/
theorem digit_table (x : UInt8) : DigitRow x :=
  have row : ∀ x : UInt8, digitOK 10 x = isDigit x ∧ (isXDigit x = true → digitOK 16 x = true) ∧
      (isQDigit x = true → digitOK 8 x = true) ∧ (isBDigit x = true → digitOK 2 x = true) ∧
      (isHexDigit x = true → digitOK 16 x = true) ∧
      ((digitVal x).isSome = true ∨ x = 46 → isSpace x = false ∧ x ≠ 43 ∧ x ≠ 45) ∧
      (digitOK 16 x = true → (x == 120 || x == 88) = false) := ByteList.forall_byte (by decide +kernel)
  let ⟨h1, h2, h3, h4, h5, h6, h7⟩ := row x
  ⟨h1, h2, h3, h4, h5, h6, h7⟩

theorem digit_start {x : UInt8} (h : (digitVal x).isSome = true ∨ x = 46) : isSpace x = false ∧ x ≠ 43 ∧ x ≠ 45 :=
  (digit_table x).start h

theorem digitOK_some {base d : Nat} {x : UInt8} (h : digitVal x = some d) : digitOK base x = decide (d < base) := by
  unfold digitOK; rw [h]

theorem digitOK_none {base : Nat} {x : UInt8} (h : digitVal x = none) : digitOK base x = false := by
  unfold digitOK; rw [h]

theorem digitOK_isSome {base : Nat} {x : UInt8} (h : digitOK base x = true) : (digitVal x).isSome = true := by
  cases hd : digitVal x
  · rw [digitOK_none hd] at h; cases h
  · rfl

theorem digitOK_mono {base base' : Nat} (h : base ≤ base') {x : UInt8} (hx : digitOK base x = true) :
    digitOK base' x = true := by
  cases hv : digitVal x with
  | none => rw [digitOK_none hv] at hx; cases hx
  | some d =>
    rw [digitOK_some hv] at hx ⊢
    exact decide_eq_true (Nat.lt_of_lt_of_le (of_decide_eq_true hx) h)

theorem digitVal_digit {b : UInt8} (h : isDigit b = true) : digitVal b = some (b.toNat - 48) := by
  unfold digitVal
  rw [if_pos ((ByteClass.isDigit_iff b).1 h)]


theorem rd_head (mem : Bytes) (i : Nat) : rd mem i = (mem.drop i).head?.getD 0 := by
  unfold rd
  rw [List.head?_drop]
  simp [List.getD_eq_getElem?_getD]

/-- a byte test on memory read C-style (NUL beyond the end) is the test on the head of the text -/
theorem rd_hd (mem : Bytes) (i : Nat) (p : UInt8 → Bool) (hp : p 0 = false) : p (rd mem i) = hd (mem.drop i) p := by
  rw [rd_head]
  cases mem.drop i with
  | nil => simpa using hp
  | cons b r => rfl

theorem run_eq (mem : Bytes) (p : UInt8 → Bool) (hp : p 0 = false) : ∀ (f i : Nat), mem.length - i ≤ f →
    strtodLen.run mem p f i = i + tw p (mem.drop i) := by
  intro f
  induction f with
  | zero =>
    intro i h
    rw [List.drop_eq_nil_of_le (by omega)]; rfl
  | succ f ih =>
    intro i h
    unfold strtodLen.run
    rw [rd_hd mem i p hp]
    by_cases hh : hd (mem.drop i) p = true
    · rw [if_pos hh, tw_succ hh, ← drop_add]
      have := hd_drop_length hh
      rw [ih (i + 1) (by omega)]
      omega
    · rw [if_neg hh]
      have : tw p (mem.drop i) = 0 := tw_eq_zero_iff.2 (by simpa using hh)
      omega

theorem skipSpaces_run (mem : Bytes) : ∀ (f i : Nat), skipSpaces mem f i = strtodLen.run mem isSpace f i
  | 0, _ => rfl
  | f+1, i => by unfold skipSpaces strtodLen.run; rw [skipSpaces_run mem f]

theorem skipSpaces_eq (mem : Bytes) (f i : Nat) (h : mem.length - i < f) :
    skipSpaces mem f i = i + tw isSpace (mem.drop i) := by
  rw [skipSpaces_run, run_eq mem isSpace (by decide) f i (Nat.le_of_lt h)]

/-- the number `digitsOfBase` returns, as a fold over the digits it has stepped over (`digitsOfBase_eq`) -/
def digVal (base : Nat) (ds : Bytes) (acc : Nat) : Nat := ds.foldl (fun a b => a * base + (digitVal b).getD 0) acc

theorem digVal_dec (ds : Bytes) (h : ds.all isDigit = true) (acc : Nat) :
    digVal 10 ds acc = ds.foldl (fun a b => a * 10 + (b.toNat - 48)) acc :=
  List.foldl_rel (r := Eq) rfl fun b hb a a' e => by rw [e, digitVal_digit (List.all_eq_true.1 h b hb)]; rfl

theorem digitsOfBase_eq (mem : Bytes) (base : Nat) : ∀ (f i acc : Nat), mem.length - i < f →
    digitsOfBase mem base f i acc =
      (i + tw (digitOK base) (mem.drop i), digVal base ((mem.drop i).takeWhile (digitOK base)) acc) := by
  intro f
  induction f with
  | zero => intro i acc h; omega
  | succ f ih =>
    intro i acc h
    unfold digitsOfBase
    rw [rd_head]
    cases hs : mem.drop i with
    | nil => rfl
    | cons b r =>
      have hr := ByteList.drop_tail mem i b r hs
      have hlen : i < mem.length := (List.getElem?_eq_some_iff.1 (ByteList.drop_cons hs).1).1
      simp only [List.head?_cons, Option.getD_some, tw_cons, List.takeWhile_cons]
      cases hdv : digitVal b with
      | none => rw [digitOK_none hdv]; rfl
      | some d =>
        rw [digitOK_some hdv]
        by_cases hlt : d < base
        · simp only [hlt, decide_true, if_true]
          rw [ih (i + 1) _ (by omega), hr]
          simp only [digVal, List.foldl_cons, hdv, Option.getD_some]
          refine Prod.ext ?_ rfl
          simp only; omega
        · simp only [hlt, decide_false, if_false, Bool.false_eq_true]
          rfl

def sgn (s : Bytes) : Nat := if hd s isPlusMn = true then 1 else 0

theorem sgn_le (s : Bytes) : sgn s ≤ 1 := by unfold sgn; split <;> omega

theorem sgn_split (s : Bytes) :
    ∃ pre, (pre = [] ∨ pre = [43] ∨ pre = [45]) ∧ pre.length = sgn s ∧ s = pre ++ s.drop (sgn s) := by
  unfold sgn
  by_cases h : hd s isPlusMn = true
  · obtain ⟨c, hc, hs⟩ := hd_cons_drop h
    rw [if_pos h]
    refine ⟨[c], ?_, rfl, hs⟩
    simp only [isPlusMn, Bool.or_eq_true, beq_iff_eq] at hc
    rcases hc with rfl | rfl <;> simp
  · rw [if_neg h]
    exact ⟨[], .inl rfl, rfl, rfl⟩

/-- the "0x" a conversion in base 16 steps over: only in front of a hexadecimal digit -/
def pfx (base : Nat) (u : Bytes) : Nat :=
  if base = 16 ∧ hd u (· == 48) = true ∧ hd (u.drop 1) (fun b => b == 120 || b == 88) = true ∧
    hd (u.drop 2) isHexDigit = true then 2 else 0

/-- strtol's syntax on the text `s`: white space, sign, prefix, digits of the base -/
def syn (base : Nat) (s : Bytes) : Nat × Bool × Nat :=
  let t := s.drop (tw isSpace s)
  let u := t.drop (sgn t)
  let ds := (u.drop (pfx base u)).takeWhile (digitOK base)
  if ds.length = 0 then (0, false, 0)
  else (tw isSpace s + sgn t + pfx base u + ds.length, hd t (· == 45), digVal base ds 0)

theorem sgnStep_eq (mem : Bytes) (i : Nat) : sgnStep mem i = (hd (mem.drop i) (· == 45), i + sgn (mem.drop i)) := by
  unfold sgnStep sgn
  rw [rd_hd mem i (· == 45) (by decide), rd_hd mem i (· == 43) (by decide)]
  cases mem.drop i with
  | nil => rfl
  | cons b r =>
    simp only [hd_cons, isPlusMn]
    by_cases h45 : b = 45
    · simp [h45]
    · by_cases h43 : b = 43
      · simp [h43]
      · simp [h45, h43]

theorem pfxStep_eq (mem : Bytes) (base i : Nat) : pfxStep mem base i = i + pfx base (mem.drop i) := by
  unfold pfxStep pfx
  rw [rd_hd mem i (· == 48) (by decide), ← drop_add, ← drop_add,
    ← rd_hd mem (i + 1) (fun b => b == 120 || b == 88) (by decide), ← rd_hd mem (i + 2) isHexDigit (by decide)]
  simp only [beq_iff_eq, Bool.or_eq_true]
  split <;> rfl

theorem syn_fin {off b a n : Nat} (hb : b = off + a) (neg : Bool) (v : Nat) :
    (if (b + n == b) = true then ((0 : Nat), false, (0 : Nat)) else (b + n - off, neg, v)) =
      if n = 0 then (0, false, 0) else (a + n, neg, v) := by
  by_cases h0 : n = 0
  · simp [h0]
  · rw [if_neg h0, if_neg (by rw [beq_iff_eq]; omega)]
    refine Prod.ext ?_ rfl
    simp only; omega

/-- `strtoSyntax` reads the text at `off` and nothing else -/
theorem strtoSyntax_list (mem : Bytes) (off base : Nat) : strtoSyntax mem off base = syn base (mem.drop off) := by
  have hk : ∀ k, mem.drop (off + k) = (mem.drop off).drop k := fun k => drop_add mem off k
  have hlen : (mem.drop off).length = mem.length - off := List.length_drop
  have h1 := tw_le_length isSpace (mem.drop off)
  have h2 := sgn_le ((mem.drop off).drop (tw isSpace (mem.drop off)))
  rw [strtoSyntax_eq, skipSpaces_eq mem _ off (by omega), sgnStep_eq]
  dsimp only
  rw [pfxStep_eq, digitsOfBase_eq mem base _ _ 0 (by rw [hk] at *; omega)]
  simp only [Nat.add_assoc, hk]
  unfold syn
  generalize mem.drop off = s
  simp only [List.drop_drop, ← Nat.add_assoc]
  exact syn_fin (by omega) _ _

theorem syn_eq {base : Nat} {s u : Bytes} {g : Nat} (hw : tw isSpace s = 0) (hg : sgn s = g) (hu : s.drop g = u) :
    syn base s =
      (let ds := (u.drop (pfx base u)).takeWhile (digitOK base)
       if ds.length = 0 then (0, false, 0) else (g + pfx base u + ds.length, hd s (· == 45), digVal base ds 0)) := by
  unfold syn
  simp only [hw, List.drop_zero, hg, hu, Nat.zero_add]

theorem syn_signed (base : Nat) (sg rest : Bytes) (x : UInt8) (hsg : sg = [] ∨ sg = [43] ∨ sg = [45])
    (hx : isSpace x = false ∧ x ≠ 43 ∧ x ≠ 45) :
    syn base (sg ++ x :: rest) =
      (let ds := ((x :: rest).drop (pfx base (x :: rest))).takeWhile (digitOK base)
       if ds.length = 0 then (0, false, 0)
       else (sg.length + pfx base (x :: rest) + ds.length, decide (sg = [45]), digVal base ds 0)) := by
  obtain ⟨hsp, h43, h45⟩ := hx
  have hpm : isPlusMn x = false := by simp [isPlusMn, h43, h45]
  rcases hsg with rfl | rfl | rfl
  · rw [List.nil_append, syn_eq (g := 0) (by rw [tw_cons, hsp]; rfl) (by unfold sgn; rw [hd_cons, hpm]; rfl) rfl,
      hd_cons, beq_false_of_ne h45]
    rfl
  · exact syn_eq (g := 1) rfl rfl rfl
  · exact syn_eq (g := 1) rfl rfl rfl

/-- something is converted iff the byte behind the sign is a digit of the base: a "0x" is stepped over only in front of a
hexadecimal digit, and then that byte is the digit 0 -/
theorem syn_pos_iff (base : Nat) (sg rest : Bytes) (x : UInt8) (hsg : sg = [] ∨ sg = [43] ∨ sg = [45])
    (hx : isSpace x = false ∧ x ≠ 43 ∧ x ≠ 45) : 0 < (syn base (sg ++ x :: rest)).1 ↔ digitOK base x = true := by
  rw [syn_signed base sg rest x hsg hx]
  dsimp only
  by_cases hp : pfx base (x :: rest) = 0
  · rw [hp, List.drop_zero, List.takeWhile_cons]
    by_cases hd : digitOK base x = true
    · simp [hd]; omega
    · simp [hd]
  · have hc : base = 16 ∧ hd (x :: rest) (· == 48) = true ∧
        hd ((x :: rest).drop 1) (fun b => b == 120 || b == 88) = true ∧ hd ((x :: rest).drop 2) isHexDigit = true :=
      Classical.not_not.1 fun hn => hp (if_neg hn)
    have hp2 : pfx base (x :: rest) = 2 := if_pos hc
    obtain ⟨hb, h48, -, hhex⟩ := hc
    obtain ⟨y, hy, hys⟩ := hd_cons_drop hhex
    rw [hp2, hys, List.takeWhile_cons, hb, if_pos ((digit_table y).hexdigit hy), eq_of_beq h48]
    simp +decide; omega

/-- sign, digits of the base, then a byte that is none (for base 16: and not `x`, which behind a single 0 would start a prefix) -/
theorem syn_digits (base : Nat) (sg ds rest : Bytes) (hsg : sg = [] ∨ sg = [43] ∨ sg = [45]) (hds : ds ≠ [])
    (hall : ∀ b ∈ ds, digitOK base b = true) (hstop : hd rest (digitOK base) = false)
    (h0x : base = 16 → hd rest (fun b => b == 120 || b == 88) = false) :
    syn base (sg ++ (ds ++ rest)) = (sg.length + ds.length, decide (sg = [45]), digVal base ds 0) := by
  obtain ⟨x, r, rfl⟩ := List.exists_cons_of_ne_nil hds
  have hx := hall x List.mem_cons_self
  -- the byte behind the first digit is another digit or the stop byte: no `x`
  have hp : pfx base (x :: (r ++ rest)) = 0 := by
    unfold pfx
    rw [if_neg]
    rintro ⟨h16, -, hxx, -⟩
    rw [List.drop_one, List.tail_cons] at hxx
    cases r with
    | nil => rw [List.nil_append, h0x h16] at hxx; cases hxx
    | cons y r' =>
      exact Bool.false_ne_true (((digit_table y).noX (h16 ▸ hall y (by simp))).symm.trans hxx)
  rw [List.cons_append, syn_signed base sg (r ++ rest) x hsg (digit_start (.inl (digitOK_isSome hx)))]
  dsimp only
  rw [hp, List.drop_zero, ← List.cons_append, takeWhile_all_append hall hstop, if_neg (by simp), Nat.add_zero]

/-- the index at which the scan of `syn` stops -/
def synEnd (base : Nat) (s : Bytes) : Nat :=
  let t := s.drop (tw isSpace s)
  let u := t.drop (sgn t)
  tw isSpace s + sgn t + pfx base u + tw (digitOK base) (u.drop (pfx base u))

theorem sgn_take {t : Bytes} {m : Nat} (h : sgn t ≤ m) :
    sgn (t.take m) = sgn t ∧ hd (t.take m) (· == 45) = hd t (· == 45) := by
  have hm : hd t isPlusMn = true → 0 < m := fun hh => by unfold sgn at h; rw [if_pos hh] at h; exact h
  refine ⟨by unfold sgn; rw [hd_take hm], hd_take fun hh => hm (hd_imp (fun b hb => ?_) hh)⟩
  simp only [isPlusMn, Bool.or_eq_true]; exact .inr hb

theorem pfx_take {base : Nat} {u : Bytes} {m : Nat} (h : pfx base u + tw (digitOK base) (u.drop (pfx base u)) ≤ m) :
    pfx base (u.take m) = pfx base u := by
  unfold pfx at h ⊢
  by_cases hc : base = 16 ∧ hd u (· == 48) = true ∧ hd (u.drop 1) (fun b => b == 120 || b == 88) = true ∧
      hd (u.drop 2) isHexDigit = true
  · rw [if_pos hc] at h ⊢
    obtain ⟨hb, h0, h1, h2⟩ := hc
    have : 0 < tw (digitOK base) (u.drop 2) :=
      tw_pos_iff.2 (hd_imp (fun b hb' => hb ▸ (digit_table b).hexdigit hb') h2)
    rw [if_pos ⟨hb, by rw [hd_take fun _ => by omega]; exact h0, by rw [List.drop_take, hd_take fun _ => by omega]; exact h1,
      by rw [List.drop_take, hd_take fun _ => by omega]; exact h2⟩]
  · rw [if_neg hc, if_neg]
    rintro ⟨hb, h0, h1, h2⟩
    rw [List.drop_take] at h1 h2
    exact hc ⟨hb, hd_of_take h0, hd_of_take h1, hd_of_take h2⟩

theorem syn_take (base : Nat) (s : Bytes) (n : Nat) (h : synEnd base s ≤ n) : syn base (s.take n) = syn base s := by
  unfold synEnd at h
  unfold syn
  dsimp only at h ⊢
  have hW : tw isSpace (s.take n) = tw isSpace s := by rw [tw_take]; omega
  rw [hW, List.drop_take]
  generalize s.drop (tw isSpace s) = t at h ⊢
  obtain ⟨hG, h45⟩ := sgn_take (t := t) (m := n - tw isSpace s) (by omega)
  rw [hG, h45, List.drop_take]
  generalize t.drop (sgn t) = u at h ⊢
  rw [pfx_take (by omega), List.drop_take, takeWhile_take (by omega)]

theorem syn_far (base : Nat) (s : Bytes) : (syn base s).1 = 0 ∨ tw isSpace s < (syn base s).1 := by
  unfold syn
  dsimp only
  split
  · exact .inl rfl
  · exact .inr (by simp only; omega)

theorem digitOK_ten : digitOK 10 = isDigit := funext fun x => (digit_table x).ten

theorem pfx_ten (u : Bytes) : pfx 10 u = 0 := if_neg fun hc => absurd hc.1 (by decide)

theorem synEnd_dec {s : Bytes} (h : hd s isSpace = false) : synEnd 10 s = sgn s + tw isDigit (s.drop (sgn s)) := by
  unfold synEnd
  simp only [tw_eq_zero_iff.2 h, List.drop_zero, pfx_ten, digitOK_ten, Nat.zero_add, Nat.add_zero]

theorem ws_run (s : Bytes) : ∀ (f i : Nat), Match.strtol10.ws s f i = strtodLen.run s isSpace f i
  | 0, _ => rfl
  | f+1, i => by
    unfold Match.strtol10.ws strtodLen.run
    rw [ws_run s f]
    have hrd : Match.rd s i = rd s i := rfl
    rw [hrd]
    by_cases h : isSpace (rd s i) = true
    · rw [if_pos h, if_pos (by simpa [isSpace] using h)]
    · rw [if_neg h, if_neg (by simpa [isSpace] using h)]

theorem dg_digitsOfBase (s : Bytes) : ∀ (f i acc : Nat), Match.strtol10.dg s f i acc = digitsOfBase s 10 f i acc
  | 0, _, _ => rfl
  | f+1, i, acc => by
    unfold Match.strtol10.dg digitsOfBase
    have hrd : Match.rd s i = rd s i := rfl
    rw [hrd]
    by_cases hd : isDigit (rd s i) = true
    · rw [if_pos hd, digitVal_digit hd]
      have : (rd s i).toNat - 48 < 10 := by
        simp only [isDigit, Bool.and_eq_true, decide_eq_true_eq, UInt8.le_iff_toNat_le] at hd
        have := hd.2; simp at this; omega
      simp only
      rw [if_pos this, dg_digitsOfBase s f]
    · rw [if_neg hd]
      have h10 := (digit_table (rd s i)).ten
      rw [Bool.eq_false_iff.2 hd] at h10
      cases hv : digitVal (rd s i) with
      | none => rfl
      | some d =>
        rw [digitOK_some hv, decide_eq_false_iff_not] at h10
        simp only
        rw [if_neg h10]

/-- the value `strtol10` returns for the digits `r` read from `i1` -/
def s10Tail (off : Nat) (neg : Bool) (i1 : Nat) (r : Nat × Nat) : Nat × Int :=
  if r.1 == i1 then (0, 0)
  else
    let lim : Nat := if neg then 2^63 else 2^63 - 1
    let v := if r.2 > lim then lim else r.2
    let sv : Int := if neg then -(v : Int) else v
    let m := sv % (2^32 : Int)
    (r.1 - off, if m ≥ 2^31 then m - 2^32 else m)

theorem strtol10_stages (s : Bytes) (off : Nat) :
    Match.strtol10 s off =
      (let sg := sgnStep s (Match.strtol10.ws s (s.length - off) off)
       s10Tail off sg.1 sg.2 (Match.strtol10.dg s (s.length - sg.2 + 1) sg.2 0)) := rfl

/-- the matcher's model of `strtol(.., 10)` into an `int32_t` is the library specification of Model/Prim.lean -/
theorem strtol10_eq_strtolTo (s : Bytes) (off : Nat) : Match.strtol10 s off = strtolTo 32 s off 10 := by
  have hk : ∀ k, s.drop (off + k) = (s.drop off).drop k := fun k => drop_add s off k
  have hlen : (s.drop off).length = s.length - off := List.length_drop
  have h1 := tw_le_length isSpace (s.drop off)
  have h2 := sgn_le ((s.drop off).drop (tw isSpace (s.drop off)))
  rw [strtol10_stages, ws_run, run_eq s isSpace (by decide) _ off (Nat.le_refl _), sgnStep_eq]
  dsimp only
  rw [dg_digitsOfBase, digitsOfBase_eq s 10 _ _ 0 (by rw [hk] at *; omega)]
  unfold strtolTo
  rw [strtoSyntax_list]
  unfold syn s10Tail
  simp only [pfx_ten, Nat.add_zero, List.drop_zero, Nat.add_assoc, hk]
  generalize s.drop off = t
  simp only [List.drop_drop, ← Nat.add_assoc, length_takeWhile]
  generalize tw (digitOK 10) _ = n
  generalize (hd (List.drop (tw isSpace t) t) fun x => x == 45) = neg
  generalize digVal 10 _ 0 = v
  by_cases h0 : n = 0
  · simp [h0]
  · rw [if_neg (by rw [beq_iff_eq]; omega), if_neg h0]
    dsimp only
    rw [if_neg (show ¬ (tw isSpace t + sgn (t.drop (tw isSpace t)) + n == 0) = true by rw [beq_iff_eq]; omega)]
    exact Prod.ext (by simp only; omega) rfl

theorem strtolTo_fst (w : Nat) (mem : Bytes) (off base : Nat) :
    (strtolTo w mem off base).1 = (strtoSyntax mem off base).1 := by
  unfold strtolTo
  generalize strtoSyntax mem off base = r
  obtain ⟨n, neg, v⟩ := r
  cases n <;> rfl

theorem strtoulTo_fst (w : Nat) (mem : Bytes) (off base : Nat) :
    (strtoulTo w mem off base).1 = (strtoSyntax mem off base).1 := by
  unfold strtoulTo
  generalize strtoSyntax mem off base = r
  obtain ⟨n, neg, v⟩ := r
  cases n <;> rfl


/-! ### the conversion to the destination: clamping and wrapping do nothing to a value in range -/

theorem wrapSigned_of_range (w : Nat) (hw : 0 < w) (x : Int) (h : -(2^(w-1) : Int) ≤ x ∧ x < 2^(w-1)) :
    wrapSigned w x = x := by
  have hp : (2 : Int)^w = 2 * 2^(w-1) := by
    obtain ⟨k, rfl⟩ : ∃ k, w = k + 1 := ⟨w - 1, by omega⟩
    rw [Nat.add_sub_cancel, Int.pow_succ, Int.mul_comm]
  unfold wrapSigned
  rw [hp]
  generalize (2 : Int)^(w-1) = p at h ⊢
  by_cases h0 : 0 ≤ x
  · rw [Int.emod_eq_of_lt h0 (by omega)]
    simp only []
    split <;> omega
  · have : x % (2 * p) = x + 2 * p := by
      rw [← Int.add_mul_emod_self_left x (2 * p) 1, Int.mul_one]
      exact Int.emod_eq_of_lt (by omega) (by omega)
    rw [this]
    simp only []
    split <;> omega

theorem strtolTo_of_syntax (w : Nat) (hw : 0 < w ∧ w ≤ 64) (mem : Bytes) (off base n m : Nat) (neg : Bool)
    (h : strtoSyntax mem off base = (n, neg, m)) (hn : 0 < n)
    (hr : -(2^(w-1) : Int) ≤ (if neg then -(m : Int) else m) ∧ (if neg then -(m : Int) else (m : Int)) < 2^(w-1)) :
    strtolTo w mem off base = (n, if neg then -(m : Int) else m) := by
  have h63 : (2 : Int)^(w-1) ≤ 2^63 := by
    have := Nat.pow_le_pow_right (show 0 < 2 by decide) (show w - 1 ≤ 63 by omega)
    exact_mod_cast this
  unfold strtolTo
  rw [h]
  have hne : (n == 0) = false := by rw [beq_eq_false_iff_ne]; omega
  simp only [hne, Bool.false_eq_true, if_false]
  refine Prod.ext rfl ?_
  have hm : ¬ m > (if neg = true then 2 ^ 63 else 2 ^ 63 - 1) := by
    generalize (2 : Int)^(w-1) = p at hr h63
    cases neg <;> simp only [Bool.false_eq_true, if_false, if_true] at hr ⊢ <;> omega
  simp only [hm, if_false]
  exact wrapSigned_of_range w hw.1 _ hr

theorem strtoulTo_of_syntax (w : Nat) (hw : w ≤ 64) (mem : Bytes) (off base n m : Nat) (neg : Bool)
    (h : strtoSyntax mem off base = (n, neg, m)) (hn : 0 < n) (hm : m < 2^w) (hneg : neg = true → m = 0) :
    strtoulTo w mem off base = (n, m) := by
  have h64 : 2^w ≤ 2^64 := Nat.pow_le_pow_right (by decide) hw
  unfold strtoulTo
  rw [h]
  have hne : (n == 0) = false := by rw [beq_eq_false_iff_ne]; omega
  simp only [hne, Bool.false_eq_true, if_false]
  refine Prod.ext rfl ?_
  have hc : ¬ m > 2^64 - 1 := by omega
  simp only [hc, if_false]
  cases neg
  · exact Nat.mod_eq_of_lt hm
  · rw [hneg rfl]; rfl


theorem eq_rd (mem : Bytes) (i : Nat) (c : UInt8) (hc : c ≠ 0) : (rd mem i == c) = hd (mem.drop i) (· == c) :=
  rd_hd mem i (· == c) (by simpa using Ne.symm hc)


theorem dSign_eq (mem : Bytes) (i : Nat) : dSign mem i = i + sgn (mem.drop i) := by
  have : dSign mem i = (sgnStep mem i).2 := by
    by_cases h1 : (rd mem i == 45) = true <;> by_cases h2 : (rd mem i == 43) = true <;> simp [dSign, sgnStep, h1, h2]
  rw [this, sgnStep_eq]

end ScpiVerif.Lemmas.Strto
