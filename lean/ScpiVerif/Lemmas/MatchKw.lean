/-
Text level of the C03 proof: reads relative to a pointer into a byte string, the separator and
short-form searches, the case-insensitive comparison and `strtol10` in terms of list operations;
from them, `matchPattern` on the text of a keyword and a mnemonic computes `kwMatch`.
A pointer `off` into `s` is described by what lies there: `s.drop off = x ++ rest`.
-/
import ScpiVerif.Lemmas.MatchList
import ScpiVerif.Lemmas.Strto

namespace ScpiVerif.Lemmas.Match
open ScpiVerif ScpiVerif.Match ScpiVerif.Spec.Pattern
open ScpiVerif.Lexer (Bytes isDigit isLower isUpper isAlpha)

theorem rd_nil (i : Nat) : rd [] i = 0 := by simp [rd]

theorem rd_drop (s : Bytes) (off i : Nat) : rd (s.drop off) i = rd s (off + i) :=
  ByteList.getD_drop s off i 0

theorem rd_off (s : Bytes) (off : Nat) (t : Bytes) (h : s.drop off = t) (i : Nat) :
    rd s (off + i) = rd t i := by
  rw [← h, rd_drop]

theorem rd_zero (t : Bytes) : rd t 0 = t.headD 0 := by
  cases t <;> rfl

/-- reads in a text that starts with known bytes: `simp` with these two is quick, unfolding `rd` is not -/
theorem rd_cons_zero (a : UInt8) (t : Bytes) : rd (a :: t) 0 = a := rfl

theorem rd_cons_succ (a : UInt8) (t : Bytes) (i : Nat) : rd (a :: t) (i + 1) = rd t i := rfl

theorem rd_app_left (x rest : Bytes) (i : Nat) (hi : i < x.length) : rd (x ++ rest) i = x[i] := by
  simp [rd, List.getD_eq_getElem?_getD, List.getElem?_append_left hi, List.getElem?_eq_getElem hi]

theorem rd_app_right (x rest : Bytes) (j : Nat) : rd (x ++ rest) (x.length + j) = rd rest j := by
  simp [rd, List.getD_eq_getElem?_getD, List.getElem?_append_right]

theorem rd_in (s : Bytes) (off : Nat) (x rest : Bytes) (h : s.drop off = x ++ rest) (i : Nat)
    (hi : i < x.length) : rd s (off + i) = x[i] := by
  rw [rd_off s off _ h, rd_app_left _ _ _ hi]

theorem rd_after (s : Bytes) (off : Nat) (x rest : Bytes) (h : s.drop off = x ++ rest) (j : Nat) :
    rd s (off + x.length + j) = rd rest j := by
  rw [Nat.add_assoc, rd_off s off _ h, rd_app_right]

theorem rd_head (s : Bytes) (off : Nat) (t : Bytes) (h : s.drop off = t) : rd s off = t.headD 0 := by
  rw [← rd_zero, ← rd_off s off t h 0]; rfl

theorem sepPos_go (s : Bytes) (off len : Nat) (set : List UInt8) (rest : Bytes) :
    ∀ (x : Bytes) (fuel i : Nat), s.drop (off + i) = x ++ rest →
      (∀ b ∈ x, b ≠ 0 ∧ set.contains b = false) →
      (fuel ≤ x.length ∨ (set.contains (rest.headD 0) = true ∧ rest.headD 0 ≠ 0)) →
      sepPos.go s off len set fuel i = i + min fuel x.length := by
  intro x
  induction x with
  | nil =>
    intro fuel i h _ hf
    cases fuel with
    | zero => rfl
    | succ f =>
      obtain ⟨h1, h2⟩ := hf.resolve_left (by simp)
      rw [← rd_head s _ rest h] at h1 h2
      rw [sepPos.go, if_neg (by simpa using h2), if_pos h1]; rfl
  | cons a x ih =>
    intro fuel i h hx hf
    cases fuel with
    | zero => simp [sepPos.go]
    | succ f =>
      have ha := hx a (by simp)
      have hr : rd s (off + i) = a := rd_head s _ _ h
      rw [sepPos.go, hr, if_neg (by simpa using ha.1), if_neg (ne_true_of_eq_false ha.2),
        ih f (i + 1) (ByteList.drop_tail s _ _ _ h) (fun b hb => hx b (by simp [hb])) (by simpa using hf),
        List.length_cons, Nat.succ_min_succ]
      omega

theorem sepPos_drop (s : Bytes) (off len : Nat) (set : List UInt8) (x rest : Bytes)
    (h : s.drop off = x ++ rest) (hx : ∀ b ∈ x, b ≠ 0 ∧ set.contains b = false)
    (hlen : len = x.length ∨ (x.length < len ∧ set.contains (rest.headD 0) = true ∧ rest.headD 0 ≠ 0)) :
    sepPos s off len set = x.length := by
  have := sepPos_go s off len set rest x len 0 h hx (hlen.imp Nat.le_of_eq And.right)
  rw [Nat.zero_add] at this
  unfold sepPos
  rw [this]
  rcases hlen with rfl | ⟨hl, _⟩
  · cases x.length <;> simp
  · rw [Nat.min_eq_right (Nat.le_of_lt hl), if_neg (by simp; omega)]
    exact if_neg (by omega)

theorem shortPos_go (s : Bytes) (off len : Nat) (rest : Bytes) :
    ∀ (x : Bytes) (fuel i : Nat), s.drop (off + i) = x ++ rest → (∀ b ∈ x, b ≠ 0) →
      len = i + x.length → x.length ≤ fuel →
      shortPos.go s off len fuel i = i + (x.takeWhile (fun b => !isLower b)).length := by
  intro x
  induction x with
  | nil =>
    intro fuel i _ _ hl _
    cases fuel <;> simp [shortPos.go, hl]
  | cons a x ih =>
    intro fuel i h hx hl hf
    obtain ⟨f, rfl⟩ : ∃ f, fuel = f + 1 := ⟨fuel - 1, by simp at hf; omega⟩
    have hr : rd s (off + i) = a := rd_head s _ _ h
    have hi : i < len := by simp at hl; omega
    rw [shortPos.go, hr, if_pos ⟨hi, by simpa using hx a (by simp)⟩, List.takeWhile_cons]
    cases isLower a with
    | true => rfl
    | false =>
      rw [if_neg (by simp), ih f (i + 1) (ByteList.drop_tail s _ _ _ h) (fun b hb => hx b (by simp [hb]))
        (by simp at hl; omega) (by simp at hf; omega)]
      simp; omega

theorem shortPos_drop (s : Bytes) (off : Nat) (x rest : Bytes) (h : s.drop off = x ++ rest)
    (hx : ∀ b ∈ x, b ≠ 0) :
    shortPos s off x.length = (x.takeWhile (fun b => !isLower b)).length := by
  rw [shortPos, shortPos_go s off x.length rest x x.length 0 h hx (by simp) (Nat.le_refl _), Nat.zero_add]

theorem toLower_eq_lower (b : UInt8) : toLower b = lower b := rfl

theorem lower_ne_zero (c : UInt8) (h : c ≠ 0) : lower c ≠ 0 := by
  rcases lower_cases c with e | ⟨_, e⟩
  · rwa [e]
  · intro h0; rw [h0] at e; cases e

/-- strncasecmp on two texts of the same length at the offsets, the first without NUL -/
theorem caseEq_drop (a b : Bytes) (ra rb : Bytes) :
    ∀ (x y : Bytes) (ao bo : Nat), a.drop ao = x ++ ra → b.drop bo = y ++ rb →
      x.length = y.length → (∀ c ∈ x, c ≠ 0) → caseEq a ao b bo x.length = ciEq x y := by
  intro x
  induction x with
  | nil =>
    intro y ao bo _ _ hl _
    rw [List.eq_nil_of_length_eq_zero hl.symm]; rfl
  | cons c x ih =>
    intro y ao bo ha hb hl hnz
    match y, hl with
    | d :: y, hl =>
      have hih := ih y (ao + 1) (bo + 1) (ByteList.drop_tail a _ _ _ ha) (ByteList.drop_tail b _ _ _ hb) (by simpa using hl)
        (fun c hc => hnz c (by simp [hc]))
      have hc0 : lower c ≠ 0 := lower_ne_zero c (hnz c (by simp))
      have h1 : rd a ao = c := rd_head a _ _ ha
      have h2 : rd b bo = d := rd_head b _ _ hb
      simp only [List.length_cons, caseEq, h1, h2, toLower_eq_lower, hih, ciEq, List.map_cons,
        List.cons_beq_cons]
      by_cases hcd : lower c = lower d
      · simp [← hcd, hc0]
      · simp [hcd]

theorem caseEq_comm (a b : Bytes) : ∀ (n ao bo : Nat), caseEq a ao b bo n = caseEq b bo a ao n := by
  intro n
  induction n with
  | zero => intros; rfl
  | succ n ih =>
    intro ao bo
    simp only [caseEq]
    by_cases h : toLower (rd a ao) = toLower (rd b bo)
    · simp [h, ih]
    · simp [h, Ne.symm h]

/-- a byte after which strtol converts nothing: no digit, white space or sign -/
def nonNumStart (c : UInt8) : Bool :=
  !isDigit c && c != 32 && !(9 ≤ c && c ≤ 13) && c != 45 && c != 43

theorem nonNumStart_elim (c : UInt8) (h : nonNumStart c = true) :
    isDigit c = false ∧ Prim.isSpace c = false ∧ c ≠ 43 ∧ c ≠ 45 := by
  simp only [nonNumStart, Prim.isSpace, Bool.and_eq_true, Bool.not_eq_true', bne_iff_ne, ne_eq, Bool.or_eq_false_iff,
    beq_eq_false_iff_ne] at h ⊢
  exact ⟨h.1.1.1.1, ⟨h.1.1.1.2, h.1.1.2⟩, h.2, h.1.2⟩

/-- what `strtol10` returns for a digit string of value `v`: the `long` clamped to `LONG_MAX`,
then converted to `int32_t` -/
def toInt32 (v : Nat) : Int :=
  let v : Nat := if v > 2^63 - 1 then 2^63 - 1 else v
  let m : Int := (v : Int) % (2^32 : Int)
  if m ≥ 2^31 then m - 2^32 else m

theorem toInt32_small (v : Nat) (h : v < 2^31) : toInt32 v = v := by
  have h1 : ¬ v > 2^63 - 1 := by omega
  simp only [toInt32, if_neg h1]
  rw [Int.emod_eq_of_lt (by omega) (by omega), if_neg (by omega)]

/-- `rest.headD 0`: at the end of the list `rd` yields 0 -/
theorem strtol10_digits (s : Bytes) (off : Nat) (ds rest : Bytes)
    (h : s.drop off = ds ++ rest) (hds : ds.all isDigit = true)
    (hrest : nonNumStart (rest.headD 0) = true) :
    strtol10 s off = (ds.length, toInt32 (natOfDigits ds)) := by
  have hstop : Lexer.hd rest (Strto.digitOK 10) = false := by
    rw [Strto.digitOK_ten]
    cases rest with
    | nil => rfl
    | cons x r => exact (nonNumStart_elim x hrest).1
  rw [Strto.strtol10_eq_strtolTo, Prim.strtolTo, Strto.strtoSyntax_list, h]
  cases ds with
  | nil =>
    cases rest with
    | nil => rfl
    | cons x r =>
      rw [List.nil_append, ← List.nil_append (x :: r), Strto.syn_signed 10 [] r x (.inl rfl) (nonNumStart_elim x hrest).2,
        Strto.pfx_ten, List.drop_zero, List.takeWhile_cons, show Strto.digitOK 10 x = false from hstop]
      rfl
  | cons d t =>
    rw [← List.nil_append (d :: t ++ rest), Strto.syn_digits 10 [] (d :: t) rest (.inl rfl) (by simp)
      (by rw [Strto.digitOK_ten]; exact List.all_eq_true.1 hds) hstop (by simp)]
    simp [toInt32, Strto.digVal_dec _ hds, natOfDigits, Prim.wrapSigned]

theorem strtol10_spec (s : Bytes) (off : Nat) (ds rest : Bytes)
    (h : s.drop off = ds ++ rest) (hds : ds.all isDigit = true)
    (hrest : nonNumStart (rest.headD 0) = true) :
    (strtol10 s off).1 = ds.length ∧
    (natOfDigits ds < 2^31 → (strtol10 s off).2 = (natOfDigits ds : Int)) := by
  rw [strtol10_digits s off ds rest h hds hrest]
  exact ⟨rfl, toInt32_small _⟩

/-- how the model reports a `kwMatch` result -/
def mpRes (r : Option (Option Nat)) (num : Bool) : Bool × Option Int :=
  match r with
  | none => (false, none)
  | some none => (true, none)
  | some (some v) => (true, if num then some (toInt32 v) else none)

theorem ciEq_comm (x y : Bytes) : ciEq x y = ciEq y x := by
  simp only [ciEq]; exact BEq.comm

theorem ciEq_trans' {a b c : Bytes} (h1 : ciEq a b = true) (h2 : ciEq a c = true) : ciEq b c = true := by
  rw [ciEq_iff] at *; rw [← h1, h2]

theorem ciEq_length (x y : Bytes) (h : ciEq x y = true) : x.length = y.length := by
  simpa using congrArg List.length ((ciEq_iff x y).1 h)

theorem ciEq_of_length_ne (x y : Bytes) (h : x.length ≠ y.length) : ciEq x y = false :=
  Bool.eq_false_iff.2 fun hc => h (ciEq_length x y hc)

theorem range_all_rd (t : Bytes) (o : Nat) (y r : Bytes) (h : t.drop o = y ++ r) (p : UInt8 → Bool) :
    (List.range y.length).all (fun i => p (rd t (o + i))) = y.all p := by
  rw [Bool.eq_iff_iff]
  simp only [List.all_eq_true, List.mem_range]
  constructor
  · intro hh c hc
    obtain ⟨i, hi, rfl⟩ := List.mem_iff_getElem.mp hc
    have := hh i hi; rwa [rd_in t o y r h i hi] at this
  · intro hh i hi
    rw [rd_in t o y r h i hi]; exact hh _ (List.getElem_mem hi)

theorem compareStr_spec (a : Bytes) (ao : Nat) (form ra : Bytes) (b : Bytes) (bo : Nat) (m rb : Bytes)
    (ha : a.drop ao = form ++ ra) (hb : b.drop bo = m ++ rb) (hnz : ∀ c ∈ form, c ≠ 0) :
    compareStr a ao form.length b bo m.length = ciEq m form := by
  unfold compareStr
  by_cases hl : form.length = m.length
  · rw [← hl, caseEq_drop a b ra rb form m ao bo ha hb hl hnz, ciEq_comm]; simp
  · rw [ciEq_of_length_ne m form (Ne.symm hl)]; simp [hl]

theorem compareStr_whole (a b : Bytes) (hz : (∀ x ∈ a, x ≠ 0) ∨ (∀ x ∈ b, x ≠ 0)) :
    compareStr a 0 a.length b 0 b.length = ciEq a b := by
  rcases hz with h | h
  · rw [compareStr_spec a 0 a [] b 0 b [] (by simp) (by simp) h, ciEq_comm]
  · have hc : compareStr a 0 a.length b 0 b.length = compareStr b 0 b.length a 0 a.length := by
      unfold compareStr
      by_cases hl : a.length = b.length
      · rw [hl, caseEq_comm]
      · rw [beq_eq_false_iff_ne.2 hl, beq_eq_false_iff_ne.2 (Ne.symm hl)]; rfl
    rw [hc, compareStr_spec b 0 b [] a 0 a [] (by simp) (by simp) h]

/-- the suffix of a mnemonic after a form of a numeric keyword, as `compareStrAndNum` reads it with a
number pointer: `strtol10` must consume it all -/
theorem strtol10_suffix (b : Bytes) (o : Nat) (tl rb : Bytes) (h : b.drop o = tl ++ rb)
    (hm : ∀ c ∈ tl, isDigit c = false → nonNumStart c = true) (hrb : nonNumStart (rb.headD 0) = true) :
    ((strtol10 b o).1 = tl.length ↔ tl.all isDigit = true) ∧
    (tl.all isDigit = true → (strtol10 b o).2 = toInt32 (natOfDigits tl)) := by
  rcases ByteList.all_or_split isDigit tl with h1 | ⟨ds, c, t, rfl, h1, h2⟩
  · rw [strtol10_digits b o tl rb h h1 hrb]; simp [h1]
  · rw [strtol10_digits b o ds (c :: t ++ rb) (by simpa using h) h1 (hm c (by simp) h2)]
    simp [h2]

theorem tryForm_append (num : Bool) (pre tl form : Bytes) (h : form.length = pre.length) :
    tryForm num (pre ++ tl) form =
      if ciEq pre form then
        (if tl = [] then some none
         else if num ∧ tl.all isDigit then some (some (natOfDigits tl)) else none)
      else none := by
  cases tl with
  | nil => cases hc : ciEq pre form <;> simp [tryForm, hc, h]
  | cons c t =>
    have hne : ciEq (pre ++ c :: t) form = false := ciEq_of_length_ne _ _ (by simp; omega)
    simp only [tryForm, hne, h, List.take_left, List.drop_left]
    cases ciEq pre form <;> simp

theorem compareStrAndNum_spec (a : Bytes) (ao : Nat) (form ra : Bytes) (b : Bytes) (bo : Nat)
    (m rb : Bytes) (num : Bool)
    (ha : a.drop ao = form ++ ra) (hb : b.drop bo = m ++ rb) (hnz : ∀ c ∈ form, c ≠ 0)
    (hm : ∀ c ∈ m, isDigit c = false → nonNumStart c = true)
    (hrb : nonNumStart (rb.headD 0) = true) :
    compareStrAndNum a ao form.length b bo m.length num = mpRes (tryForm true m form) num := by
  by_cases hlt : m.length < form.length
  · simp [compareStrAndNum, hlt, tryForm, ciEq_of_length_ne m form (by omega), Nat.not_lt_of_lt hlt, mpRes]
  · obtain ⟨pre, tl, rfl, hpre⟩ : ∃ pre tl, m = pre ++ tl ∧ form.length = pre.length :=
      ⟨m.take form.length, m.drop form.length, (List.take_append_drop _ _).symm, by simp; omega⟩
    rw [List.append_assoc] at hb
    have htl := ByteList.drop_add_of_drop b bo pre _ hb
    rw [compareStrAndNum, if_neg hlt, caseEq_drop a b ra (tl ++ rb) form pre ao bo ha hb hpre hnz, ciEq_comm,
      tryForm_append true pre tl form hpre]
    cases ciEq pre form with
    | false => rfl
    | true =>
      cases tl with
      | nil => cases num <;> simp [mpRes, hpre]
      | cons c t =>
        have hlen : (pre ++ c :: t).length - form.length = (c :: t).length := by simp; omega
        cases num with
        | false =>
          rw [← hpre] at htl
          simp only [Bool.false_eq_true, if_false, hlen, range_all_rd b _ _ rb htl isDigit]
          cases (c :: t).all isDigit <;> simp [mpRes]
        | true =>
          obtain ⟨s1, s2⟩ := strtol10_suffix b _ (c :: t) rb htl (fun x hx => hm x (by simp at hx ⊢; exact Or.inr hx)) hrb
          rw [← hpre] at s1 s2
          generalize strtol10 b (bo + form.length) = uv at s1 s2
          obtain ⟨used, v⟩ := uv
          simp only [List.length_cons] at s1 s2
          by_cases hd : (c :: t).all isDigit = true
          · simp [mpRes, hd, hpre, s1.2 hd, s2 hd]
          · simp [mpRes, hd, hpre, mt s1.1 hd]

theorem patChar_ne (b : UInt8) (h : patChar b = true) :
    b ≠ 0 ∧ b ≠ 35 ∧ [63, 58, 91, 93].contains b = false := by
  have : b ≠ 0 ∧ b ≠ 35 ∧ b ≠ 63 ∧ b ≠ 58 ∧ b ≠ 91 ∧ b ≠ 93 := by
    refine ⟨?_, ?_, ?_, ?_, ?_, ?_⟩ <;> (rintro rfl; revert h; decide)
  simpa using this

theorem KwW.long_all {k : Kw} (hk : KwW k) :
    ∀ c ∈ k.long, c ≠ 0 ∧ c ≠ 35 ∧ [63, 58, 91, 93].contains c = false :=
  fun c hc => patChar_ne c (List.all_eq_true.1 hk.chars c hc)

theorem keyText_clean {k : Kw} (hk : KwW k) :
    ∀ b ∈ keyText k, b ≠ 0 ∧ [63, 58, 91, 93].contains b = false := by
  intro b hb
  rcases List.mem_append.1 hb with hb | hb
  · exact ⟨(hk.long_all b hb).1, (hk.long_all b hb).2.2⟩
  · cases hnum : k.numeric <;> simp [hnum] at hb
    subst hb; decide

theorem keyText_pos {k : Kw} (hk : KwW k) : 0 < (keyText k).length := by
  have := List.length_pos_iff.mpr hk.ne
  simp [keyText]; omega

theorem rd_last (s : Bytes) (off : Nat) (x rest : Bytes) (h : s.drop off = x ++ rest) (hx : x ≠ []) :
    rd s (off + x.length - 1) = x.getLast hx := by
  have hpos := List.length_pos_iff.2 hx
  rw [List.getLast_eq_getElem, ← rd_in s off x rest h _ (Nat.sub_lt hpos Nat.one_pos), Nat.add_sub_assoc hpos]

theorem keyText_isNum {k : Kw} (hk : KwW k) (p : Bytes) (pp : Nat) (rest : Bytes)
    (h : p.drop pp = keyText k ++ rest) :
    (rd p (pp + (keyText k).length - 1) == 35) = k.numeric := by
  rw [rd_last p pp _ rest h (by simp [keyText, hk.ne])]
  by_cases hnum : k.numeric = true
  · simp [keyText, hnum]
  · simpa [keyText, hnum] using (hk.long_all _ (List.getLast_mem hk.ne)).2.1

theorem mpRes_fst (r : Option (Option Nat)) (num : Bool) : (mpRes r num).1 = r.isSome := by
  rcases r with _ | _ | _ <;> rfl

/-- a piece of the pattern without '#' is compared whole, in its long and in its short form -/
theorem matchPattern_plain (p : Bytes) (po : Nat) (name prest c : Bytes) (so : Nat) (m crest : Bytes) (num : Bool)
    (hp : p.drop po = name ++ prest) (hc : c.drop so = m ++ crest) (hname : ∀ b ∈ name, b ≠ 0 ∧ b ≠ 35) :
    matchPattern p po name.length c so m.length num =
      (ciEq m name || ciEq m (name.takeWhile fun b => !isLower b), none) := by
  have hn0 : ∀ b ∈ name, b ≠ 0 := fun b hb => (hname b hb).1
  have hlast : ¬ (name.length > 0 ∧ (rd p (po + name.length - 1) == 35) = true) := fun ⟨hpos, h⟩ =>
    (hname _ (List.getLast_mem (List.length_pos_iff.1 hpos))).2 (by rw [← rd_last p po name prest hp]; exact eq_of_beq h)
  rw [matchPattern, if_neg hlast]
  dsimp only
  rw [shortPos_drop p po name prest hp hn0, compareStr_spec p po name prest c so m crest hp hc hn0,
    compareStr_spec p po (name.takeWhile _) (name.dropWhile _ ++ prest) c so m crest
      (by rw [hp, ← List.append_assoc, List.takeWhile_append_dropWhile]) hc
      fun b hb => hn0 b ((List.takeWhile_prefix _).subset hb)]

theorem matchPattern_spec (p : Bytes) (po : Nat) (k : Kw) (prest : Bytes) (c : Bytes) (so : Nat)
    (m crest : Bytes) (num : Bool)
    (hk : KwW k) (hp : p.drop po = keyText k ++ prest) (hc : c.drop so = m ++ crest)
    (hm : ∀ b ∈ m, isDigit b = false → nonNumStart b = true)
    (hcr : nonNumStart (crest.headD 0) = true) :
    matchPattern p po (keyText k).length c so m.length num = mpRes (kwMatch k m) num := by
  rw [kwMatch_eq]
  cases hnum : k.numeric with
  | false =>
    have hkt : keyText k = k.long := by simp [keyText, hnum]
    rw [hkt] at hp ⊢
    rw [matchPattern_plain p po k.long prest c so m crest num hp hc fun b hb => ⟨(hk.long_all b hb).1, (hk.long_all b hb).2.1⟩,
      ← hk.short_eq, tryForm_false, tryForm_false]
    cases ciEq m k.long <;> cases ciEq m k.short <;> rfl
  | true =>
    have hnz : ∀ b ∈ k.long, b ≠ 0 := fun b hb => (hk.long_all b hb).1
    have hpl : p.drop po = k.long ++ ([35] ++ prest) := by
      rw [hp, keyText, hnum, List.append_assoc]; rfl
    have hps : p.drop po = k.short ++ (k.long.dropWhile (fun b => !isLower b) ++ ([35] ++ prest)) := by
      rw [hpl, ← List.append_assoc k.short, hk.short_eq, List.takeWhile_append_dropWhile]
    have hlen : (keyText k).length - 1 = k.long.length := by simp [keyText, hnum]
    simp only [matchPattern, keyText_isNum hk p po prest hp, keyText_pos hk, hnum, true_and, if_true]
    rw [hlen, shortPos_drop p po k.long _ hpl hnz, ← hk.short_eq,
      compareStrAndNum_spec p po k.long _ c so m crest num hpl hc hnz hm hcr,
      compareStrAndNum_spec p po k.short _ c so m crest num hps hc (fun b hb => hnz b (hk.short_mem b hb)) hm hcr, mpRes_fst]
    cases tryForm true m k.long <;> rfl

end ScpiVerif.Lemmas.Match
