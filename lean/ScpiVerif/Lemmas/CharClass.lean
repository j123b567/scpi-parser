/-
Character classes: the model's predicates equal, for ALL 256 byte values, the tables the translator reads off the
compiled C predicates of the current source (Gen/Tables.lean, `cc_*`: lexer.c's file-static predicates with a plain-char
argument, the <ctype.h> functions with the unsigned argument the library passes).  For each class the kernel
evaluates the model's predicate on every byte value into a table (`tableOf`) and compares it with the generated one: a
one-character change of a class in lexer.c changes the regenerated table and breaks the corresponding theorem here.
-/
import ScpiVerif.Gen.Tables
import ScpiVerif.Model.Lexer
import ScpiVerif.Model.Prim
import ScpiVerif.Model.Match

namespace ScpiVerif.Lemmas.CharClass
open ScpiVerif

/-- the C predicate, as tabulated by the translator -/
def inClass (table : Nat) (b : UInt8) : Bool := table.testBit b.toNat

def tableOf (p : UInt8 → Bool) : Nat → Nat
  | 0 => 0
  | k+1 => if p (UInt8.ofNat k) then tableOf p k ||| 2 ^ k else tableOf p k

theorem testBit_tableOf (p : UInt8 → Bool) (k n : Nat) :
    (tableOf p k).testBit n = (decide (n < k) && p (UInt8.ofNat n)) := by
  induction k with
  | zero => simp [tableOf]
  | succ k ih =>
    by_cases h : k = n
    · subst h; cases hp : p (UInt8.ofNat k) <;> simp [tableOf, hp, ih]
    · have e : decide (n < k + 1) = decide (n < k) := decide_eq_decide.2 (by omega)
      rw [e, ← ih, tableOf]
      split <;> simp [h]

theorem inClass_of_table {p : UInt8 → Bool} {t : Nat} (h : tableOf p 256 = t) (b : UInt8) : inClass t b = p b := by
  rw [← h, inClass, testBit_tableOf, decide_eq_true (UInt8.toNat_lt b), UInt8.ofNat_toNat]; rfl

theorem isws (b : UInt8) : inClass Gen.cc_isws b = Lexer.isWs b := inClass_of_table (by decide +kernel) b
theorem isbdigit (b : UInt8) : inClass Gen.cc_isbdigit b = Lexer.isBDigit b := inClass_of_table (by decide +kernel) b
theorem isqdigit (b : UInt8) : inClass Gen.cc_isqdigit b = Lexer.isQDigit b := inClass_of_table (by decide +kernel) b
theorem isplusmn (b : UInt8) : inClass Gen.cc_isplusmn b = Lexer.isPlusMn b := inClass_of_table (by decide +kernel) b
theorem isH (b : UInt8) : inClass Gen.cc_isH b = (b == 104 || b == 72) :=
  inClass_of_table (p := fun b => b == 104 || b == 72) (by decide +kernel) b
theorem isB (b : UInt8) : inClass Gen.cc_isB b = (b == 98 || b == 66) :=
  inClass_of_table (p := fun b => b == 98 || b == 66) (by decide +kernel) b
theorem isQ (b : UInt8) : inClass Gen.cc_isQ b = (b == 113 || b == 81) :=
  inClass_of_table (p := fun b => b == 113 || b == 81) (by decide +kernel) b
theorem isE (b : UInt8) : inClass Gen.cc_isE b = Lexer.isE b := inClass_of_table (by decide +kernel) b
theorem isascii7bit (b : UInt8) : inClass Gen.cc_isascii7bit b = Lexer.isAscii7 b := inClass_of_table (by decide +kernel) b
theorem isNonzeroDigit (b : UInt8) : inClass Gen.cc_isNonzeroDigit b = (Lexer.isDigit b && b != 48) :=
  inClass_of_table (p := fun b => Lexer.isDigit b && b != 48) (by decide +kernel) b
theorem isProgramExpression (b : UInt8) : inClass Gen.cc_isProgramExpression b = Lexer.isProgramExpression b := inClass_of_table (by decide +kernel) b
-- <ctype.h> in the "C" locale, as linked (trusted base made visible: the model's classes are glibc's)
theorem isdigit (b : UInt8) : inClass Gen.cc_isdigit b = Lexer.isDigit b := inClass_of_table (by decide +kernel) b
theorem isalpha (b : UInt8) : inClass Gen.cc_isalpha b = Lexer.isAlpha b := inClass_of_table (by decide +kernel) b
theorem isalnum (b : UInt8) : inClass Gen.cc_isalnum b = Lexer.isAlnum b := inClass_of_table (by decide +kernel) b
theorem isxdigit (b : UInt8) : inClass Gen.cc_isxdigit b = Lexer.isXDigit b := inClass_of_table (by decide +kernel) b
theorem isupper (b : UInt8) : inClass Gen.cc_isupper b = Lexer.isUpper b := inClass_of_table (by decide +kernel) b
theorem islower (b : UInt8) : inClass Gen.cc_islower b = Lexer.isLower b := inClass_of_table (by decide +kernel) b
theorem isspace (b : UInt8) : inClass Gen.cc_isspace b = Prim.isSpace b := inClass_of_table (by decide +kernel) b

theorem tolower_table :
    Gen.cm_tolower = (List.range 256).map fun n => (Match.toLower (UInt8.ofNat n)).toNat := by decide +kernel

theorem tolower (b : UInt8) : Gen.cm_tolower[b.toNat]? = some (Match.toLower b).toNat := by
  rw [tolower_table, List.getElem?_map, List.getElem?_range (UInt8.toNat_lt b)]; simp

end ScpiVerif.Lemmas.CharClass
