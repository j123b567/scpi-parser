/-
Helper lemmas for C17 (binary results are valid definite-length blocks in the requested byte order):
the models `Result.resultBlockHeader/Data/Block` and `Result.resultArrayBinary` write exactly
`Spec.Message.encodeBlock`.

Only the fields `written`, `outputCount`, `arbRemaining` and `pushed` of `Result.Out` are mentioned
(no ghost state).
-/
import ScpiVerif.Model.Result
import ScpiVerif.Spec.Message
import ScpiVerif.Lemmas.ResultWrite

namespace ScpiVerif.Lemmas.Blocks
open ScpiVerif ScpiVerif.Lexer ScpiVerif.Result ScpiVerif.Spec.Message

-- `emitted`, `sepOf` (Lemmas/ResultWrite.lean), `wire`: same bodies as the definitions of these names in Props/C17.lean
-- (which imports this file and restates the theorems below with its own three)
def emitted (o o' : Out) : Bytes := o'.written.drop o.written.length

def wire (hostLittle : Bool) (wantLittle : Bool) (e : Bytes) : Bytes := if hostLittle == wantLittle then e else e.reverse

theorem emitted_eq {o o' : Out} {x : Bytes} (h : o'.written = o.written ++ x) : emitted o o' = x := by
  unfold emitted; rw [h, List.drop_left]

theorem decimal_len (n : Nat) (hn : n < 10^9) : 1 ≤ (decimal n).length ∧ (decimal n).length ≤ 9 := by
  unfold decimal; rw [List.length_map]; exact Lemmas.Framing.specDigits10_len hn

theorem header_state (o : Out) (n : Nat) (hn : n < 10^9) :
    (resultBlockHeader o n).written = o.written ++ (sepOf o ++ [35, UInt8.ofNat (48 + (decimal n).length)] ++ decimal n) ∧
    (resultBlockHeader o n).arbRemaining = n ∧
    (resultBlockHeader o n).outputCount = (if o.outputCount < 0 then 0 else o.outputCount) ∧
    (resultBlockHeader o n).pushed = o.pushed := by
  unfold resultBlockHeader
  dsimp only
  rw [Lemmas.Framing.blockHeader_chars hn, Lemmas.Framing.writeDelimiter_eq]
  refine ⟨?_, rfl, rfl, rfl⟩
  show o.written ++ sepOf o ++ ([35, UInt8.ofNat ((decimal n).length + 48)] ++ decimal n) = _
  rw [Nat.add_comm, List.append_assoc, List.append_assoc]

theorem header_spec (o : Out) (n : Nat) (hn : n < 10^9) :
    let o' := resultBlockHeader o n
    emitted o o' = sepOf o ++ [35, UInt8.ofNat (48 + (decimal n).length)] ++ decimal n ∧
    1 ≤ (decimal n).length ∧ (decimal n).length ≤ 9 ∧ 2 + (decimal n).length + 1 ≤ Gen.bufBlockHeader ∧
    o'.arbRemaining = n ∧ o'.outputCount = (if o.outputCount < 0 then 0 else o.outputCount) := by
  intro o'
  obtain ⟨h1, h2, h3, _⟩ := header_state o n hn
  obtain ⟨l1, l2⟩ := decimal_len n hn
  have hb : Gen.bufBlockHeader = 12 := by decide
  exact ⟨emitted_eq h1, l1, l2, by omega, h2, h3⟩

theorem data_ok (o : Out) (d : Bytes) (h : d.length ≤ o.arbRemaining) :
    (resultBlockData o d).written = o.written ++ d ∧
    (resultBlockData o d).arbRemaining = o.arbRemaining - d.length ∧
    (resultBlockData o d).pushed = o.pushed ∧
    (resultBlockData o d).outputCount = o.outputCount + (if o.arbRemaining - d.length = 0 then 1 else 0) := by
  unfold resultBlockData
  rw [if_neg (by omega)]
  by_cases h0 : o.arbRemaining - d.length = 0
  · simp [h0, writeData, bump]
  · simp [h0, writeData]

theorem over_length_refused (o : Out) (d : Bytes) (h : o.arbRemaining < d.length) :
    let o' := resultBlockData o d
    o'.written = o.written ∧ o'.pushed = o.pushed ++ [-310] ∧ o'.arbRemaining = o.arbRemaining ∧ o'.outputCount = o.outputCount := by
  intro o'
  show (resultBlockData o d).written = _ ∧ (resultBlockData o d).pushed = _ ∧
    (resultBlockData o d).arbRemaining = _ ∧ (resultBlockData o d).outputCount = _
  unfold resultBlockData
  rw [if_pos h]
  exact ⟨rfl, rfl, rfl, rfl⟩

theorem stream_fields : ∀ (chunks : List Bytes) (o1 : Out), chunks.flatten.length ≤ o1.arbRemaining →
    (chunks.foldl resultBlockData o1).written = o1.written ++ chunks.flatten ∧
    (chunks.foldl resultBlockData o1).arbRemaining = o1.arbRemaining - chunks.flatten.length ∧
    (chunks.foldl resultBlockData o1).pushed = o1.pushed ∧
    (chunks.flatten.length < o1.arbRemaining → (chunks.foldl resultBlockData o1).outputCount = o1.outputCount)
  | [], o1, _ => ⟨(List.append_nil _).symm, rfl, rfl, fun _ => rfl⟩
  | c :: cs, o1, hle => by
    rw [List.flatten_cons, List.length_append] at hle
    obtain ⟨d1, d2, d3, d4⟩ := data_ok o1 c (by omega)
    obtain ⟨i1, i2, i3, i4⟩ := stream_fields cs (resultBlockData o1 c) (by omega)
    rw [List.foldl_cons, List.flatten_cons, List.length_append]
    refine ⟨by rw [i1, d1, List.append_assoc], by omega, by rw [i3, d3], fun hlt => ?_⟩
    rw [i4 (by rw [d2]; exact Nat.lt_sub_of_add_lt (Nat.add_comm _ _ ▸ hlt)), d4,
      if_neg (Nat.sub_ne_zero_of_lt (Nat.lt_of_le_of_lt (Nat.le_add_right _ _) hlt)), Int.add_zero]

/-- the item is counted once: by the call that brings the last announced byte, or by the one empty call of an empty
block; an empty call after that would count it again -/
theorem stream_count : ∀ (cs : List Bytes) (c : Bytes) (o1 : Out), (∀ x ∈ cs, x ≠ []) →
    (c :: cs).flatten.length = o1.arbRemaining →
    ((c :: cs).foldl resultBlockData o1).outputCount = o1.outputCount + 1
  | [], c, o1, _, heq => by
    rw [List.flatten_cons, List.flatten_nil, List.append_nil] at heq
    rw [List.foldl_cons, List.foldl_nil, (data_ok o1 c (by omega)).2.2.2, if_pos (by omega)]
  | c2 :: cs, c, o1, hne, heq => by
    rw [List.flatten_cons, List.length_append] at heq
    obtain ⟨-, d2, -, d4⟩ := data_ok o1 c (by omega)
    have h2 : 0 < c2.length := List.length_pos_iff.2 (hne c2 List.mem_cons_self)
    have hle : c2.length ≤ (c2 :: cs).flatten.length := by rw [List.flatten_cons, List.length_append]; omega
    rw [List.foldl_cons, stream_count cs c2 _ (fun x hx => hne x (List.mem_cons_of_mem _ hx)) (by omega), d4,
      if_neg (by omega), Int.add_zero]

/-- a header, then data calls that sum to the announced length, none but the first empty: one block, one item -/
theorem stream_spec (o : Out) (c : Bytes) (cs : List Bytes) (n : Nat) (hn : n < 10^9) (hne : ∀ x ∈ cs, x ≠ [])
    (hsum : (c :: cs).flatten.length = n) :
    let o' := (c :: cs).foldl resultBlockData (resultBlockHeader o n)
    emitted o o' = sepOf o ++ encodeBlock (c :: cs).flatten ∧ o'.arbRemaining = 0 ∧
    o'.outputCount = (if o.outputCount < 0 then 0 else o.outputCount) + 1 ∧ o'.pushed = o.pushed := by
  obtain ⟨h1, h2, h3, h4⟩ := header_state o n hn
  obtain ⟨f1, f2, f3, -⟩ := stream_fields (c :: cs) (resultBlockHeader o n) (by omega)
  refine ⟨emitted_eq ?_, by omega, by rw [stream_count cs c _ hne (by omega), h3], by rw [f3, h4]⟩
  rw [f1, h1, ← hsum, encodeBlock, List.append_assoc, List.append_assoc, List.append_assoc, List.append_assoc]

theorem block_spec (o : Out) (d : Bytes) (hd : d.length < 10^9) :
    let o' := resultBlock o d
    emitted o o' = sepOf o ++ encodeBlock d ∧ o'.arbRemaining = 0 ∧
    o'.outputCount = (if o.outputCount < 0 then 0 else o.outputCount) + 1 ∧ o'.pushed = o.pushed := by
  simpa [resultBlock] using stream_spec o d [] d.length hd (fun _ h => nomatch h) (by simp)

theorem block_stream (o : Out) (chunks : List Bytes) (n : Nat) (hn : n < 10^9) (hsum : chunks.flatten.length = n)
    (hne : ∀ c ∈ chunks, c ≠ []) :
    let o1 := resultBlockHeader o n
    let o' := chunks.foldl resultBlockData o1
    emitted o o' = sepOf o ++ encodeBlock chunks.flatten ∧ o'.arbRemaining = 0 ∧ o'.pushed = o.pushed ∧
    (n > 0 → o'.outputCount = o1.outputCount + 1) ∧
    (∀ k, k < chunks.length → (chunks.take k).flatten.length < n → ((chunks.take k).foldl resultBlockData o1).outputCount = o1.outputCount) := by
  dsimp only
  obtain ⟨h1, h2, -, h4⟩ := header_state o n hn
  obtain ⟨f1, f2, f3, -⟩ := stream_fields chunks (resultBlockHeader o n) (by rw [h2]; omega)
  refine ⟨emitted_eq ?_, by rw [f2, h2]; omega, by rw [f3]; exact h4, fun hpos => ?_, fun k _ hlt =>
    (stream_fields _ _ (by rw [h2]; omega)).2.2.2 (by rw [h2]; exact hlt)⟩
  · rw [f1, h1, ← hsum, encodeBlock, List.append_assoc, List.append_assoc, List.append_assoc, List.append_assoc]
  · match chunks, hne, hsum with
    | [], _, hsum => subst hsum; exact absurd hpos (Nat.lt_irrefl 0)
    | c :: cs, hne, hsum => exact stream_count cs c _ (fun x hx => hne x (List.mem_cons_of_mem _ hx)) (by rw [h2]; exact hsum)

theorem flatten_length_const : ∀ (elems : List Bytes) (sz : Nat), (∀ e ∈ elems, e.length = sz) →
    elems.flatten.length = elems.length * sz
  | [], _, _ => by simp
  | e :: es, sz, h => by
    have := flatten_length_const es sz (fun x hx => h x (by simp [hx]))
    have he := h e (by simp)
    simp only [List.flatten_cons, List.length_append, List.length_cons, this, he]
    rw [Nat.add_mul]; omega

theorem flatMap_reverse_one : ∀ (elems : List Bytes), (∀ e ∈ elems, e.length = 1) →
    elems.flatMap List.reverse = elems.flatten
  | [], _ => rfl
  | e :: es, h => by
    have := flatMap_reverse_one es (fun x hx => h x (by simp [hx]))
    have he := h e (by simp)
    obtain ⟨a, rfl⟩ := List.length_eq_one_iff.mp he
    simp [this]

theorem array_bad_size (o : Out) (elems : List Bytes) (sz : Nat) (same : Bool) (h : ¬(sz = 1 ∨ sz = 2 ∨ sz = 4 ∨ sz = 8)) :
    (resultArrayBinary o elems sz same).written = o.written ∧ (resultArrayBinary o elems sz same).pushed = o.pushed ++ [-310] := by
  unfold resultArrayBinary
  rw [if_pos (by simpa using h)]
  exact ⟨rfl, rfl⟩

theorem array_binary (o : Out) (elems : List Bytes) (sz : Nat) (hsz : sz = 1 ∨ sz = 2 ∨ sz = 4 ∨ sz = 8)
    (hel : ∀ e ∈ elems, e.length = sz) (hlen : elems.length * sz < 10^9) (hostLittle wantLittle : Bool) :
    let o' := resultArrayBinary o elems sz (hostLittle == wantLittle)
    emitted o o' = sepOf o ++ encodeBlock (elems.flatMap (wire hostLittle wantLittle)) ∧
    o'.outputCount = (if o.outputCount < 0 then 0 else o.outputCount) + 1 ∧ o'.arbRemaining = 0 ∧ o'.pushed = o.pushed := by
  have hfl := flatten_length_const elems sz hel
  -- the data calls: a first one, then none that is empty; together the elements in the requested order
  obtain ⟨c, cs, hch, hne, hw⟩ : ∃ c cs, arrayChunks elems sz (hostLittle == wantLittle) = c :: cs ∧ (∀ x ∈ cs, x ≠ []) ∧
      (c :: cs).flatten = elems.flatMap (wire hostLittle wantLittle) := by
    unfold arrayChunks wire
    by_cases hs : (hostLittle == wantLittle) = true
    · exact ⟨elems.flatten, [], by simp [hs], (fun _ h => nomatch h), by simp [hs, List.flatMap_def]⟩
    · by_cases h1 : sz = 1
      · exact ⟨elems.flatten, [], by simp [h1], (fun _ h => nomatch h), by subst h1; simp [hs, flatMap_reverse_one elems hel]⟩
      · have hr : ∀ x ∈ elems.map List.reverse, x ≠ [] := by
          intro x hx h
          obtain ⟨e, he, rfl⟩ := List.mem_map.mp hx
          have := hel e he
          rw [List.reverse_eq_nil_iff.1 h] at this
          exact absurd this.symm (by simp; omega)
        cases elems with
        | nil => exact ⟨[], [], by simp [hs, h1], (fun _ h => nomatch h), rfl⟩
        | cons e es => exact ⟨e.reverse, es.map List.reverse, by simp [hs, h1], fun x hx => hr x (List.mem_cons_of_mem _ hx),
            by simp [hs, List.flatMap_def]⟩
  have hsum : (c :: cs).flatten.length = elems.length * sz := by
    rw [hw, ← hfl]; unfold wire; split <;> simp [List.flatMap_def, List.length_flatten, List.map_map, Function.comp_def]
  obtain ⟨s1, s2, s3, s4⟩ := stream_spec o c cs _ hlen hne hsum
  dsimp only
  rw [resultArrayBinary_eq, if_pos hsz, hch, show (if (hostLittle == wantLittle) = true then elems.flatten.length else elems.length * sz)
    = elems.length * sz by split <;> simp [hfl], ← hw]
  exact ⟨s1, s3, s2, s4⟩

end ScpiVerif.Lemmas.Blocks
