/-
A numeric program-data token (`#H..`, `#Q..`, `#B..`, decimal, decimal with suffix) delivered by `parseProgramData` starts with a
byte that is not white space for the C library, so `strtol` / `strtod` started at the token skip nothing (`programData_num_first`;
for the two-run simulation, Lemmas/TwoRun.lean, where the byte that stops the scans may be a line feed).  A fact of the
specification: `parseProgramData` delivers what `specData` finds, and every numeric `ItemShape` starts so.  The namespace
`ParseLocalAux` is shared with Lemmas/ParseLocalPrim.lean and Lemmas/ParseLocal.lean.
-/
import ScpiVerif.Lemmas.LexData
import ScpiVerif.Lemmas.ItemShape
import ScpiVerif.Lemmas.Strto

namespace ScpiVerif.Lemmas.ParseLocalAux
open ScpiVerif ScpiVerif.Lexer ScpiVerif.Parser ScpiVerif.Spec ScpiVerif.Lemmas.Lexer
open ScpiVerif.Lemmas.Params ScpiVerif.Lemmas.Strto

/-- the token types the number readers convert -/
def numType (t : TokType) : Bool :=
  match t with
  | .hexnum | .octnum | .binnum | .decimal | .decimalWithSuffix => true
  | _ => false

def nsp (b : UInt8) : Bool := !Prim.isSpace b

theorem nsp_decimal : ∀ b, (isPlusMn b || isDigit b || b == 46) = true → nsp b = true := fun b h => by
  simp [nsp, ByteClass.num_not_space b h]

theorem specData_num_first {s : Bytes} {n : Nat} {t : TokType} {po pl : Nat} (h : specData s = .item n t po pl)
    (ht : numType t = true) : hd (s.drop po) nsp = true := by
  have dec : ∀ {e : Nat}, specToken .decimal s = some ⟨e, .decimal, 0, e⟩ → hd (s.drop 0) nsp = true := fun he =>
    hd_imp nsp_decimal (decimal_first _ _ (plainSpec_PM he).2.1)
  cases Params.specData_item_shape h with
  | nondecimal base _ hpo _ _ hd =>
    rw [hpo]
    exact hd_imp (fun b hb => by simp [nsp, (digit_start (.inl (digitOK_isSome hb))).1]) hd
  | chr ht' => subst ht'; cases ht
  | decimal _ hpo _ hs => rw [hpo]; exact dec hs
  | withSuffix e sf _ hpo _ hs => rw [hpo]; exact dec hs
  | other ht' => rcases ht' with rfl | rfl | rfl | rfl <;> cases ht

theorem programData_num_first (buf : Bytes) (pos : Nat)
    (h : numType (parseProgramData buf pos).2.1.type = true) :
    ∃ b, buf[(parseProgramData buf pos).2.1.ptr]? = some b ∧ Prim.isSpace b = false := by
  rw [parseProgramData_eq] at h ⊢
  cases hd : specData (buf.drop (pos + wsLen (buf.drop pos))) with
  | item n t po pl =>
    rw [hd] at h
    have := specData_num_first hd h
    rw [List.drop_drop] at this
    obtain ⟨b, hb, hs⟩ := hd_cons_drop this
    refine ⟨b, ?_, by simpa [nsp] using hb⟩
    rw [getElem?_eq_head_drop]
    show (buf.drop (pos + wsLen (buf.drop pos) + po)).head? = _
    rw [hs]; rfl
  | swallow => rw [hd] at h; cases h
  | none => rw [hd] at h; cases h

end ScpiVerif.Lemmas.ParseLocalAux
