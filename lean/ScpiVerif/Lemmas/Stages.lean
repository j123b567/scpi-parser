/-
The functions of Model/Ctx.lean above the handler scripts (`pushError`, `processCommand`, the unit loop of SCPI_Parse,
`parse`, SCPI_Input and its loop) cut into named stages, each with the one equation that says so; proofs about these
functions start from here instead of unfolding the model.  An equation is `rfl` where the stage repeats the model's text
word for word (`pcTail0`, `stepCore`); proofs then go through the reshaped forms (`pcTail`, `stepCore_eq`; `UnitStep` for the
cases of one iteration of the unit loop in one run, `stepCore_cases` for the same cases in several runs at once).
Only `Stage` is a namespace of this file; the other stages keep the namespace of the development that states its results
with them (`Params`, `Isolation`, `ParseLocalAux`, `Chunking`), because statements all over the library cite these full names.
-/
import ScpiVerif.Model.Ctx

namespace ScpiVerif.Lemmas.Params
open ScpiVerif ScpiVerif.Lexer ScpiVerif.Ctx

def pushEvents (c : Ctx) (code : Int) (info : Option Bytes) (infoLen : Nat) : List Ev :=
  let e := Ev.error code (info.map (fun s => if infoLen = 0 then s.takeWhile (· ≠ 0) else (s.takeWhile (· ≠ 0)).take infoLen))
  if (c.eq.push c.withInfo code info infoLen true).2.length > 1 then [e, .error Fifo.overflowCode none] else [e]

end ScpiVerif.Lemmas.Params

namespace ScpiVerif.Lemmas.Isolation
open ScpiVerif ScpiVerif.Lexer ScpiVerif.Ctx ScpiVerif.Result

theorem pushError_eq (c : Ctx) (code : Int) (info : Option Bytes) (n : Nat) :
    pushError c code info n =
      { c with eq := (c.eq.push c.withInfo code info n true).1, regs := Regs.errPush c.regs code, cmdError := true,
               events := c.events ++ Params.pushEvents c code info n } := by
  unfold pushError Params.pushEvents
  simp only []
  split <;> simp [emit]

def pcReset (c : Ctx) : Ctx :=
  { c with cmdError := false, inputCount := 0,
           out := { c.out with outputCount := if c.out.firstOutput then 0 else -1, arbRemaining := 0 } }

def pcBody (c : Ctx) : Ctx × Bool :=
  match c.cur with
  | some cmd =>
    let c := emit c (.handler cmd.tag ((c.buf.drop c.rawOff).take c.rawLen))
    let (c, ok) := runScript c cmd.script
    if !ok then ((if !c.cmdError then pushError c (-200) none else c), false)
    else (c, !c.cmdError)
  | none => (c, true)

def pcOut (o : Out) : Out := endUnit (if o.outputCount > 0 then { o with firstOutput := false } else o)

def pcTail (x : Ctx × Bool) : Ctx × Bool :=
  if x.1.ppos < x.1.pbase + x.1.plen ∧ !x.1.cmdError then (pushError { x.1 with out := pcOut x.1.out } (-108) none, false)
  else ({ x.1 with out := pcOut x.1.out }, x.2)

def pcTail0 (x : Ctx × Bool) : Ctx × Bool :=
  let (c, result) := x
  let c := if c.out.outputCount > 0 then { c with out := { c.out with firstOutput := false } } else c
  let c := { c with out := Result.endUnit c.out }
  if c.ppos < c.pbase + c.plen ∧ !c.cmdError then (pushError c (-108) none, false) else (c, result)

theorem pcTail0_eq (x : Ctx × Bool) : pcTail0 x = pcTail x := by
  obtain ⟨c, r⟩ := x
  unfold pcTail0 pcTail pcOut
  by_cases h : c.out.outputCount > 0
  · simp only [h, if_true]
  · simp only [h, if_false]

theorem processCommand_eq (c : Ctx) : processCommand c = pcTail (pcBody (pcReset c)) := by
  rw [← pcTail0_eq]
  rfl

def setUnit (base dptr dlen : Nat) (cmd : Cmd) (cur : Nat × Nat) (c : Ctx) : Ctx :=
  { c with pbase := base + dptr, ppos := base + dptr, plen := dlen, cur := some cmd, rawOff := cur.1, rawLen := cur.2 }

/-- the part of one iteration of the unit loop after the header has been composed -/
def unitCmd (c : Ctx) (base r dptr dlen : Nat) (cur : Nat × Nat) (res : Bool) : Ctx × Option (Nat × Nat) × Bool :=
  match findCommand c cur.1 cur.2 with
  | some cmd =>
    let (c, ok) := processCommand (setUnit base dptr dlen cmd cur c)
    (c, some cur, res && ok)
  | none =>
    let txt := (c.buf.drop base).take r
    let r2 := (txt.reverse.dropWhile (fun b => b == 13 || b == 10)).length
    (pushError c (-113) (some (txt.take r2)) r2, some cur, false)

theorem unitCmd_prev (c : Ctx) (base r dptr dlen : Nat) (cur : Nat × Nat) (res : Bool) :
    (unitCmd c base r dptr dlen cur res).2.1 = some cur := by
  unfold unitCmd
  split <;> rfl

end ScpiVerif.Lemmas.Isolation

namespace ScpiVerif.Lemmas.Stage
open ScpiVerif ScpiVerif.Lexer ScpiVerif.Ctx ScpiVerif.Result ScpiVerif.Lemmas.Isolation

def enter (c : Ctx) : Ctx :=
  match c.cur with
  | some cmd => emit c (.handler cmd.tag ((c.buf.drop c.rawOff).take c.rawLen))
  | none => c

def pcVerdict (x : Ctx × Bool) : Ctx × Bool :=
  if !x.2 then ((if !x.1.cmdError then pushError x.1 (-200) none else x.1), false) else (x.1, !x.1.cmdError)

theorem pcBody_some {c : Ctx} {cmd : Cmd} (h : c.cur = some cmd) :
    pcBody c = pcVerdict (runScript (enter c) cmd.script) := by
  unfold pcBody enter
  rw [h]
  rfl

theorem pcBody_none {c : Ctx} (h : c.cur = none) : pcBody c = (c, true) := by
  unfold pcBody
  rw [h]

/-- the body of `parseLoop` (the model's text) as a function of the detected unit -/
def stepCore (c : Ctx) (base : Nat) (prev : Option (Nat × Nat)) (res : Bool) (u : Parser.Unit) :
    Ctx × Option (Nat × Nat) × Bool :=
  let r := u.consumed
  if u.header.type == .invalid then (pushError c (-101) none, prev, false)
  else if u.header.len > 0 ∧ u.nParams < 0 then (pushError c (-103) none, prev, false)
  else if u.header.len > 0 then
    let cur := (base + u.header.ptr, u.header.len.toNat)
    let (buf, cur, okc) := Match.composeCompound c.buf prev cur
    let c := { c with buf := buf, oob := c.oob || !okc }
    let prev := some cur
    match findCommand c cur.1 cur.2 with
    | some cmd =>
      let c := { c with pbase := base + u.data.ptr, ppos := base + u.data.ptr, plen := u.data.len.toNat,
                        cur := some cmd, rawOff := cur.1, rawLen := cur.2 }
      let (c, ok) := processCommand c
      (c, prev, res && ok)
    | none =>
      let txt := (c.buf.drop base).take r
      let r2 := (txt.reverse.dropWhile (fun b => b == 13 || b == 10)).length
      (pushError c (-113) (some (txt.take r2)) r2, prev, false)
  else (c, prev, res)

theorem parseLoop_succ (fuel : Nat) (c : Ctx) (base len : Nat) (prev : Option (Nat × Nat)) (res : Bool) :
    parseLoop (fuel + 1) c base len prev res =
      if (Parser.detectUnit ((c.buf.drop base).take len)).consumed < len then
        parseLoop fuel (stepCore c base prev res (Parser.detectUnit ((c.buf.drop base).take len))).1
          (base + (Parser.detectUnit ((c.buf.drop base).take len)).consumed)
          (len - (Parser.detectUnit ((c.buf.drop base).take len)).consumed)
          (stepCore c base prev res (Parser.detectUnit ((c.buf.drop base).take len))).2.1
          (stepCore c base prev res (Parser.detectUnit ((c.buf.drop base).take len))).2.2
      else ((stepCore c base prev res (Parser.detectUnit ((c.buf.drop base).take len))).1,
            (stepCore c base prev res (Parser.detectUnit ((c.buf.drop base).take len))).2.2) := by
  rfl

theorem stepCore_eq (c : Ctx) (base : Nat) (prev : Option (Nat × Nat)) (res : Bool) (u : Parser.Unit) :
    stepCore c base prev res u =
      if u.header.type == .invalid then (pushError c (-101) none, prev, false)
      else if u.header.len > 0 ∧ u.nParams < 0 then (pushError c (-103) none, prev, false)
      else if u.header.len > 0 then
        let (buf, cur, okc) := Match.composeCompound c.buf prev (base + u.header.ptr, u.header.len.toNat)
        unitCmd { c with buf := buf, oob := c.oob || !okc } base u.consumed u.data.ptr u.data.len.toNat cur res
      else (c, prev, res) := by
  rfl

/-- the in-place composition of the header of `u`: the context afterwards and the extent of the effective header -/
def compose (c : Ctx) (base : Nat) (prev : Option (Nat × Nat)) (u : Parser.Unit) : Ctx × (Nat × Nat) :=
  ({ c with buf := (Match.composeCompound c.buf prev (base + u.header.ptr, u.header.len.toNat)).1,
            oob := c.oob || !(Match.composeCompound c.buf prev (base + u.header.ptr, u.header.len.toNat)).2.2 },
   (Match.composeCompound c.buf prev (base + u.header.ptr, u.header.len.toNat)).2.1)

/-- What one iteration of the unit loop can do, by the detected unit `u`.  In a proof: `cases` on `stepCore_step` after
`generalize stepCore .. = x`; a goal about `x.1` then wants `dsimp only` before anything is unified with it. -/
inductive UnitStep (c : Ctx) (base : Nat) (prev : Option (Nat × Nat)) (res : Bool) (u : Parser.Unit) :
    Ctx × Option (Nat × Nat) × Bool → Prop
  | invalid : u.header.type = .invalid → UnitStep c base prev res u (pushError c (-101) none, prev, false)
  | separator : u.header.type ≠ .invalid → u.header.len > 0 → u.nParams < 0 →
      UnitStep c base prev res u (pushError c (-103) none, prev, false)
  | noHeader : u.header.type ≠ .invalid → ¬ u.header.len > 0 → UnitStep c base prev res u (c, prev, res)
  | header : u.header.type ≠ .invalid → u.header.len > 0 →
      UnitStep c base prev res u
        (unitCmd (compose c base prev u).1 base u.consumed u.data.ptr u.data.len.toNat (compose c base prev u).2 res)

/-- One iteration of the unit loop as a function of the context: which of four functions is decided by the unit `u`
alone, so any number of runs on the same unit take the same case (`stepCore_step` is this for one run). -/
theorem stepCore_cases {motive : (Ctx → Ctx × Option (Nat × Nat) × Bool) → Prop} (base : Nat) (prev : Option (Nat × Nat))
    (res : Bool) (u : Parser.Unit)
    (invalid : u.header.type = .invalid → motive fun c => (pushError c (-101) none, prev, false))
    (separator : u.header.type ≠ .invalid → u.header.len > 0 → u.nParams < 0 →
      motive fun c => (pushError c (-103) none, prev, false))
    (noHeader : u.header.type ≠ .invalid → ¬ u.header.len > 0 → motive fun c => (c, prev, res))
    (header : u.header.type ≠ .invalid → u.header.len > 0 → motive fun c =>
      unitCmd (compose c base prev u).1 base u.consumed u.data.ptr u.data.len.toNat (compose c base prev u).2 res) :
    motive fun c => stepCore c base prev res u := by
  have to : ∀ {f : Ctx → Ctx × Option (Nat × Nat) × Bool}, (∀ c, stepCore c base prev res u = f c) → motive f →
      motive fun c => stepCore c base prev res u := fun e h => (funext e : _ = _) ▸ h
  by_cases h1 : u.header.type = .invalid
  · exact to (fun c => by rw [stepCore_eq, if_pos (beq_iff_eq.2 h1)]) (invalid h1)
  have n1 := mt beq_iff_eq.1 h1
  by_cases h2 : u.header.len > 0 ∧ u.nParams < 0
  · exact to (fun c => by rw [stepCore_eq, if_neg n1, if_pos h2]) (separator h1 h2.1 h2.2)
  by_cases h3 : u.header.len > 0
  · exact to (fun c => by rw [stepCore_eq, if_neg n1, if_neg h2, if_pos h3]; rfl) (header h1 h3)
  · exact to (fun c => by rw [stepCore_eq, if_neg n1, if_neg h2, if_neg h3]) (noHeader h1 h3)

theorem stepCore_step (c : Ctx) (base : Nat) (prev : Option (Nat × Nat)) (res : Bool) (u : Parser.Unit) :
    UnitStep c base prev res u (stepCore c base prev res u) :=
  stepCore_cases (motive := fun f => UnitStep c base prev res u (f c)) base prev res u .invalid .separator .noHeader .header

end ScpiVerif.Lemmas.Stage

namespace ScpiVerif.Lemmas.ParseLocalAux
open ScpiVerif ScpiVerif.Lexer ScpiVerif.Ctx ScpiVerif.Result

def outReset (o : Out) : Out :=
  { o with outputCount := 0, firstOutput := true, gCur := [], gItems := [], gUnits := [], gPartial := false }

def parseFin (x : Ctx × Bool) : Ctx × Bool := ({ x.1 with out := writeNewLine x.1.out }, x.2)

/-- In a proof: `rw [parse_eq]`, then `generalize parseLoop .. = x` before anything is unified with `(parseFin x).1`. -/
theorem parse_eq (c : Ctx) (base len : Nat) :
    parse c base len =
      parseFin (parseLoop (len + 2) (emit { c with out := outReset c.out } (.parseMsg ((c.buf.drop base).take len)))
        base len none true) := by
  unfold parse parseFin outReset
  simp only []

end ScpiVerif.Lemmas.ParseLocalAux

namespace ScpiVerif.Lemmas.Chunking
open ScpiVerif ScpiVerif.Lexer ScpiVerif.Ctx

def step (c : Ctx) (k : Nat) : Ctx :=
  let d := (parse c 0 k).1
  { d with buf := poke d.buf 0 ((d.buf.drop k).take (d.position - k)), position := d.position - k }

def store (c : Ctx) (y : Bytes) : Ctx :=
  { c with buf := (poke c.buf c.position y).set (c.position + y.length) 0, position := c.position + y.length }

theorem inputLoop_succ (fuel : Nat) (c : Ctx) (tot : Nat) (res : Bool) :
    inputLoop (fuel + 1) c tot res =
      if (Parser.detectUnit ((c.buf.drop tot).take (c.position - tot))).term == .nl then
        inputLoop fuel (step c (tot + (Parser.detectUnit ((c.buf.drop tot).take (c.position - tot))).consumed)) 0
          (parse c 0 (tot + (Parser.detectUnit ((c.buf.drop tot).take (c.position - tot))).consumed)).2
      else if (Parser.detectUnit ((c.buf.drop tot).take (c.position - tot))).header.type == .unknown ∧
          (Parser.detectUnit ((c.buf.drop tot).take (c.position - tot))).term == .none then (c, res)
      else if tot + (Parser.detectUnit ((c.buf.drop tot).take (c.position - tot))).consumed ≥ c.position then (c, res)
      else inputLoop fuel c (tot + (Parser.detectUnit ((c.buf.drop tot).take (c.position - tot))).consumed) res := by
  conv => lhs; unfold inputLoop
  simp only []
  generalize Parser.detectUnit ((c.buf.drop tot).take (c.position - tot)) = u
  split
  · rfl
  · rfl

theorem input_nil (c : Ctx) :
    input c [] = emit { (parse { c with buf := c.buf.set c.position 0 } 0 c.position).1 with position := 0 }
      (.input (parse { c with buf := c.buf.set c.position 0 } 0 c.position).2) := by
  unfold input
  simp only [List.length_nil, beq_self_eq_true, if_true]

theorem input_overrun {c : Ctx} {data : Bytes} (hd : data ≠ []) (ho : data.length + 1 > c.bufLen - c.position) :
    input c data = emit (pushError { c with position := 0, buf := c.buf.set 0 0 } (-363) none) (.input false) := by
  unfold input
  simp only [beq_iff_eq, List.length_eq_zero_iff, hd, if_false, ho, if_true]

theorem input_fits {c : Ctx} {data : Bytes} (hd : data ≠ []) (hf : ¬ data.length + 1 > c.bufLen - c.position) :
    input c data = emit (inputLoop (c.position + data.length + 2) (store c data) 0 true).1
      (.input (inputLoop (c.position + data.length + 2) (store c data) 0 true).2) := by
  unfold input
  simp only [beq_iff_eq, List.length_eq_zero_iff, hd, if_false, hf]
  rfl

end ScpiVerif.Lemmas.Chunking
