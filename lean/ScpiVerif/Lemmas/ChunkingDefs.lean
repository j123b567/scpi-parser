/-
Definitions for C08: `Pers`, two contexts that are equal outside buffer, fill level and event log (the kernel of
`rest`, which is in namespace `Lemmas.ParseLocalAux`); the scan of `SCPI_Input` as a function of the buffer content
(`scan`); and the locality of `SCPI_Parse` stated as propositions (`ParseLocal`, `ParseLocalCR`), proved in
Lemmas/ParseLocal.lean from `parse_local` there, which is what Lemmas/Chunking.lean applies.
-/
import ScpiVerif.Spec.Chunking
import ScpiVerif.Model.Ctx
import ScpiVerif.Lemmas.UnitForm

namespace ScpiVerif.Lemmas.ParseLocalAux
open ScpiVerif ScpiVerif.Ctx

/-- a context without what two runs over the same message may differ in: buffer, fill level, event log -/
def rest (c : Ctx) : Ctx := { c with buf := [], position := 0, events := [] }

end ScpiVerif.Lemmas.ParseLocalAux

namespace ScpiVerif.Lemmas.Chunking
open ScpiVerif ScpiVerif.Ctx ScpiVerif.Lexer
open ScpiVerif.Lemmas.Lexer (detect_consumed_le detect_consumed_pos)
open ScpiVerif.Lemmas.ParseLocalAux (rest)

def Pers (c1 c2 : Ctx) : Prop :=
  { c2 with buf := c1.buf, position := c1.position, events := c1.events } = c1

theorem pers_iff {c1 c2 : Ctx} : Pers c1 c2 ↔ rest c2 = rest c1 :=
  -- `(e :)` elaborates `e` by itself and leaves it to the unifier to see its type as the goal: here, and in the proofs of
  -- this shape about `Pers`, `Same`, `SimW`, `OutSimU`, by unfolding the two definitions and structure eta (an update of an
  -- update of `c` is the record with the same fields)
  ⟨fun h => (congrArg rest h :), fun h =>
    (congrArg (fun r : Ctx => ({ r with buf := c1.buf, position := c1.position, events := c1.events } : Ctx)) h :)⟩

/-- `SCPI_Parse` of a message that ends in a line feed (and contains neither quote characters nor CR) does not depend
on the buffer bytes behind the message.  `Lemmas.Isolation.parse_sim` proves this kind of conclusion when the two
buffers agree up to and including a common NUL behind the message.  Between two chunkings of one stream there is no
such NUL (`input c (a ++ b)` parses the first message in `pending ++ a ++ b ++ [0] …`, `input (input c a) b` in
`pending ++ a ++ [0] …`, and after the memmove of the remainder nothing terminates it): the stopper has to be the
message's own terminator.  Proved: `parseLocal`. -/
def ParseLocal : Prop :=
  ∀ (c1 c2 : Ctx) (k : Nat), Pers c1 c2 →
    c1.buf.length = c1.bufLen → c2.buf.length = c2.bufLen → k < c1.bufLen → c1.oob = false →
    c1.buf.take k = c2.buf.take k →
    (c1.buf.take k).getLast? = some 10 →
    (∀ b ∈ c1.buf.take k, b ≠ 34 ∧ b ≠ 39 ∧ b ≠ 13) →
    Pers (parse c1 0 k).1 (parse c2 0 k).1 ∧
    ∃ es, (parse c1 0 k).1.events = c1.events ++ es ∧ (parse c2 0 k).1.events = c2.events ++ es

/-- the same for a message that ends in a line feed or in a carriage return and may contain CR.  Proved: `parseLocalCR`. -/
def ParseLocalCR : Prop :=
  ∀ (c1 c2 : Ctx) (k : Nat), Pers c1 c2 →
    c1.buf.length = c1.bufLen → c2.buf.length = c2.bufLen → k < c1.bufLen → c1.oob = false →
    c1.buf.take k = c2.buf.take k →
    ((c1.buf.take k).getLast? = some 10 ∨ (c1.buf.take k).getLast? = some 13) →
    (∀ b ∈ c1.buf.take k, b ≠ 34 ∧ b ≠ 39) →
    Pers (parse c1 0 k).1 (parse c2 0 k).1 ∧
    ∃ es, (parse c1 0 k).1.events = c1.events ++ es ∧ (parse c2 0 k).1.events = c2.events ++ es

theorem ParseLocalCR.toLF (h : ParseLocalCR) : ParseLocal :=
  fun c1 c2 k hp l1 l2 hk ho ht hl hc =>
    h c1 c2 k hp l1 l2 hk ho ht (Or.inl hl) (fun b hb => ⟨(hc b hb).1, (hc b hb).2.1⟩)

theorem ParseLocal_of_CR : ParseLocalCR → ParseLocal := ParseLocalCR.toLF

def content (c : Ctx) : Bytes := c.buf.take c.position

/-- the scan loop of `SCPI_Input` on the pending bytes `s`, from offset `tot`, without the parsing:
`some (k, f)` when a unit ending in a line terminator ends at offset `k` (with `f` iterations left),
`none` when the loop stops first -/
def scanFrom : Nat → Bytes → Nat → Option (Nat × Nat)
  | 0, _, _ => none
  | fuel+1, s, tot =>
    let u := Parser.detectUnit (s.drop tot)
    let tot := tot + u.consumed
    if u.term == .nl then some (tot, fuel)
    else if u.header.type == .unknown ∧ u.term == .none then none
    else if tot ≥ s.length then none
    else scanFrom fuel s tot

/-- the length of the first complete message in `s`, if there is one -/
def scan (s : Bytes) : Option Nat := (scanFrom (s.length + 1) s 0).map (·.1)

theorem detect_nil : (Parser.detectUnit []).term = .none ∧ (Parser.detectUnit []).header.type = .unknown := by decide

theorem scanFrom_succ (fuel : Nat) (s : Bytes) (tot : Nat) :
    scanFrom (fuel + 1) s tot =
      if (Parser.detectUnit (s.drop tot)).term == .nl then some (tot + (Parser.detectUnit (s.drop tot)).consumed, fuel)
      else if (Parser.detectUnit (s.drop tot)).header.type == .unknown ∧ (Parser.detectUnit (s.drop tot)).term == .none then none
      else if tot + (Parser.detectUnit (s.drop tot)).consumed ≥ s.length then none
      else scanFrom fuel s (tot + (Parser.detectUnit (s.drop tot)).consumed) := rfl

theorem detect_drop (s : Bytes) (tot : Nat) (h : tot < s.length) :
    1 ≤ (Parser.detectUnit (s.drop tot)).consumed ∧ tot + (Parser.detectUnit (s.drop tot)).consumed ≤ s.length := by
  have hle := detect_consumed_le (s.drop tot)
  rw [List.length_drop] at hle
  refine ⟨detect_consumed_pos _ ?_, by omega⟩
  intro he
  have := congrArg List.length he
  rw [List.length_drop, List.length_nil] at this
  omega

theorem scanFrom_cases {fuel : Nat} {s : Bytes} {tot k f : Nat} (h : scanFrom (fuel + 1) s tot = some (k, f)) :
    ((Parser.detectUnit (s.drop tot)).term = .nl ∧ k = tot + (Parser.detectUnit (s.drop tot)).consumed ∧ f = fuel) ∨
    ((Parser.detectUnit (s.drop tot)).term ≠ .nl ∧
      ¬ ((Parser.detectUnit (s.drop tot)).header.type == .unknown ∧ (Parser.detectUnit (s.drop tot)).term == .none) ∧
      tot + (Parser.detectUnit (s.drop tot)).consumed < s.length ∧
      scanFrom fuel s (tot + (Parser.detectUnit (s.drop tot)).consumed) = some (k, f)) := by
  rw [scanFrom_succ] at h
  by_cases hnl : (Parser.detectUnit (s.drop tot)).term = .nl
  · rw [if_pos (by rw [hnl]; rfl)] at h
    cases h
    exact Or.inl ⟨hnl, rfl, rfl⟩
  · rw [if_neg (by simpa using hnl)] at h
    split at h
    · cases h
    · split at h
      · cases h
      · exact Or.inr ⟨hnl, by assumption, by omega, h⟩

theorem scanFrom_some : ∀ (fuel : Nat) (s : Bytes) (tot k f : Nat), scanFrom fuel s tot = some (k, f) →
    tot < k ∧ k ≤ s.length ∧ fuel ≤ f + (k - tot) ∧ f < fuel := by
  intro fuel
  induction fuel with
  | zero => intro s tot k f h; cases h
  | succ fuel ih =>
    intro s tot k f h
    rcases scanFrom_cases h with ⟨hnl, rfl, rfl⟩ | ⟨_, _, hlt, h'⟩
    · have hlen : tot < s.length := by
        apply Classical.byContradiction
        intro hn
        rw [List.drop_of_length_le (by omega), detect_nil.1] at hnl
        cases hnl
      have := detect_drop s tot hlen
      omega
    · have := detect_drop s tot (by omega)
      have := ih s _ k f h'
      omega

theorem scanFrom_fuel : ∀ (f1 f2 : Nat) (s : Bytes) (tot : Nat), s.length - tot < f1 → s.length - tot < f2 →
    (scanFrom f1 s tot).map (·.1) = (scanFrom f2 s tot).map (·.1) := by
  intro f1
  induction f1 with
  | zero => intro f2 s tot h; omega
  | succ f1 ih =>
    intro f2 s tot h1 h2
    cases f2 with
    | zero => omega
    | succ f2 =>
      rw [scanFrom_succ, scanFrom_succ]
      split
      · rfl
      · split
        · rfl
        · split
          · rfl
          · have := detect_drop s tot (by omega)
            exact ih f2 s _ (by omega) (by omega)

theorem scan_of_scanFrom (fuel : Nat) (s : Bytes) (h : s.length < fuel) :
    (scanFrom fuel s 0).map (·.1) = scan s :=
  scanFrom_fuel fuel (s.length + 1) s 0 (by omega) (by omega)

theorem scan_exists {s : Bytes} {k : Nat} (fuel : Nat) (hf : s.length < fuel) (h : scan s = some k) :
    ∃ f, scanFrom fuel s 0 = some (k, f) := by
  have := scan_of_scanFrom fuel s hf
  rw [h] at this
  cases hs : scanFrom fuel s 0 with
  | none => rw [hs] at this; cases this
  | some p =>
    rw [hs] at this
    cases this
    exact ⟨p.2, rfl⟩

theorem scan_some {s : Bytes} {k : Nat} (h : scan s = some k) : 0 < k ∧ k ≤ s.length := by
  obtain ⟨f, hf⟩ := scan_exists (s.length + 1) (Nat.lt_succ_self _) h
  obtain ⟨a, b, _, _⟩ := scanFrom_some _ _ _ _ _ hf
  exact ⟨by omega, b⟩

end ScpiVerif.Lemmas.Chunking
