/-
The link between the program data of a unit and what SCPI_ParamInt32 delivers, for the simplest data there is: a
string of decimal digits (`paramInt_digits`).  Used by Props/Instrument.lean to state the `*ESE n` / `*ESE?` round trips on
the bytes of the program data instead of on the reader's result.  The declarations are in the namespace of
Lemmas/Instrument.lean.
-/
import ScpiVerif.Lemmas.Instrument
import ScpiVerif.Lemmas.Numeric


namespace ScpiVerif.Lemmas.Instrument
open ScpiVerif ScpiVerif.Ctx ScpiVerif.Lexer ScpiVerif.Spec ScpiVerif.Props.Instrument

theorem decimalTotal_digits (d : UInt8) (l : Bytes) (hd : isDigit d = true) (hl : l.all isDigit = true) :
    Lemmas.Lexer.decimalTotal (d :: l) = l.length + 1 := by
  have htw : Lemmas.Lexer.tw isDigit (d :: l) = l.length + 1 := by
    simpa using Lemmas.Lexer.tw_all_append (p := isDigit) (ds := d :: l) (rest := []) (by simpa [hd] using hl) rfl
  have hsg : isPlusMn d = false := by
    cases h : isPlusMn d
    · rfl
    · rw [Lemmas.Lexer.decimal_sign_not_digit d h] at hd; cases hd
  simp [Lemmas.Lexer.decimalTotal, Lemmas.Lexer.decimalMant, Lemmas.Lexer.decimalExp, hsg, htw]

theorem digits_specData (d : UInt8) (l : Bytes) (hd : isDigit d = true) (hl : l.all isDigit = true) :
    Spec.specData (d :: l) = .item (l.length + 1) .decimal 0 (l.length + 1) ∧ Spec.wsLen (d :: l) = 0 := by
  have hT := decimalTotal_digits d l hd hl
  have hdrop : (d :: l).drop (l.length + 1) = [] := List.drop_of_length_le (Nat.le_refl _)
  have := Lemmas.Lexer.specData_decimal (s := d :: l) (by omega) (by rw [hT, hdrop]; rfl) (by rw [hT, hdrop]; rfl)
  rw [hT] at this
  refine ⟨this, ?_⟩
  rw [Lemmas.Lexer.pdata_wsLen_eq_tw, Lemmas.Lexer.tw_cons, (ByteClass.digit_excl d hd).ws]
  rfl

/-- The program data of the unit is the digit string `ds` (nothing else, no white space), it denotes `v`, `v` fits
int32_t, and the byte behind the program data (message terminator, ';', NUL …) is not a further digit.  Then
SCPI_ParamInt32(context, &v, TRUE) succeeds with `v`, and no program data is left.  (`hcnt`, `hpos`: as the unit loop and
`processCommand` leave the parameter count and cursor, i.e. in `unitStart`.) -/
theorem paramInt_digits (c : Ctx) (ds : Bytes) (v : Int) (hne : ds ≠ []) (hdig : ds.all isDigit = true)
    (hv : Spec.Params.intLiteral ds = some v) (hr : -(2^31 : Int) ≤ v ∧ v < 2^31)
    (hcnt : c.inputCount = 0) (hpos : c.ppos = c.pbase) (hlen : c.plen = ds.length)
    (hwin : (c.buf.drop c.pbase).take c.plen = ds) (hw : c.pbase + c.plen ≤ c.buf.length)
    (hnext : ∀ b, (c.buf.drop (c.pbase + c.plen)).head? = some b → ¬ (48 ≤ b ∧ b ≤ 57)) :
    ∃ cP, paramInt c 32 true true = (cP, true, v) ∧ ¬ cP.ppos < cP.pbase + cP.plen := by
  obtain ⟨d, l, rfl⟩ : ∃ d l, ds = d :: l := by
    cases ds with
    | nil => exact absurd rfl hne
    | cons d l => exact ⟨d, l, rfl⟩
  simp only [List.all_cons, Bool.and_eq_true] at hdig
  obtain ⟨sd, sw⟩ := digits_specData d l hdig.1 hdig.2
  have hlen' : c.plen = l.length + 1 := by simpa using hlen
  have hat : ¬ atEnd c := by unfold atEnd; omega
  have key := Lemmas.Params.parameter_delivers_next_item c true hat hw (by omega)
  have hfr := @parameter_ok c true
  dsimp only at key
  rw [hwin, hcnt, hpos, Nat.sub_self] at key
  have hdrop : (d :: l).drop (l.length + 1) = [] := List.drop_of_length_le (Nat.le_refl _)
  have hws0 : Spec.wsLen ([] : Bytes) = 0 := by decide
  simp only [ne_eq, not_true_eq_false, false_and, if_false, List.drop_zero, sw, Nat.add_zero, sd, hdrop, hws0,
    Nat.zero_add] at key
  unfold paramInt
  generalize parameter c true = x at key hfr ⊢
  obtain ⟨c1, ok, tok⟩ := x
  dsimp only at key hfr ⊢
  obtain ⟨kok, ktok, kppos, _⟩ := key
  subst kok
  obtain rfl := hfr rfl
  have fpb : (Lemmas.Params.pnext c).pbase = c.pbase := rfl
  have fpl : (Lemmas.Params.pnext c).plen = c.plen := rfl
  have hnum : isNumber tok false = true := by rw [ktok]; rfl
  have hp2i : paramToInt (Lemmas.Params.pnext c) tok 32 true = (true, v) := by
    have hs' : Prim.strtolTo 32 (Lemmas.Params.pnext c).buf c.pbase 10 = (l.length + 1, v) := by
      show Prim.strtolTo 32 c.buf c.pbase 10 = _
      have := Lemmas.Numeric.integer_exact_signed 32 (Or.inl rfl) c.buf c.pbase (d :: l) v hv
        (by rw [← hlen]; exact hwin) (by rw [← hlen]; exact hnext) hr
      simpa using this
    unfold paramToInt
    rw [ktok]
    simp only [↓reduceIte, hs']
    simp
  simp only [Bool.not_true, Bool.false_eq_true, if_false, hnum, if_true, hp2i]
  refine ⟨_, rfl, ?_⟩
  rw [kppos, fpb, fpl, hlen']
  omega

end ScpiVerif.Lemmas.Instrument
