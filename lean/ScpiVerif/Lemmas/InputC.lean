/-
Refinement of the hand-written model of SCPI_Input (Model/Ctx.lean: `Ctx.input`, `inputLoop`, `poke`) by the definition GENERATED
from libscpi/src/parser.c on every run (Gen/InputC.lean): `input_spec`.  The three parameters of the generated function for the
library functions it calls (scpiParser_detectProgramMessageUnit, SCPI_Parse, SCPI_ErrorPush) are instantiated with the hand
model's, transported to the generated state `CCtx Ctx` (whose opaque component `rest` is the whole hand-model context).  The side
conditions of the `Int` model of the C arithmetic - no `wrapU64` / `wrapS32` wraps, every CHECK passes (`ub = false`: the NUL
stores, memcpy and memmove stay inside the buffer, `buffer_free - 1` does not overflow), the emitted fuel suffices (`outOfFuel =
false`) - are proved from the invariant `Inv` (`WF c` and `bufLen ≤ INT_MAX`).  Only `loop1_succ` and the equations `hX` of the
three paths of SCPI_Input look at the generated text; the hand-model side of each is an equation of Lemmas/Stages.lean.
-/
import ScpiVerif.Gen.InputC
import ScpiVerif.Model.Ctx
import ScpiVerif.Lemmas.Bounds
import ScpiVerif.Lemmas.ChunkingDefs

/- The simp sets also name what only other spellings of the same C text need (the lemmas are named where they stand:
tools/c2lean_parser_experiments.py). -/
set_option linter.unusedSimpArgs false
namespace ScpiVerif.Lemmas.InputC
open ScpiVerif ScpiVerif.Gen.InputC ScpiVerif.Ctx
open ScpiVerif.Lexer (Bytes)

abbrev CC := CCtx Ctx

def toM (cc : CC) : Ctx :=
  { cc.rest with buf := cc.buffer_data, position := cc.buffer_position.toNat, bufLen := cc.buffer_length.toNat }

/-- `t`, `ht`: whatever parser_state holds from earlier calls -/
def toC (c : Ctx) (t ht : Int) : CC :=
  { buffer_data := c.buf, buffer_position := c.position, buffer_length := c.bufLen, parser_state_termination := t,
    parser_state_programHeader_type := ht, ub := false, outOfFuel := false, rest := c }

def fromM (m : Ctx) (cc : CC) : CC :=
  { cc with buffer_data := m.buf, buffer_position := m.position, buffer_length := m.bufLen, rest := m }

theorem toM_fromM (m : Ctx) (cc : CC) : toM (fromM m cc) = m := by
  cases m; simp [toM, fromM]

theorem toM_toC (c : Ctx) (t ht : Int) : toM (toC c t ht) = c := by
  cases c; simp [toM, toC]

def termCode (t : Parser.Termination) : Int := (t.code : Int)
def typeCode (t : Lexer.TokType) : Int := (t.code : Int)

/-- the enum constants clang computed from the current source agree with the hand model's codes -/
theorem termCode_nl (t : Parser.Termination) : (termCode t == SCPI_MESSAGE_TERMINATION_NL) = (t == .nl) := by
  cases t <;> decide
theorem termCode_none (t : Parser.Termination) : (termCode t == SCPI_MESSAGE_TERMINATION_NONE) = (t == .none) := by
  cases t <;> decide
theorem typeCode_unknown (t : Lexer.TokType) : (typeCode t == SCPI_TOKEN_UNKNOWN) = (t == .unknown) := by
  cases t <;> decide

/-- scpiParser_detectProgramMessageUnit(&context->parser_state, buffer.data + off, len): reads the window, sets parser_state -/
def detectM (cc : CC) (off len : Int) : CC × Int :=
  let u := Parser.detectUnit ((cc.buffer_data.drop off.toNat).take len.toNat)
  ({ cc with parser_state_termination := termCode u.term, parser_state_programHeader_type := typeCode u.header.type }, u.consumed)

/-- SCPI_Parse(context, buffer.data + off, len) -/
def parseM (cc : CC) (off len : Int) : CC × Bool :=
  let r := Ctx.parse (toM cc) off.toNat len.toNat
  (fromM r.1 cc, r.2)

/-- SCPI_ErrorPush(context, code) -/
def pushM (cc : CC) (code : Int) : CC := fromM (Ctx.pushError (toM cc) code none) cc

theorem wrapU64_of_range (x : Int) (h0 : 0 ≤ x) (h1 : x ≤ 18446744073709551615) : wrapU64 x = x := by
  unfold wrapU64; omega
theorem wrapS32_of_range (x : Int) (h0 : -2147483648 ≤ x) (h1 : x ≤ 2147483647) : wrapS32 x = x := by
  unfold wrapS32; omega

theorem natCast_toNat_of_nonneg (x : Int) (h : 0 ≤ x) : ((x.toNat : Nat) : Int) = x := Int.toNat_of_nonneg h

theorem chk_eq {ρ : Type} (c : CCtx ρ) (ok : Bool) : c.chk ok = { c with ub := c.ub || !ok } := by
  cases ok <;> cases c <;> simp [CCtx.chk]

theorem bwrite_eq_poke (b : Bytes) (off : Int) (src : Bytes) (h : off.toNat + src.length ≤ b.length) :
    bwrite b off src = poke b off.toNat src := by
  rw [Bounds.poke_eq b off.toNat src h]; rfl

theorem bslice_eq (b : Bytes) (off n : Int) : bslice b off n = (b.drop off.toNat).take n.toNat := rfl

section proj
variable (cc : CC) (off len : Int)

@[simp] theorem detectM_snd : (detectM cc off len).2 =
    ((Parser.detectUnit ((cc.buffer_data.drop off.toNat).take len.toNat)).consumed : Int) := rfl
@[simp] theorem detectM_data : (detectM cc off len).1.buffer_data = cc.buffer_data := rfl
@[simp] theorem detectM_pos : (detectM cc off len).1.buffer_position = cc.buffer_position := rfl
@[simp] theorem detectM_len : (detectM cc off len).1.buffer_length = cc.buffer_length := rfl
@[simp] theorem detectM_ub : (detectM cc off len).1.ub = cc.ub := rfl
@[simp] theorem detectM_oof : (detectM cc off len).1.outOfFuel = cc.outOfFuel := rfl
@[simp] theorem detectM_rest : (detectM cc off len).1.rest = cc.rest := rfl
@[simp] theorem detectM_term : (detectM cc off len).1.parser_state_termination =
    termCode (Parser.detectUnit ((cc.buffer_data.drop off.toNat).take len.toNat)).term := rfl
@[simp] theorem detectM_type : (detectM cc off len).1.parser_state_programHeader_type =
    typeCode (Parser.detectUnit ((cc.buffer_data.drop off.toNat).take len.toNat)).header.type := rfl
@[simp] theorem detectM_toM : toM (detectM cc off len).1 = toM cc := rfl

@[simp] theorem parseM_snd : (parseM cc off len).2 = (Ctx.parse (toM cc) off.toNat len.toNat).2 := by simp only [parseM, fromM]
@[simp] theorem parseM_pos : (parseM cc off len).1.buffer_position = ((Ctx.parse (toM cc) off.toNat len.toNat).1.position : Int) := by simp only [parseM, fromM]
@[simp] theorem parseM_toM : toM (parseM cc off len).1 = (Ctx.parse (toM cc) off.toNat len.toNat).1 := toM_fromM _ _

@[simp] theorem pushM_data (code : Int) : (pushM cc code).buffer_data = (Ctx.pushError (toM cc) code none).buf := by simp only [pushM, fromM]
@[simp] theorem pushM_toM (code : Int) : toM (pushM cc code) = Ctx.pushError (toM cc) code none := toM_fromM _ _

@[simp] theorem toM_buf : (toM cc).buf = cc.buffer_data := rfl
@[simp] theorem toM_position : (toM cc).position = cc.buffer_position.toNat := rfl
@[simp] theorem toM_bufLen : (toM cc).bufLen = cc.buffer_length.toNat := rfl
@[simp] theorem toM_oob : (toM cc).oob = cc.rest.oob := rfl
@[simp] theorem toM_events : (toM cc).events = cc.rest.events := rfl

theorem toM_upd (d : Bytes) (p : Int) :
    toM { cc with buffer_data := d, buffer_position := p } = { toM cc with buf := d, position := p.toNat } := rfl
theorem toM_upd_pos (p : Int) : toM { cc with buffer_position := p } = { toM cc with position := p.toNat } := rfl
theorem toM_upd_ub (b : Bool) : toM { cc with ub := b } = toM cc := rfl
theorem toM_upd_oof (b : Bool) : toM { cc with outOfFuel := b } = toM cc := rfl

variable {ρ : Type} (c : CCtx ρ) (b : Bool)
@[simp] theorem chk_data : (c.chk b).buffer_data = c.buffer_data := by cases b <;> rfl
@[simp] theorem chk_pos : (c.chk b).buffer_position = c.buffer_position := by cases b <;> rfl
end proj

/-- what the loop keeps: no failed CHECK, fuel left, the C ranges of the fields, a well-formed hand-model view -/
structure Inv (cc : CC) : Prop where
  ub : cc.ub = false
  oof : cc.outOfFuel = false
  pos0 : 0 ≤ cc.buffer_position
  len0 : 0 ≤ cc.buffer_length
  lenmax : cc.buffer_length ≤ 2147483647
  wf : WF (toM cc)

theorem Inv.range {cc : CC} (h : Inv cc) :
    0 ≤ cc.buffer_position ∧ cc.buffer_position < cc.buffer_length ∧ cc.buffer_length ≤ 2147483647 ∧
    (cc.buffer_data.length : Int) = cc.buffer_length := by
  have h1 : cc.buffer_data.length = cc.buffer_length.toNat := h.wf.1
  have h2 : cc.buffer_position.toNat < cc.buffer_length.toNat := h.wf.2.1
  have := h.pos0
  have := h.lenmax
  omega

theorem Inv.upd {cc : CC} (h : Inv cc) {d : Bytes} {p : Int} (hd : d.length = cc.buffer_data.length) (h0 : 0 ≤ p)
    (h1 : p < cc.buffer_length) : Inv { cc with buffer_data := d, buffer_position := p } :=
  ⟨h.ub, h.oof, h0, h.len0, h.lenmax, hd.trans h.wf.1, (Int.toNat_lt_toNat (Int.lt_of_le_of_lt h0 h1)).mpr h1, h.wf.2.2⟩

theorem inv_toC (c : Ctx) (t ht : Int) (h : WF c) (hl : c.bufLen ≤ 2147483647) : Inv (toC c t ht) :=
  ⟨rfl, rfl, Int.natCast_nonneg _, Int.natCast_nonneg _, by show (c.bufLen : Int) ≤ _; omega, by rw [toM_toC]; exact h⟩

theorem inv_detect {cc : CC} (h : Inv cc) (a b : Int) : Inv (detectM cc a b).1 :=
  ⟨h.ub, h.oof, h.pos0, h.len0, h.lenmax, h.wf⟩

theorem inv_fromM {cc : CC} (hi : Inv cc) {m : Ctx} (hw : WF m) (hl : m.bufLen = cc.buffer_length.toNat) : Inv (fromM m cc) := by
  refine ⟨hi.ub, hi.oof, Int.natCast_nonneg _, Int.natCast_nonneg _, ?_, by rw [toM_fromM]; exact hw⟩
  have := hi.lenmax
  show (m.bufLen : Int) ≤ _
  omega

theorem parseM_spec {cc : CC} (hi : Inv cc) {k : Int} (hk : k ≤ cc.buffer_position) :
    Inv (parseM cc 0 k).1 ∧ (parseM cc 0 k).1.buffer_position = cc.buffer_position := by
  obtain ⟨h0, h1, _, h3⟩ := hi.range
  obtain ⟨w1, w2, w3⟩ := hi.wf
  obtain ⟨p1, ⟨p2, _⟩, p3, p4⟩ := Bounds.parse_frame (toM cc) (Int.toNat 0) k.toNat
    (by show 0 + k.toNat ≤ cc.buffer_data.length; omega)
  refine ⟨inv_fromM hi ⟨p2.trans (w1.trans p3.symm), by rw [p3, p4]; exact w2, p1.trans w3⟩ p3, ?_⟩
  rw [parseM_pos, p4]
  exact natCast_toNat_of_nonneg _ h0

theorem inv_pushM {cc : CC} (hi : Inv cc) (code : Int) : Inv (pushM cc code) :=
  inv_fromM hi (by rw [Lemmas.Isolation.pushError_eq]; exact hi.wf) (by rw [Lemmas.Isolation.pushError_eq]; rfl)

/-! ### running the generated text

From a state `Inv` describes the generated functions are run by `simp`: every CHECK is discharged by `omega` from `Inv.range`
(`chk_of`), no conversion wraps (`wrapU64_of_range`, `wrapS32_of_range`), memcpy / memmove are the hand model's `poke`.  What is
left are plain updates of the state, whatever spelling the C text has for a test or an index. -/

theorem chk_of {ρ : Type} (c : CCtx ρ) {p : Prop} [Decidable p] (h : p) : c.chk (decide p) = c := by
  rw [decide_eq_true h]; rfl

theorem bwrite_window (b : Bytes) (k n : Nat) : bwrite b 0 ((b.drop k).take n) = poke b 0 ((b.drop k).take n) :=
  bwrite_eq_poke _ 0 _ (by simp only [Int.toNat_zero, List.length_take, List.length_drop]; omega)

theorem ite_or_same {α : Sort _} (p q : Prop) [Decidable p] [Decidable q] (x y : α) :
    (if p ∨ q then x else y) = if p then x else if q then x else y := by
  by_cases hp : p <;> by_cases hq : q <;> simp only [hp, hq, or_self, or_true, true_or, if_true, if_false]

theorem detect_window (b : Bytes) (t p : Nat) (hp : p ≤ b.length) {u : Parser.Unit}
    (hu : Parser.detectUnit ((b.drop t).take (p - t)) = u) :
    u.consumed ≤ p - t ∧ (t < p → 1 ≤ u.consumed) ∧ (u.term = .nl → t < p) := by
  have hl : ((b.drop t).take (p - t)).length = p - t := by
    rw [List.length_take, List.length_drop]; omega
  subst hu
  have hc := Lemmas.Lexer.detect_consumed_le ((b.drop t).take (p - t))
  rw [hl] at hc
  refine ⟨hc, fun h => Lemmas.Lexer.detect_consumed_pos _ ?_, fun h => ?_⟩
  · intro he; rw [he] at hl; simp only [List.length_nil] at hl; omega
  · refine Nat.lt_of_not_le fun hle => ?_
    rw [Nat.sub_eq_zero_of_le hle, List.take_zero, Chunking.detect_nil.1] at h
    cases h

/-- `memmove(context->buffer.data, context->buffer.data + k, context->buffer.position - k); context->buffer.position -= k;`
where its CHECK passes and nothing wraps: the hand model's `poke` (`Chunking.step`) -/
def shift (c : CC) (k : Int) : CC :=
  { c with buffer_data := poke c.buffer_data 0 ((c.buffer_data.drop k.toNat).take (c.buffer_position.toNat - k.toNat)),
           buffer_position := c.buffer_position - k }

theorem toM_shift (c : CC) {k : Int} (h0 : 0 ≤ c.buffer_position) (hk : 0 ≤ k) : toM (shift c k) =
    { toM c with buf := poke (toM c).buf 0 (((toM c).buf.drop k.toNat).take ((toM c).position - k.toNat)),
                 position := (toM c).position - k.toNat } := by
  rw [shift, toM_upd, Int.toNat_sub'' h0 hk]; rfl

theorem inv_shift {c : CC} (hi : Inv c) {k : Int} (hk0 : 0 ≤ k) (hk : k ≤ c.buffer_position) : Inv (shift c k) :=
  hi.upd (Bounds.poke_length _ _ _) (Int.sub_nonneg_of_le hk) (by have := hi.range.2.1; omega)

/-- one iteration of the generated loop: the tests are those of `inputLoop` (`Chunking.inputLoop_succ`); after a complete message
the remainder is moved to the front -/
theorem loop1_succ (fuel : Nat) (cc : CC) (res : Bool) (tot cmdlen : Int) (hi : Inv cc) (h0 : 0 ≤ tot) (h1 : tot ≤ cc.buffer_position)
    {u : Parser.Unit} (hu : Parser.detectUnit ((cc.buffer_data.drop tot.toNat).take (cc.buffer_position.toNat - tot.toNat)) = u) :
    SCPI_Input_loop1 detectM parseM pushM (fuel + 1) cc res tot cmdlen =
      if u.term == .nl then
        SCPI_Input_loop1 detectM parseM pushM fuel
          (shift (parseM (detectM cc tot (cc.buffer_position - tot)).1 0 (tot + u.consumed)).1 (tot + u.consumed))
          (Ctx.parse (toM cc) 0 (tot.toNat + u.consumed)).2 0 u.consumed
      else if u.header.type == .unknown ∧ u.term == .none then
        ((detectM cc tot (cc.buffer_position - tot)).1, res, tot + u.consumed, u.consumed)
      else if tot.toNat + u.consumed ≥ cc.buffer_position.toNat then
        ((detectM cc tot (cc.buffer_position - tot)).1, res, tot + u.consumed, u.consumed)
      else SCPI_Input_loop1 detectM parseM pushM fuel (detectM cc tot (cc.buffer_position - tot)).1 res (tot + u.consumed) u.consumed := by
  obtain ⟨hp0, hp1, hl, hd⟩ := hi.range
  have hc : tot + (u.consumed : Int) ≤ cc.buffer_position := by
    have := (detect_window cc.buffer_data tot.toNat cc.buffer_position.toNat (by omega) hu).1
    omega
  obtain ⟨hi2, hp2⟩ := parseM_spec (inv_detect hi tot (cc.buffer_position - tot)) (k := tot + u.consumed) hc
  obtain ⟨hq0, hq1, _, hq3⟩ := hi2.range
  rw [detectM_pos] at hp2
  have e4 : decide (tot + (u.consumed : Int) ≥ cc.buffer_position) = decide (tot.toNat + u.consumed ≥ cc.buffer_position.toNat) :=
    decide_eq_decide.mpr (by rw [ge_iff_le, ge_iff_le, Int.toNat_le, Int.natCast_add, Int.toNat_of_nonneg h0])
  -- `Bool.or_eq_true` and `ite_or_same` are for a C text that has the two `break` tests in one `if (a || b)`: the present one
  -- nests them and does not use the two lemmas
  simp (disch := omega) only [SCPI_Input_loop1, shift, detectM_snd, detectM_term, detectM_type, detectM_pos, detectM_toM, hu, e4,
    wrapU64_of_range, wrapS32_of_range, chk_of, termCode_nl, termCode_none, typeCode_unknown, parseM_snd, bslice_eq, Int.toNat_sub'',
    Int.toNat_add_nat, bwrite_window, Int.toNat_zero, Bool.and_eq_true, Bool.or_eq_true, decide_eq_true_eq, ite_or_same]

theorem fuel_step {a b : Int} {n fuel : Nat} (h : (a - b).toNat < fuel + 1) (hle : b + n ≤ a) (hn : 1 ≤ n) :
    (a - (b + n)).toNat < fuel := by omega

theorem loop_refines : ∀ (fuel : Nat) (cc : CC) (res : Bool) (tot cmdlen : Int), Inv cc → 0 ≤ tot → tot ≤ cc.buffer_position →
    (cc.buffer_position - tot).toNat < fuel →
    (toM (SCPI_Input_loop1 detectM parseM pushM fuel cc res tot cmdlen).1,
      (SCPI_Input_loop1 detectM parseM pushM fuel cc res tot cmdlen).2.1) = inputLoop fuel (toM cc) tot.toNat res ∧
    Inv (SCPI_Input_loop1 detectM parseM pushM fuel cc res tot cmdlen).1 := by
  intro fuel
  induction fuel with
  | zero => intro cc res tot cmdlen _ _ _ hf; omega
  | succ fuel ih =>
    intro cc res tot cmdlen hi h0 h1 hf
    generalize hu : Parser.detectUnit ((cc.buffer_data.drop tot.toNat).take (cc.buffer_position.toNat - tot.toNat)) = u
    obtain ⟨hc, hc1, hnl⟩ := detect_window cc.buffer_data tot.toNat cc.buffer_position.toNat
      (Nat.le_of_lt (hi.wf.1.symm ▸ hi.wf.2.1)) hu
    have hle : tot + (u.consumed : Int) ≤ cc.buffer_position := by have := hi.pos0; omega
    have hk0 : 0 ≤ tot + (u.consumed : Int) := Int.add_nonneg h0 (Int.natCast_nonneg _)
    have hiD := inv_detect hi tot (cc.buffer_position - tot)
    rw [loop1_succ fuel cc res tot cmdlen hi h0 h1 hu, Chunking.inputLoop_succ]
    simp only [toM_buf, toM_position, hu]
    split
    · -- a complete message: parse it, move the remainder to the front, start again
      next h =>
      obtain ⟨hi2, hp2⟩ := parseM_spec hiD (k := tot + u.consumed) hle
      rw [detectM_pos] at hp2
      have := ih _ (Ctx.parse (toM cc) 0 (tot.toNat + u.consumed)).2 0 u.consumed (inv_shift hi2 hk0 (by rw [hp2]; exact hle))
        (Int.le_refl 0) (by show 0 ≤ _ - (tot + (u.consumed : Int)); rw [hp2]; exact Int.sub_nonneg_of_le hle)
        (by show (_ - (tot + (u.consumed : Int)) - 0).toNat < fuel
            rw [hp2, Int.sub_zero]; exact fuel_step hf hle (hc1 (hnl (by simpa using h))))
      rw [toM_shift _ hi2.pos0 hk0, parseM_toM, detectM_toM, Int.toNat_add_nat h0, Int.toNat_zero] at this
      exact this
    · split
      · exact ⟨rfl, hiD⟩
      · split
        · exact ⟨rfl, hiD⟩
        · next h =>
          have := ih _ res (tot + u.consumed) u.consumed hiD hk0 hle
            (fuel_step hf hle (hc1 (Nat.lt_of_le_of_lt (Nat.le_add_right _ _) (Nat.lt_of_not_ge h))))
          rwa [detectM_toM, Int.toNat_add_nat h0] at this

/-- what a call of the generated SCPI_Input on `data` from `cc` has to return: the hand model's `Ctx.input` (which logs the return
value as an event) in a state `Inv` describes again - no CHECK failed, fuel was left -/
structure Refines (cc : CC) (data : Bytes) (R : CC × Bool) : Prop where
  eq : Ctx.input (toM cc) data = emit (toM R.1) (.input R.2)
  inv : Inv R.1

attribute [local irreducible] Ctx.parse in
/-- flush: a zero-length call terminates the pending bytes, parses them as one message and empties the buffer -/
theorem input_flush_spec (cc : CC) (hi : Inv cc) : Refines cc [] (SCPI_Input detectM parseM pushM cc (some []) 0) := by
  obtain ⟨h0, h1, h2, h3⟩ := hi.range
  have hi1 : Inv { cc with buffer_data := cc.buffer_data.set cc.buffer_position.toNat 0 } :=
    hi.upd (p := cc.buffer_position) List.length_set h0 h1
  have hi2 := (parseM_spec hi1 (k := cc.buffer_position) (Int.le_refl _)).1
  have hX : SCPI_Input detectM parseM pushM cc (some []) 0 =
      ({ (parseM { cc with buffer_data := cc.buffer_data.set cc.buffer_position.toNat 0 } 0 cc.buffer_position).1 with buffer_position := 0 },
        (parseM { cc with buffer_data := cc.buffer_data.set cc.buffer_position.toNat 0 } 0 cc.buffer_position).2) := by
    simp (disch := omega) only [SCPI_Input, beq_self_eq_true, if_true, chk_of, wrapS32_of_range]
  rw [hX]
  refine ⟨?_, hi2.upd rfl (Int.le_refl 0) (Int.lt_of_le_of_lt hi2.pos0 hi2.range.2.1)⟩
  show _ = emit (toM { (parseM _ 0 cc.buffer_position).1 with buffer_position := 0 }) _
  rw [toM_upd_pos (parseM _ 0 cc.buffer_position).1 0, parseM_toM, parseM_snd]
  rfl

theorem chunk_nonempty {data : Bytes} (hd : data ≠ []) : ((data.length : Int) == 0) = false := by
  have : data.length ≠ 0 := fun h => hd (List.length_eq_zero_iff.mp h)
  simp [this]

/-- overrun: nothing is copied, the buffer is invalidated, -363 is pushed, FALSE is returned.  `_hlen`: the chunk length is a C `int`
(needed once the test converts `len` to `size_t`) -/
theorem input_overrun_spec (cc : CC) (hi : Inv cc) (data : Bytes) (hd : data ≠ [])
    (_hlen : data.length ≤ 2147483647) (hov : data.length + 1 > (toM cc).bufLen - (toM cc).position) :
    Refines cc data (SCPI_Input detectM parseM pushM cc (some data) data.length) ∧
    (SCPI_Input detectM parseM pushM cc (some data) data.length).2 = false := by
  obtain ⟨h0, h1, h2, h3⟩ := hi.range
  have hov' : (data.length : Int) + 1 > cc.buffer_length - cc.buffer_position := by
    simp only [toM_bufLen, toM_position] at hov; omega
  have hX : SCPI_Input detectM parseM pushM cc (some data) data.length =
      (pushM { cc with buffer_data := cc.buffer_data.set 0 0, buffer_position := 0 } SCPI_ERROR_INPUT_BUFFER_OVERRUN, false) := by
    simp only [SCPI_Input, chunk_nonempty hd, Bool.false_eq_true, if_false]
    split
    · -- `Int.zero_add`: for an index spelt `buf + position`
      simp (disch := omega) only [wrapU64_of_range, wrapS32_of_range, chk_of, Int.zero_add, Int.toNat_zero]
    · next hno =>
      exfalso
      simp (disch := omega) only [wrapU64_of_range, wrapS32_of_range, decide_eq_true_eq] at hno
      omega
  rw [hX]
  refine ⟨⟨?_, inv_pushM (hi.upd List.length_set (Int.le_refl 0) (by omega)) _⟩, rfl⟩
  rw [Chunking.input_overrun hd hov, pushM_toM]
  rfl

/-- `memcpy(&context->buffer.data[context->buffer.position], data, len); context->buffer.position += len;
context->buffer.data[context->buffer.position] = 0;` where the CHECKs pass and nothing wraps -/
def store (c : CC) (data : Bytes) : CC :=
  { c with buffer_data := (poke c.buffer_data c.buffer_position.toNat data).set (c.buffer_position.toNat + data.length) 0,
           buffer_position := c.buffer_position + data.length }

attribute [local irreducible] Ctx.parse Parser.detectUnit inputLoop SCPI_Input_loop1 in
/-- the chunk fits: it is copied behind the pending bytes, terminated, and the scan loop runs -/
theorem input_fits_spec (cc : CC) (hi : Inv cc) (data : Bytes) (hd : data ≠ [])
    (hov : ¬ data.length + 1 > (toM cc).bufLen - (toM cc).position) :
    Refines cc data (SCPI_Input detectM parseM pushM cc (some data) data.length) := by
  obtain ⟨h0, h1, h2, h3⟩ := hi.range
  have hov' : (data.length : Int) + 1 ≤ cc.buffer_length - cc.buffer_position := by
    simp only [toM_bufLen, toM_position] at hov; omega
  have hn : (cc.buffer_position + (data.length : Int)).toNat = cc.buffer_position.toNat + data.length := Int.toNat_add_nat h0 _
  have hX : SCPI_Input detectM parseM pushM cc (some data) data.length =
      ((SCPI_Input_loop1 detectM parseM pushM (cc.buffer_position + data.length + 2).toNat (store cc data) true 0 0).1,
       (SCPI_Input_loop1 detectM parseM pushM (cc.buffer_position + data.length + 2).toNat (store cc data) true 0 0).2.1) := by
    simp only [SCPI_Input, chunk_nonempty hd, Bool.false_eq_true, if_false]
    split
    · next hno =>
      exfalso
      simp (disch := omega) only [wrapU64_of_range, wrapS32_of_range, decide_eq_true_eq] at hno
      omega
    · simp (disch := omega) only [store, wrapU64_of_range, wrapS32_of_range, chk_of, Option.isSome_some, Option.getD_some, Bool.true_and,
        bslice_eq, Int.toNat_zero, List.drop_zero, Int.toNat_natCast, List.take_length, bwrite_eq_poke, Bounds.poke_length, hn]
  have hL := loop_refines (cc.buffer_position + data.length + 2).toNat (store cc data) true 0 0
    (hi.upd (List.length_set.trans (Bounds.poke_length _ _ _)) (by omega) (by omega)) (Int.le_refl 0)
    (by show (0 : Int) ≤ cc.buffer_position + data.length; omega)
    (by show (cc.buffer_position + data.length - 0).toNat < _; omega)
  have hfu : (cc.buffer_position + data.length + 2).toNat = cc.buffer_position.toNat + data.length + 2 := by omega
  rw [store, toM_upd cc, hn, Int.toNat_zero, hfu] at hL
  rw [hX, hfu]
  refine ⟨?_, hL.2⟩
  rw [Chunking.input_fits hd hov, Chunking.store]
  simp only [toM_buf, toM_position]
  rw [← hL.1]
  rfl

/-- generated SCPI_Input = hand model `Ctx.input` for every state `Inv` describes and every chunk whose length is a C `int`, the
empty one (flush) and over-long ones included -/
theorem input_spec (cc : CC) (hi : Inv cc) (data : Bytes) (hlen : data.length ≤ 2147483647) :
    Refines cc data (SCPI_Input detectM parseM pushM cc (some data) data.length) := by
  by_cases hd : data = []
  · subst hd; exact input_flush_spec cc hi
  · by_cases hov : data.length + 1 > (toM cc).bufLen - (toM cc).position
    · exact (input_overrun_spec cc hi data hd hlen hov).1
    · exact input_fits_spec cc hi data hd hov

/-- one call of the generated SCPI_Input as the hand model counts it: the caller appends the return value to the ghost log -/
def cstep (cc : CC) (d : Bytes) : CC :=
  let R := SCPI_Input detectM parseM pushM cc (some d) d.length
  fromM (emit (toM R.1) (.input R.2)) R.1

theorem cstep_refines (cc : CC) (hi : Inv cc) (d : Bytes) (hlen : d.length ≤ 2147483647) :
    toM (cstep cc d) = Ctx.input (toM cc) d ∧ Inv (cstep cc d) := by
  obtain ⟨hr, hI⟩ := input_spec cc hi d hlen
  exact ⟨by rw [hr]; exact toM_fromM _ _, inv_fromM hI hI.wf rfl⟩

/-- `memcpy(&context->buffer.data[context->buffer.position], data, len); context->buffer.position += len;` with the CHECK -/
def copyIn (cc : CC) (data : Option Bytes) (len : Int) : CC :=
  let c := cc.chk (data.isSome && decide (0 ≤ cc.buffer_position ∧ cc.buffer_position + (wrapU64 len) ≤ cc.buffer_data.length ∧ 0 ≤ 0 ∧ 0 + (wrapU64 len) ≤ (data.getD []).length))
  let c := { c with buffer_data := bwrite c.buffer_data c.buffer_position (bslice (data.getD []) 0 (wrapU64 len)) }
  { c with buffer_position := wrapU64 (c.buffer_position + (wrapU64 len)) }

@[simp] theorem copyIn_data (cc : CC) (data : Option Bytes) (len : Int) : (copyIn cc data len).buffer_data =
    bwrite cc.buffer_data cc.buffer_position (bslice (data.getD []) 0 (wrapU64 len)) := by
  unfold copyIn; simp only [chk_data, chk_pos]

end ScpiVerif.Lemmas.InputC
