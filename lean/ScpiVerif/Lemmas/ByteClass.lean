/-
The byte classes of the lexer (Model/Lexer.lean) and of the C library (`Prim.isSpace`) against each other.  What a digit,
a sign and a white-space byte are not is a finite table: one row per class, evaluated over the 256 bytes; a class given
by `||` is taken apart with `class_or`.  What is arithmetic (the range of a class) goes through the simp set `byte_nat`,
which turns classes and comparisons of bytes into bounds on `toNat` for `omega`.
-/
import ScpiVerif.Model.Prim
import ScpiVerif.Lemmas.ByteAttr
import ScpiVerif.Lemmas.ByteList

namespace ScpiVerif.Lemmas.ByteClass
open ScpiVerif ScpiVerif.Lexer

attribute [byte_nat] isWs isDigit isUpper isLower isAlpha Prim.isSpace
  Bool.and_eq_true Bool.or_eq_true Bool.or_eq_false_iff Bool.and_eq_false_iff beq_iff_eq beq_eq_false_iff_ne
  decide_eq_true_eq decide_eq_false_iff_not UInt8.le_iff_toNat_le UInt8.toNat_add ne_eq
attribute [byte_nat ←] UInt8.toNat_inj

theorem isDigit_iff (b : UInt8) : isDigit b = true ↔ 48 ≤ b ∧ b ≤ 57 := by simp [isDigit]

theorem isDigit_toNat {b : UInt8} (h : isDigit b = true) : 48 ≤ b.toNat ∧ b.toNat ≤ 57 := by
  simpa only [byte_nat, UInt8.reduceToNat] using h

structure DigitNot (b : UInt8) : Prop where
  alpha : isAlpha b = false
  ws : isWs b = false
  e : isE b = false
  space : Prim.isSpace b = false
  hash : (b == 35) = false
  x : (b == 120 || b == 88) = false

theorem digit_excl (b : UInt8) (h : isDigit b = true) : DigitNot b :=
  have row : ∀ b, isDigit b = true → isAlpha b = false ∧ isWs b = false ∧ isE b = false ∧ Prim.isSpace b = false ∧
      (b == 35) = false ∧ (b == 120 || b == 88) = false := ByteList.forall_byte (by decide +kernel)
  let ⟨h1, h2, h3, h4, h5, h6⟩ := row b h
  ⟨h1, h2, h3, h4, h5, h6⟩

structure SignNot (b : UInt8) : Prop where
  digit : isDigit b = false
  point : (b == 46) = false
  ws : isWs b = false
  alpha : isAlpha b = false
  space : Prim.isSpace b = false
  hash : (b == 35) = false

theorem sign_excl (b : UInt8) (h : isPlusMn b = true) : SignNot b :=
  have row : ∀ b, isPlusMn b = true → isDigit b = false ∧ (b == 46) = false ∧ isWs b = false ∧ isAlpha b = false ∧
      Prim.isSpace b = false ∧ (b == 35) = false := ByteList.forall_byte (by decide +kernel)
  let ⟨h1, h2, h3, h4, h5, h6⟩ := row b h
  ⟨h1, h2, h3, h4, h5, h6⟩

structure WsNot (b : UInt8) : Prop where
  e : isE b = false
  sign : isPlusMn b = false
  digit : isDigit b = false
  nul : b ≠ 0

theorem ws_excl (b : UInt8) (h : isWs b = true) : WsNot b :=
  have row : ∀ b, isWs b = true → isE b = false ∧ isPlusMn b = false ∧ isDigit b = false ∧ b ≠ 0 :=
    ByteList.forall_byte (by decide +kernel)
  let ⟨h1, h2, h3, h4⟩ := row b h
  ⟨h1, h2, h3, h4⟩

theorem class_or {p q : UInt8 → Bool} {P : UInt8 → Prop} (hp : ∀ b, p b = true → P b) (hq : ∀ b, q b = true → P b) :
    ∀ b, (p b || q b) = true → P b :=
  fun b h => (Bool.or_eq_true _ _ ▸ h).elim (hp b) (hq b)

structure NumNot (b : UInt8) : Prop where
  hash : (b == 35) = false
  alpha : isAlpha b = false
  ws : isWs b = false
  space : Prim.isSpace b = false

/-- the bytes a number starts with (sign, digit, point) start none of the alternatives `parseProgramData` tries before the
decimal (`#`, a letter), are no blank of the lexer and no white space of the C library: strtol / strtod started at a
number skip nothing -/
theorem num_excl : ∀ b, (isPlusMn b || isDigit b || b == 46) = true → NumNot b :=
  class_or (class_or (fun b h => have s := sign_excl b h; ⟨s.hash, s.alpha, s.ws, s.space⟩)
      (fun b h => have d := digit_excl b h; ⟨d.hash, d.alpha, d.ws, d.space⟩))
    (fun b h => by rw [eq_of_beq h]; exact ⟨rfl, rfl, rfl, rfl⟩)

theorem num_not_space : ∀ b, (isPlusMn b || isDigit b || b == 46) = true → Prim.isSpace b = false :=
  fun b h => (num_excl b h).space

end ScpiVerif.Lemmas.ByteClass
