/-
The unit detector in closed form: `detectUnit s = unitOf s` (`detect_eq`), where `unitOf` puts every field of the result together
from the token specification of the unit's parts (blanks, header, data list with its token, what ends the unit: `unitEnd`), also for
a unit that is not well formed, which C13's `unit_spec` leaves open.  `Spec.specUnit` is put together from the same parts:
`specUnit s = specOf (detectUnit s)` (`specUnit_detect`), of which `unit_spec` is a corollary.  The namespace is that of
Lemmas/Lexer.lean.
-/
import ScpiVerif.Lemmas.Lexer

namespace ScpiVerif.Lemmas.Lexer
open ScpiVerif ScpiVerif.Lexer ScpiVerif.Spec ScpiVerif.Parser

theorem le_afterWs (s : Bytes) (off : Nat) : off ≤ afterWs s off := Nat.le_add_right _ _

theorem specList_mono : ∀ (fuel : Nat) (s : Bytes) (off cnt : Nat), off ≤ s.length →
    off ≤ (unit_listRes (specList fuel s off cnt)).1 := by
  intro fuel
  induction fuel with
  | zero => intro s off cnt _; exact Nat.le_refl _
  | succ fuel ih =>
    intro s off cnt hoff
    have h1 := le_afterWs s off
    rw [specList_succ]
    split
    · rename_i n _ _ _ _
      have h2 := le_afterWs s (afterWs s off + n)
      split
      · rename_i hc
        have := ih s (afterWs s (afterWs s off + n) + 1) (cnt + 1) (unit_head_lt hc)
        omega
      · simp only [unit_listRes]; omega
    · exact hoff
    · split <;> exact h1

def uHdr (s : Bytes) : Nat × TokType := unit_hdr (specToken .header (s.drop (wsLen s)))
def uP1 (s : Bytes) : Nat := wsLen s + (uHdr s).1
def uW1 (s : Bytes) : Nat := wsLen (s.drop (uP1 s))
def uData (s : Bytes) : Nat × Int :=
  if uW1 s > 0 then unit_listRes (specList (s.length + 1) s (uP1 s + uW1 s) 0) else (uP1 s, 0)

/-- how a unit ends, `r` being what follows its data list: extent of the terminator (or of the byte that cannot
continue the unit), termination, well-formedness -/
def unitEnd (r : Bytes) : Nat × TermSpec × Bool :=
  if 0 < nlLen r then (nlLen r, .nl, true)
  else if r.head? == some 59 then (1, .semicolon, true)
  else if r.isEmpty then (0, .none, true)
  else (1, .none, false)

theorem uP1_le (s : Bytes) : uP1 s ≤ s.length := unit_hdr_le (unit_wsLen_le s)

theorem uW1_le (s : Bytes) : uP1 s + uW1 s ≤ s.length :=
  unit_ws_bound s (uP1 s) (uP1_le s)

theorem uData_ge (s : Bytes) : uP1 s + uW1 s ≤ (uData s).1 := by
  unfold uData
  split
  · exact specList_mono _ s _ 0 (uW1_le s)
  · rename_i h
    have : uW1 s = 0 := by omega
    simp [this]

def dataSpec (s : Bytes) : Token :=
  if uW1 s > 0 then { unit_listTok (uP1 s + uW1 s) (specList (s.length + 1) s (uP1 s + uW1 s) 0) with ptr := uP1 s + uW1 s }
  else mkTok .unknown (uP1 s) 0

def termOf : TermSpec → Termination
  | .nl => .nl | .semicolon => .semicolon | .none => .none

/-- a unit from its parts; `p`: end of the data list, `e`: how the unit ends there (`unitEnd`) -/
def mkUnit (hdr data : Token) (n : Int) (p : Nat) (e : Nat × TermSpec × Bool) : Parser.Unit :=
  { header := if e.2.2 then hdr else { hdr with len := 1, type := .invalid }
    data := if e.2.2 then data else mkTok .unknown 0 0
    nParams := n
    term := termOf e.2.1
    consumed := p + e.1 }

theorem unit_tail_eq (buf : Bytes) (hdr data : Token) (n : Int) (p : Nat) :
    unit_tail buf hdr (p, data, n) = mkUnit hdr data n p (unitEnd (buf.drop p)) := by
  unfold unit_tail mkUnit unitEnd
  simp only [newLine_eq, specToken_nl]
  by_cases h1 : 0 < nlLen (buf.drop p)
  · have hne : (((nlLen (buf.drop p) : Nat) : Int) != 0) = true := by simp; omega
    have hne' : (((nlLen (buf.drop p) : Nat) : Int) == 0) = false := by simp; omega
    simp only [h1, if_true, found, hne, hne', Bool.and_false, Bool.false_eq_true, if_false]
    rfl
  · simp only [h1, if_false, found, bne_self_eq_false, Bool.false_eq_true, lexSemicolon, lexOneChar_eq,
      hd_eq_iff_head?, beq_iff_eq]
    by_cases hc : (buf.drop p).head? = some 59
    · have h10 : ((1 : Int) == 0) = false := by decide
      simp only [hc, if_true, h10, Bool.and_false, Bool.false_eq_true, if_false]
      rfl
    · have h00 : ((0 : Int) == 0) = true := by decide
      simp only [hc, if_false, h00, Bool.and_true]
      have hi : iseos buf p = (buf.drop p).isEmpty := by rw [iseos_eq]; cases buf.drop p <;> rfl
      rw [hi]
      cases (buf.drop p).isEmpty <;> rfl

def unitOf (s : Bytes) : Parser.Unit :=
  mkUnit ⟨(uHdr s).2, wsLen s, (uHdr s).1⟩ (dataSpec s) (uData s).2 (uData s).1 (unitEnd (s.drop (uData s).1))

theorem detect_eq (s : Bytes) : detectUnit s = unitOf s := by
  -- (`Prod.eta`, not `rfl`: `rfl` would start evaluating `unit_hdr`)
  rw [unit_detect_data s (unit_header (Prod.eta (uHdr s)).symm)]
  have hD : unit_data s (uHdr s).1 = ((uData s).1, dataSpec s, (uData s).2) := by
    have hb1 := uW1_le s
    unfold unit_data uData dataSpec
    unfold uW1 uP1 at hb1 ⊢
    split
    · obtain ⟨c1, _, _⟩ := unit_allData s _ hb1
      dsimp only
      rw [unit_allData_tok s _ hb1, ← c1]
    · rfl
  rw [hD, unit_tail_eq]
  rfl

theorem detect_consumed_eq (s : Bytes) :
    (detectUnit s).consumed = (uData s).1 + (unitEnd (s.drop (uData s).1)).1 := by
  rw [detect_eq]; rfl

theorem detect_term_nl (s : Bytes) : (detectUnit s).term = .nl ↔ (unitEnd (s.drop (uData s).1)).2.1 = .nl := by
  rw [detect_eq]
  unfold unitOf mkUnit
  dsimp only
  generalize (unitEnd (s.drop (uData s).1)).2.1 = t
  cases t <;> simp [termOf]

theorem detect_header_ptr (s : Bytes) : (detectUnit s).header.ptr = wsLen s := by
  rw [detect_eq]
  unfold unitOf mkUnit
  dsimp only
  split <;> rfl

theorem detect_ptr_le (s : Bytes) : (detectUnit s).header.ptr ≤ (detectUnit s).consumed := by
  have := uData_ge s
  rw [detect_header_ptr, detect_consumed_eq]
  unfold uP1 at this
  omega

theorem unitEnd_pos {r : Bytes} (h : r ≠ []) : 1 ≤ (unitEnd r).1 := by
  unfold unitEnd
  split
  · assumption
  · split
    · exact Nat.le_refl _
    · rw [if_neg (by rwa [List.isEmpty_iff])]
      exact Nat.le_refl _

theorem unitEnd_le (r : Bytes) : (unitEnd r).1 ≤ r.length := by
  cases r with
  | nil => exact Nat.le_refl _
  | cons b t =>
    have := nlLen_le (b :: t)
    unfold unitEnd
    repeat' split
    all_goals simp only [List.length_cons] at this ⊢
    all_goals omega

theorem uData_le_length (s : Bytes) : (uData s).1 ≤ s.length := by
  unfold uData
  by_cases hw : uW1 s > 0
  · have h := unit_allData s (uP1 s + uW1 s) (uW1_le s)
    rw [if_pos hw, ← h.1]
    -- (reduce the projection of the pair first: otherwise `exact` unfolds `parseAllProgramData`)
    dsimp only
    exact h.2.2
  · rw [if_neg hw]
    exact uP1_le s

theorem uHdr_ne_invalid (s : Bytes) : (uHdr s).2 ≠ .invalid := unit_hdr_valid _

def termSpecOf : Termination → TermSpec
  | .nl => .nl | .semicolon => .semicolon | .none => .none

def specOf (u : Parser.Unit) : UnitSpec :=
  ⟨u.consumed, termSpecOf u.term, u.header.type != .invalid, u.header.ptr, u.header.len.toNat, u.header.type, u.nParams⟩

theorem specTail_eq (s : Bytes) (w0 hl : Nat) (ht : TokType) (hi : ht ≠ .invalid) (data : Token) (x : Nat × Int) :
    unit_specTail s w0 hl ht x = specOf (mkUnit ⟨ht, w0, hl⟩ data x.2 x.1 (unitEnd (s.drop x.1))) := by
  unfold unit_specTail unitEnd mkUnit specOf
  dsimp only
  rw [specToken_nl]
  by_cases h1 : 0 < nlLen (s.drop x.1)
  · simp only [h1, if_true]; simp [termSpecOf, termOf, hi]
  · simp only [h1, if_false]
    by_cases h2 : ((s.drop x.1).head? == some 59) = true
    · simp only [h2, if_true]; simp [termSpecOf, termOf, hi]
    · simp only [h2]
      by_cases h3 : (s.drop x.1).isEmpty = true
      · simp only [h3, if_true, Bool.false_eq_true, if_false]; simp [termSpecOf, termOf, hi]
      · simp only [h3, Bool.false_eq_true, if_false]; simp [termSpecOf, termOf]

/-- a header token is never `invalid`, so that type marks exactly the units that are not well formed -/
theorem specUnit_detect (s : Bytes) : specUnit s = specOf (detectUnit s) := by
  rw [detect_eq, unit_spec_eq s (uHdr s).1 (uHdr s).2 (uData s) rfl rfl]
  exact specTail_eq s _ _ _ (uHdr_ne_invalid s) _ _

theorem detect_consumed_le (s : Bytes) : (detectUnit s).consumed ≤ s.length := by
  have := uData_le_length s
  have := unitEnd_le (s.drop (uData s).1)
  rw [List.length_drop] at this
  rw [detect_consumed_eq]
  omega

theorem detect_consumed_pos (s : Bytes) (h : s ≠ []) : 1 ≤ (detectUnit s).consumed := by
  rw [detect_consumed_eq]
  by_cases hlt : (uData s).1 < s.length
  · have := @unitEnd_pos (s.drop (uData s).1) (by intro h0; have := List.drop_eq_nil_iff.1 h0; omega)
    omega
  · have := List.length_pos_iff.2 h
    omega

/-- the unit detector accepts exactly the well-formed units, with the specified extent, terminator, header and
parameter-count flag; it always makes progress on a non-empty input and never leaves it (C13) -/
theorem unit_spec (s : Bytes) :
    let u := detectUnit s
    let e := specUnit s
    (u.consumed = e.consumed) ∧
    (u.term.code = match e.term with | .none => 0 | .nl => 1 | .semicolon => 2) ∧
    ((u.header.type = .invalid) ↔ e.wellFormed = false) ∧
    (e.wellFormed = true → u.header.type = e.headerType ∧ u.header.len = e.headerLen ∧ (e.headerLen > 0 → u.header.ptr = e.headerOff) ∧
                           u.nParams = e.nParams) ∧
    u.consumed ≤ s.length ∧ (s ≠ [] → 1 ≤ u.consumed) := by
  have hlen : 0 ≤ (detectUnit s).header.len := by
    rw [detect_eq]
    unfold unitOf mkUnit
    dsimp only
    split <;> simp
  rw [specUnit_detect]
  unfold specOf
  dsimp only
  refine ⟨rfl, by cases (detectUnit s).term <;> rfl, by simp, fun _ => ⟨rfl, by omega, fun _ => rfl, rfl⟩,
    detect_consumed_le s, detect_consumed_pos s⟩

theorem detect_header_inside (s : Bytes) (hinv : (detectUnit s).header.type ≠ .invalid)
    (hpos : 0 < (detectUnit s).header.len) :
    (detectUnit s).header.ptr + (detectUnit s).header.len.toNat ≤ (detectUnit s).consumed := by
  have := uData_ge s
  rw [detect_eq] at hinv hpos ⊢
  unfold unitOf mkUnit uP1 at *
  dsimp only at hinv hpos ⊢
  split at hinv
  · rw [if_pos ‹_›] at hpos ⊢
    dsimp only at hpos ⊢
    omega
  · exact absurd rfl hinv

theorem dataSpec_inside (s : Bytes) : (dataSpec s).ptr + (dataSpec s).len.toNat ≤ (uData s).1 := by
  have hge := uData_ge s
  unfold dataSpec uData at *
  split
  · rename_i hw
    rw [if_pos hw] at hge
    generalize specList (s.length + 1) s (uP1 s + uW1 s) 0 = l at hge ⊢
    cases l with
    | ok c n =>
      simp only [unit_listRes] at hge
      simp only [unit_listTok, unit_listRes]
      split <;> simp only [mkTok] <;> omega
    | bad c =>
      simp only [unit_listRes] at hge
      simp only [unit_listTok, unit_listRes, mkTok]; omega
  · simp [mkTok]

theorem detect_data_inside (s : Bytes) :
    (detectUnit s).data.ptr + (detectUnit s).data.len.toNat ≤ (detectUnit s).consumed := by
  have := dataSpec_inside s
  rw [detect_eq]
  unfold unitOf mkUnit
  dsimp only
  split
  · omega
  · simp [mkTok]

end ScpiVerif.Lemmas.Lexer
