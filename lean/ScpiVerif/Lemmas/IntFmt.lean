/-
Lemmas for C14 (integer-to-text conversion), about the model in Model/IntFmt.lean.  `pad b k n` is the k-digit, zero
padded base-b text of n; `specDigits b n` is `pad b (k+1) n` for b^k ≤ n < b^(k+1).  `skipZeros` finds that k from the
table entry (`tableOK`: each entry is the top power of its base below 2^w), `emit` is ADD_CHAR folded over the digits,
and a fold of ADD_CHAR stores the text cut to the room left: the formatter is that fold over `canon` (`toStr_fold`,
`toStr_spec`), for any width with a valid table.  What makes a text canonical is said once, without `specDigits`
(`Digits`); `CanonOK` of the model file (`canon_ok`) and the readers of Lemmas/RoundTrip.lean take it from there.
-/
import ScpiVerif.Model.IntFmt
import ScpiVerif.Gen.Tables

namespace ScpiVerif.Lemmas.IntFmt
open ScpiVerif.IntFmt

/-- `d` is a power `b^k` (k ≤ w) with `d < 2^w ≤ d*b` -/
def entryOK (w b d : Nat) : Bool :=
  (List.range (w+1)).any (fun k => b^k == d) && decide (d < 2^w) && decide (2^w ≤ d * b)

def tableOK (w : Nat) (t : DivTable) : Bool :=
  entryOK w 2 t.d2 && entryOK w 8 t.d8 && entryOK w 10 t.d10 && entryOK w 16 t.d16

theorem entryOK_spec {w b d : Nat} (h : entryOK w b d = true) :
    ∃ k, k ≤ w ∧ d = b^k ∧ b^k < 2^w ∧ 2^w ≤ b^(k+1) := by
  simp only [entryOK, Bool.and_eq_true, List.any_eq_true, List.mem_range, beq_iff_eq,
    decide_eq_true_eq] at h
  obtain ⟨⟨⟨k, hk, rfl⟩, h1⟩, h2⟩ := h
  exact ⟨k, by omega, rfl, h1, by rw [Nat.pow_succ]; exact h2⟩

theorem effBase_cases (base : Int) :
    effBase base = 2 ∨ effBase base = 8 ∨ effBase base = 10 ∨ effBase base = 16 := by
  unfold effBase; split
  · simp
  · split
    · simp
    · split <;> simp

theorem effBase_ge (base : Int) : 2 ≤ effBase base := by
  rcases effBase_cases base with h | h | h | h <;> omega

theorem effBase_le (base : Int) : effBase base ≤ 16 := by
  rcases effBase_cases base with h | h | h | h <;> omega

theorem switchBase_spec {w : Nat} {t : DivTable} (ht : tableOK w t = true) (base : Int) :
    ∃ x0, switchBase t base = (effBase base, x0) ∧ entryOK w (effBase base) x0 = true := by
  simp only [tableOK, Bool.and_eq_true] at ht
  unfold switchBase effBase
  split
  · exact ⟨_, rfl, ht.1.1.1⟩
  · split
    · exact ⟨_, rfl, ht.1.1.2⟩
    · split
      · exact ⟨_, rfl, ht.2⟩
      · exact ⟨_, rfl, ht.1.2⟩

/-- the generated divisor tables of the two C widths, as `Result.tbl32` / `tbl64` pack them -/
theorem div32_ok : tableOK 32 ⟨Gen.div32.1, Gen.div32.2.1, Gen.div32.2.2.1, Gen.div32.2.2.2⟩ = true := by decide

theorem div64_ok : tableOK 64 ⟨Gen.div64.1, Gen.div64.2.1, Gen.div64.2.2.1, Gen.div64.2.2.2⟩ = true := by decide

theorem digitVal_digitChar : ∀ d, d < 16 → digitVal (digitChar d) = some d := by decide +kernel

theorem digitChar_ne_zero : ∀ d, d < 16 → d ≠ 0 → digitChar d ≠ '0' := by decide +kernel

theorem digitChar_zero : digitChar 0 = '0' := by decide +kernel

/-- the `k` least significant base-`b` digits of `n`, most significant first -/
def pad (b : Nat) : Nat → Nat → List Char
  | 0, _ => []
  | k+1, n => pad b k (n / b) ++ [digitChar (n % b)]

@[simp] theorem pad_length (b k n : Nat) : (pad b k n).length = k := by
  induction k generalizing n with
  | zero => rfl
  | succ k ih => simp [pad, ih]

theorem pad_succ_msd (b k n : Nat) :
    pad b (k+1) n = digitChar (n / b^k % b) :: pad b k (n % b^k) := by
  induction k generalizing n with
  | zero => simp [pad]
  | succ k ih =>
    rw [pad, ih (n / b)]
    conv => rhs; rw [pad]
    have e1 : n / b / b^k = n / b^(k+1) := by
      rw [Nat.div_div_eq_div_mul, Nat.pow_succ, Nat.mul_comm]
    have e2 : n / b % b^k = n % b^(k+1) / b := by
      rw [Nat.pow_succ, Nat.mul_comm, Nat.mod_mul_right_div_self]
    have e3 : n % b^(k+1) % b = n % b := by
      apply Nat.mod_mod_of_dvd
      exact ⟨b^k, by rw [Nat.pow_succ, Nat.mul_comm]⟩
    rw [e1, e2, e3]; rfl

theorem pow_succ_div {b : Nat} (hb : 0 < b) (k : Nat) : b^(k+1) / b = b^k := by
  rw [Nat.pow_succ]; exact Nat.mul_div_cancel _ hb

theorem foldl_fixed {α β : Type} {f : α → β → α} {a : α} (h : ∀ b, f a b = a) : ∀ l : List β, l.foldl f a = a
  | [] => rfl
  | b :: l => by rw [List.foldl_cons, h, foldl_fixed h l]

theorem specDigitsAux_eq {b : Nat} (hb : 2 ≤ b) (k : Nat) :
    ∀ n fuel acc, b^k ≤ n → n < b^(k+1) → n < fuel →
      specDigitsAux b fuel n acc = pad b (k+1) n ++ acc := by
  induction k with
  | zero =>
    intro n fuel acc h1 h2 h3
    obtain ⟨f, rfl⟩ : ∃ f, fuel = f+1 := ⟨fuel-1, by omega⟩
    rw [Nat.pow_one] at h2
    rw [specDigitsAux, if_pos (.inl h2), pad, pad, Nat.mod_eq_of_lt h2]; rfl
  | succ k ih =>
    intro n fuel acc h1 h2 h3
    obtain ⟨f, rfl⟩ : ∃ f, fuel = f+1 := ⟨fuel-1, by omega⟩
    have hbn : b ≤ n := Nat.le_trans (Nat.le_self_pow (Nat.succ_ne_zero k) b) h1
    rw [Nat.pow_succ] at h1 h2
    rw [specDigitsAux, if_neg (by omega), ih (n / b) f _ ((Nat.le_div_iff_mul_le (by omega)).2 h1)
      ((Nat.div_lt_iff_lt_mul (by omega)).2 h2) (by have := Nat.div_lt_self (by omega : 0 < n) hb; omega)]
    conv => rhs; rw [pad, List.append_assoc]
    rfl

theorem specDigits_eq {b : Nat} (hb : 2 ≤ b) {k n : Nat} (h1 : b^k ≤ n) (h2 : n < b^(k+1)) :
    specDigits b n = pad b (k+1) n := by
  rw [specDigits, specDigitsAux_eq hb k n (n+1) [] h1 h2 (by omega)]; simp

theorem specDigits_zero (b : Nat) : specDigits b 0 = ['0'] := by
  have : (0 < b ∨ b < 2) := by omega
  simp [specDigits, specDigitsAux, this, digitChar_zero]

theorem exists_pow_bracket {b : Nat} (hb : 2 ≤ b) (n : Nat) (hn : 0 < n) :
    ∃ k, b^k ≤ n ∧ n < b^(k+1) := by
  induction n using Nat.strongRecOn with
  | _ n ih =>
    by_cases h : n < b
    · exact ⟨0, by rw [Nat.pow_zero]; exact hn, by simpa using h⟩
    · have hdl : n / b < n := Nat.div_lt_self (by omega) (by omega)
      have hpos : 0 < n / b := Nat.div_pos (by omega) (by omega)
      obtain ⟨k, a, c⟩ := ih (n / b) hdl hpos
      refine ⟨k+1, ?_, ?_⟩
      · rw [Nat.pow_succ]; exact (Nat.le_div_iff_mul_le (by omega)).1 a
      · rw [Nat.pow_succ]; exact (Nat.div_lt_iff_lt_mul (by omega)).1 c

theorem skipZeros_spec {b : Nat} (hb : 2 ≤ b) {uval : Nat} (hu : 0 < uval) (k : Nat) :
    ∀ fuel, k < fuel → uval < b^(k+1) →
      ∃ j, j ≤ k ∧ skipZeros b uval fuel (b^k) = (b^j, false) ∧ b^j ≤ uval ∧ uval < b^(j+1) := by
  induction k with
  | zero =>
    intro fuel hf h
    obtain ⟨f, rfl⟩ : ∃ f, fuel = f+1 := ⟨fuel-1, by omega⟩
    refine ⟨0, Nat.le_refl _, ?_, hu, h⟩
    rw [skipZeros, Nat.pow_zero, if_neg Nat.one_ne_zero, Nat.div_one, if_neg (Nat.ne_of_gt hu)]
  | succ k ih =>
    intro fuel hf h
    obtain ⟨f, rfl⟩ : ∃ f, fuel = f+1 := ⟨fuel-1, by omega⟩
    have hx : 0 < b^(k+1) := Nat.pow_pos (by omega)
    rw [skipZeros, if_neg (Nat.ne_of_gt hx)]
    by_cases hq : uval / b^(k+1) = 0
    · obtain ⟨j, hj, e, a, c⟩ := ih f (by omega) ((Nat.div_eq_zero_iff_lt hx).1 hq)
      rw [if_pos hq, pow_succ_div (by omega)]
      exact ⟨j, by omega, e, a, c⟩
    · rw [if_neg hq]
      exact ⟨k+1, Nat.le_refl _, rfl, Nat.le_of_not_lt fun hlt => hq (Nat.div_eq_of_lt hlt), h⟩

theorem wrap_sub {M uval x : Nat} (hu : uval < M) :
    (uval + M - (uval / x * x) % M) % M = uval % x := by
  have h1 : uval / x * x ≤ uval := Nat.div_mul_le_self uval x
  have h2 : uval / x * x + uval % x = uval := by
    rw [Nat.mul_comm]; exact Nat.div_add_mod uval x
  have h3 : uval / x * x % M = uval / x * x := Nat.mod_eq_of_lt (by omega)
  rw [h3]
  have : uval + M - uval / x * x = M + uval % x := by omega
  rw [this, Nat.add_mod_left]
  exact Nat.mod_eq_of_lt (by omega)

theorem addChar_full {len : Nat} {o : Out} (h : ¬ o.pos < len) (cs : List Char) : cs.foldl (addChar len) o = o :=
  foldl_fixed (fun _ => if_neg h) cs

theorem addChar_foldl (len : Nat) (cs : List Char) : ∀ chars pos ub, pos ≤ len →
    cs.foldl (addChar len) ⟨chars, pos, ub⟩ = ⟨chars ++ cs.take (len - pos), min len (pos + cs.length), ub⟩ := by
  induction cs with
  | nil => intro chars pos ub h; simp [Nat.min_eq_right h]
  | cons c cs ih =>
    intro chars pos ub h
    by_cases hp : pos < len
    · rw [List.foldl_cons, addChar, if_pos hp, ih _ _ _ hp, show len - pos = len - (pos + 1) + 1 by omega,
        List.take_succ_cons, List.append_assoc, List.length_cons, Nat.succ_add_eq_add_succ]
      rfl
    · rw [addChar_full hp, show len - pos = 0 by omega, Nat.min_eq_left (by omega)]
      simp; omega

/-- the digit loop started at `x = b^k` with `uval < b^(k+1)`: ADD_CHAR of the `k+1` digits of `uval`, nothing undefined -/
theorem emit_spec {w b len : Nat} (hb : 2 ≤ b) (hb16 : b ≤ 16) (k : Nat) :
    ∀ fuel uval (o : Out), k < fuel → uval < b^(k+1) → uval < 2^w →
      emit w b len fuel uval (b^k) o = (pad b (k+1) uval).foldl (addChar len) o := by
  induction k with
  | zero =>
    intro fuel uval o hf hu hw
    obtain ⟨f, rfl⟩ : ∃ f, fuel = f+1 := ⟨fuel-1, by omega⟩
    rw [Nat.pow_zero, Nat.pow_one] at *
    simp only [emit, Nat.div_one, Nat.mod_eq_of_lt (by omega : uval < 256), (by omega : uval < 16), if_true,
      Nat.div_eq_of_lt (by omega : 1 < b), Nat.one_ne_zero, if_false, ne_eq, not_true_eq_false, false_and,
      pad, List.nil_append, Nat.mod_eq_of_lt hu, List.foldl_cons, List.foldl_nil]
  | succ k ih =>
    intro fuel uval o hf hu hw
    obtain ⟨f, rfl⟩ : ∃ f, fuel = f+1 := ⟨fuel-1, by omega⟩
    have hx : 0 < b^(k+1) := Nat.pow_pos (by omega)
    have hq : uval / b^(k+1) < b := by
      rw [Nat.div_lt_iff_lt_mul hx, Nat.mul_comm, ← Nat.pow_succ]; exact hu
    have hk0 : b^k ≠ 0 := Nat.ne_of_gt (Nat.pow_pos (by omega))
    rw [emit, if_neg (Nat.ne_of_gt hx), pad_succ_msd, Nat.mod_eq_of_lt hq, List.foldl_cons]
    simp only [Nat.mod_eq_of_lt (by omega : uval / b^(k+1) < 256), (by omega : uval / b^(k+1) < 16), if_true,
      pow_succ_div (by omega : 0 < b), wrap_sub hw, ne_eq, hk0, not_false_eq_true, true_and]
    by_cases hpl : (addChar len o (digitChar (uval / b^(k+1)))).pos < len
    · rw [if_pos hpl]
      exact ih f _ _ (by omega) (Nat.mod_lt _ hx) (Nat.lt_of_le_of_lt (Nat.mod_le _ _) hw)
    · -- the loop ends with the buffer full: the remaining digits store nothing
      rw [if_neg hpl, addChar_full hpl]

theorem canon_nondec (w val : Nat) (base : Int) (sign : Bool) (h : effBase base ≠ 10) :
    canon w val base sign = specDigits (effBase base) val := by
  simp [canon, h]

theorem canon_dec {base : Int} (h : effBase base = 10) (w val : Nat) (sign : Bool) :
    canon w val base sign =
      if (sign && decide (2^(w-1) ≤ val)) = true then '-' :: specDigits 10 (2^w - val) else specDigits 10 val := by
  simp [canon, h]

theorem canon_zero (w : Nat) (base : Int) (sign : Bool) : canon w 0 base sign = ['0'] := by
  have : ¬ (0 ≥ 2^(w-1)) := Nat.not_le.2 (Nat.pow_pos (by omega))
  simp [canon, this, specDigits_zero]

/-- after the `switch` (initial divisor `x0`, a table entry) and the optional '-': skip the leading zeros and emit the digits -/
theorem digits_core {w b len x0 : Nat} (hb : 2 ≤ b) (hb16 : b ≤ 16) (he : entryOK w b x0 = true)
    {uval : Nat} (hu0 : 0 < uval) (hu : uval < 2^w) (o1 : Out) :
    emit w b len (w+1) uval (skipZeros b uval (x0 + 1) x0).1
        (if (skipZeros b uval (x0 + 1) x0).2 then { o1 with ub := true } else o1) =
      (specDigits b uval).foldl (addChar len) o1 := by
  obtain ⟨k, hk, rfl, _, hhi⟩ := entryOK_spec he
  have hkf : k < b^k + 1 := Nat.lt_succ_of_lt (Nat.lt_pow_self (by omega))
  obtain ⟨j, hj, e, a, c⟩ :=
    skipZeros_spec hb hu0 k (b^k + 1) hkf (Nat.lt_of_lt_of_le hu hhi)
  rw [e, if_neg Bool.false_ne_true, emit_spec hb hb16 j (w+1) uval o1 (by omega) c hu, specDigits_eq hb a c]

/-- the function is ADD_CHAR of every character of the canonical text -/
theorem toStr_fold (w : Nat) (t : DivTable) (ht : tableOK w t = true)
    (val len : Nat) (base : Int) (sign : Bool) (hv : val < 2^w) :
    (toStrBaseSign w t val len base sign).1 = (canon w val base sign).foldl (addChar len) ⟨[], 0, false⟩ := by
  by_cases hv0 : val = 0
  · subst hv0
    rw [canon_zero]; rfl
  · obtain ⟨x0, hsw, he⟩ := switchBase_spec ht base
    simp only [toStrBaseSign, if_neg hv0, hsw, canon]
    by_cases hneg : (sign && decide (val ≥ 2^(w-1)) && decide (effBase base = 10)) = true
    · simp only [if_pos hneg, Nat.mod_eq_of_lt (by omega : 2^w - val < 2^w), List.foldl_cons]
      exact digits_core (effBase_ge base) (effBase_le base) he (by omega) (by omega) _
    · simp only [if_neg hneg]
      exact digits_core (effBase_ge base) (effBase_le base) he (by omega) hv _

/-- `_hw` is not needed by the proof (any width with a valid divisor table
works); it is there so that the statement is only ever instantiated at the two C widths. -/
theorem toStr_spec (w : Nat) (t : DivTable) (_hw : w = 32 ∨ w = 64) (ht : tableOK w t = true)
    (val len : Nat) (base : Int) (sign : Bool) (hv : val < 2^w) :
    let r := toStrBaseSign w t val len base sign
    r.1.chars = (canon w val base sign).take len ∧
    r.1.pos = min len (canon w val base sign).length ∧
    r.1.ub = false ∧
    r.2 = decide (min len (canon w val base sign).length < len) := by
  intro r
  have h1 : r.1 = ⟨(canon w val base sign).take len, min len (canon w val base sign).length, false⟩ := by
    rw [show r.1 = _ from toStr_fold w t ht val len base sign hv, addChar_foldl len _ _ _ _ (Nat.zero_le _)]
    simp only [Nat.zero_add, Nat.sub_zero, List.nil_append]
  have h2 : r.2 = decide (r.1.pos < len) := rfl
  rw [h2, h1]
  exact ⟨rfl, rfl, rfl, rfl⟩

theorem pad_mem {b : Nat} (hb : 0 < b) (k : Nat) : ∀ n, ∀ c ∈ pad b k n, ∃ d, d < b ∧ c = digitChar d := by
  induction k with
  | zero => intro n c h; cases h
  | succ k ih =>
    intro n c h
    rcases List.mem_append.1 h with h | h
    · exact ih _ c h
    · exact ⟨n % b, Nat.mod_lt _ hb, List.mem_singleton.1 h⟩

theorem foldl_pad {b : Nat} (hb : 0 < b) (g : Char → Nat) (hg : ∀ d, d < b → g (digitChar d) = d) (k : Nat) :
    ∀ n acc, (pad b k n).foldl (fun a c => a * b + g c) acc = acc * b^k + n % b^k := by
  induction k with
  | zero => intro n acc; simp [pad, Nat.mod_one]
  | succ k ih =>
    intro n acc
    rw [pad, List.foldl_append, ih, List.foldl_cons, List.foldl_nil, hg _ (Nat.mod_lt _ hb)]
    have e : n % b^(k+1) = n % b + b * (n / b % b^k) := by
      rw [Nat.pow_succ, Nat.mul_comm, Nat.mod_mul]
    rw [e, Nat.add_mul, Nat.mul_assoc, Nat.mul_comm (n / b % b^k) b, Nat.pow_succ]
    omega

/-- what makes `cs` the canonical base-`b` text of `n`: digits of the base, at least one, no leading zero except in "0",
and value `n` under every valuation of the digit characters (the readers each have their own) -/
structure Digits (b n : Nat) (cs : List Char) : Prop where
  ne : cs ≠ []
  mem : ∀ c ∈ cs, ∃ d, d < b ∧ c = digitChar d
  lead : cs.head? = some '0' → cs = ['0']
  val : ∀ g : Char → Nat, (∀ d, d < b → g (digitChar d) = d) →
    ∀ acc, cs.foldl (fun a c => a * b + g c) acc = acc * b^cs.length + n

theorem specDigits_pad {b : Nat} (hb : 2 ≤ b) (n : Nat) :
    ∃ k, specDigits b n = pad b (k+1) n ∧ n < b^(k+1) ∧ (k = 0 ∨ b^k ≤ n) := by
  by_cases hn : n = 0
  · subst hn
    exact ⟨0, by rw [specDigits_zero, pad, pad, Nat.zero_mod, digitChar_zero]; rfl, Nat.pow_pos (by omega), .inl rfl⟩
  · obtain ⟨k, a, c⟩ := exists_pow_bracket hb n (by omega)
    exact ⟨k, specDigits_eq hb a c, c, .inr a⟩

theorem specDigits_ok {b : Nat} (hb : 2 ≤ b) (hb16 : b ≤ 16) (n : Nat) : Digits b n (specDigits b n) := by
  obtain ⟨k, e, hlt, hge⟩ := specDigits_pad hb n
  have hx : 0 < b^k := Nat.pow_pos (by omega)
  refine ⟨?_, ?_, ?_, ?_⟩
  · rw [e]; intro h; cases k <;> simp [pad] at h
  · rw [e]; exact pad_mem (by omega) _ _
  · intro h
    -- a leading '0' is the digit `n / b^k`: then `n < b^k`, so `n = 0`
    have hq : n / b^k < b := by rw [Nat.div_lt_iff_lt_mul hx, Nat.mul_comm, ← Nat.pow_succ]; exact hlt
    rw [e, pad_succ_msd, Nat.mod_eq_of_lt hq, List.head?_cons, Option.some.injEq] at h
    have h0 : n / b^k = 0 := Decidable.byContradiction fun hne => digitChar_ne_zero _ (by omega) hne h
    have := (Nat.div_eq_zero_iff_lt hx).1 h0
    have : n = 0 := by
      rcases hge with rfl | hge
      · rw [Nat.pow_zero] at this; omega
      · omega
    rw [this, specDigits_zero]
  · intro g hg acc
    rw [e, foldl_pad (by omega) g hg, Nat.mod_eq_of_lt hlt, pad_length]

/-- `parseDigits` is the Horner evaluation with the valuation `digitVal` -/
theorem parseDigits_eq {b n : Nat} (hb16 : b ≤ 16) {cs : List Char} (h : Digits b n cs) : parseDigits b cs = some n := by
  have key : ∀ (l : List Char), (∀ c ∈ l, ∃ d, d < b ∧ c = digitChar d) → ∀ acc,
      l.foldlM (fun acc c => match digitVal c with
        | some d => if d < b then some (acc * b + d) else none
        | none => none) acc = some (l.foldl (fun a c => a * b + (digitVal c).getD 0) acc) := by
    intro l
    induction l with
    | nil => intro _ acc; rfl
    | cons c l ih =>
      intro hl acc
      obtain ⟨d, hd, e⟩ := hl c (List.mem_cons_self ..)
      rw [List.foldlM_cons, List.foldl_cons, e, digitVal_digitChar d (by omega)]
      simp only [hd, if_true, Option.bind_eq_bind, Option.bind_some, Option.getD_some]
      exact ih (fun c hc => hl c (List.mem_cons_of_mem _ hc)) _
  refine (key cs h.mem 0).trans ?_
  rw [h.val _ (fun d hd => by rw [digitVal_digitChar d (by omega)]; rfl), Nat.zero_mul, Nat.zero_add]

theorem canon_ok (w val : Nat) (base : Int) (sign : Bool) : CanonOK w val base sign := by
  have hb := effBase_ge base
  have hb16 := effBase_le base
  constructor
  by_cases hneg : (sign && decide (val ≥ 2^(w-1)) && decide (effBase base = 10)) = true
  · have h := specDigits_ok hb hb16 (2^w - val)
    have hc := hneg
    simp only [Bool.and_eq_true, decide_eq_true_eq] at hc
    exact ⟨_, h.ne, h.lead, .inl ⟨hc.1.1, hc.1.2, hc.2, by rw [canon, if_pos hneg], parseDigits_eq hb16 h⟩⟩
  · have h := specDigits_ok hb hb16 val
    refine ⟨_, h.ne, h.lead, .inr ⟨fun hc => hneg ?_, by rw [canon, if_neg hneg], parseDigits_eq hb16 h⟩⟩
    simp only [Bool.and_eq_true, decide_eq_true_eq]
    exact ⟨⟨hc.1, hc.2.1⟩, hc.2.2⟩

theorem specDigits_length_le_pow {b : Nat} (hb : 2 ≤ b) {n k : Nat} (hk : 0 < k) (hn : n < b^k) :
    (specDigits b n).length ≤ k := by
  obtain ⟨j, e, _, hge⟩ := specDigits_pad hb n
  rw [e, pad_length]
  rcases hge with rfl | hge
  · exact hk
  · exact (Nat.pow_lt_pow_iff_right (by omega)).1 (Nat.lt_of_le_of_lt hge hn)

theorem specDigits_length_le {b : Nat} (hb : 2 ≤ b) {n m : Nat} (hm : 0 < m) (hn : n < 2^m) :
    (specDigits b n).length ≤ m :=
  specDigits_length_le_pow hb hm (Nat.lt_of_lt_of_le hn (Nat.pow_le_pow_left hb m))

theorem specDigits_length_dec {n m : Nat} (h0 : 0 < n) (hn : n ≤ 2^m) :
    2 * (specDigits 10 n).length ≤ m + 2 := by
  obtain ⟨k, a, c⟩ := exists_pow_bracket (b := 10) (by omega) n h0
  rw [specDigits_eq (by omega) a c, pad_length]
  have h1 : 4^k ≤ 10^k := Nat.pow_le_pow_left (by omega) k
  have h2 : (2:Nat)^(2*k) = 4^k := by rw [Nat.pow_mul]
  have h3 : (2:Nat)^(2*k) ≤ 2^m := by omega
  have := (Nat.pow_le_pow_iff_right (a := 2) (by omega)).1 h3
  omega

/-- the text (sign included) never needs more than `w` characters: a negative decimal has at most `(w+1)/2` digits -/
theorem canon_length_le {w : Nat} (hw : 3 ≤ w) (val : Nat) (base : Int) (sign : Bool) (hv : val < 2^w) :
    (canon w val base sign).length ≤ w := by
  by_cases h10 : effBase base = 10
  · rw [canon_dec h10]
    split
    · rename_i hneg
      have hge : 2^(w-1) ≤ val := of_decide_eq_true (Bool.and_eq_true_iff.1 hneg).2
      have hp : 2^w = 2 * 2^(w-1) := by
        obtain ⟨v, rfl⟩ : ∃ v, w = v+1 := ⟨w-1, by omega⟩
        rw [Nat.pow_succ, Nat.mul_comm]; rfl
      have := specDigits_length_dec (n := 2^w - val) (m := w-1) (by omega) (by omega)
      rw [List.length_cons]; omega
    · exact h10 ▸ specDigits_length_le (effBase_ge base) (by omega) hv
  · rw [canon_nondec w val base sign h10]
    exact specDigits_length_le (effBase_ge base) (by omega) hv

end ScpiVerif.Lemmas.IntFmt
