/-
C02: the dispatch theorem `dispatch_general`, of which `dispatch_correct` is the case of a well-formed message.  Readers, result functions and handler scripts never change the command
table and never add a handler entry or a -113 to the event log, `processCommand` adds exactly one handler entry
(`traced_closed`, an instance of `Api.ApiClosed`); the table lookup of `findCommandHeader` is `Spec.Message.dispatch` on
the effective header (`lookup_spec`, on `Match.match_iff_language`); one iteration of the unit loop of SCPI_Parse then is
the statement's rule for that unit (`stepUnit_spec`, by the cases of `Stage.UnitStep`; `unitCmd_spec` is the unit with a
header, after composition), and the loop is `expectDispatch` by induction over the units of the message.
-/
import ScpiVerif.Lemmas.DispatchDefs
import ScpiVerif.Lemmas.DispatchCompose
import ScpiVerif.Lemmas.Match

namespace ScpiVerif.Lemmas.Dispatch
open ScpiVerif ScpiVerif.Lexer ScpiVerif.Parser ScpiVerif.Ctx ScpiVerif.Match ScpiVerif.Spec ScpiVerif.Spec.Message
open ScpiVerif.Props.C02 ScpiVerif.Lemmas.Bounds
open ScpiVerif.Lemmas.Match (hdrAlpha matchCommand_take)
open ScpiVerif.Lemmas.Lexer (specUnit_detect detect_consumed_le detect_consumed_pos detect_header_inside)

def isDisp : Ev → Bool := fun e => match e with | .handler .. => true | .error (-113) _ => true | _ => false

theorem dispatchTrace_eq (evs : List Ev) : dispatchTrace evs = evs.filter isDisp := rfl

theorem dispatchTrace_append (a b : List Ev) : dispatchTrace (a ++ b) = dispatchTrace a ++ dispatchTrace b := by
  simp [dispatchTrace_eq]

theorem isDisp_error (code : Int) (info : Option Bytes) : isDisp (.error code info) = decide (code = -113) := by
  unfold isDisp
  split
  · rename_i h; cases h
  · rename_i h; cases h; simp
  · rename_i h1 h2
    by_cases hc : code = -113
    · subst hc; exact absurd rfl (h2 _)
    · simp [hc]

def dcore (c : Ctx) : List Cmd × List Ev := (c.cmds, dispatchTrace c.events)

theorem dcore_emit (c : Ctx) (e : Ev) (h : isDisp e = false) : dcore (emit c e) = dcore c := by
  simp [dcore, emit, dispatchTrace_eq, List.filter_append, h]

theorem trace_pushEvents (c : Ctx) (code : Int) (info : Option Bytes) (n : Nat) :
    dispatchTrace (Params.pushEvents c code info n) =
      if code = -113 then
        [.error code (info.map fun s => if n = 0 then s.takeWhile (· ≠ 0) else (s.takeWhile (· ≠ 0)).take n)]
      else [] := by
  unfold Params.pushEvents
  dsimp only
  split <;> by_cases hc : code = -113 <;>
    simp [dispatchTrace_eq, isDisp_error, hc, Fifo.overflowCode]

theorem dcore_pushError (c : Ctx) (code : Int) (info : Option Bytes) (n : Nat) (h : code ≠ -113) :
    dcore (pushError c code info n) = dcore c := by
  unfold dcore
  rw [show (pushError c code info n).cmds = c.cmds by rw [Isolation.pushError_eq], Params.pushError_events,
    dispatchTrace_append, trace_pushEvents, if_neg h, List.append_nil]

@[simp] theorem dcore_pushError_101 (c : Ctx) (info : Option Bytes) (n : Nat) : dcore (pushError c (-101) info n) = dcore c := dcore_pushError c _ info n (by decide)

@[simp] theorem isDisp_pInt (a : Bool) (b : Int) : isDisp (.pInt a b) = false := rfl
@[simp] theorem isDisp_pLit (a : Bool) (b : Bytes) : isDisp (.pLit a b) = false := rfl
@[simp] theorem isDisp_pBool (a : Bool) (b : Bool) : isDisp (.pBool a b) = false := rfl
@[simp] theorem isDisp_pChoice (a : Bool) (b : Int) : isDisp (.pChoice a b) = false := rfl
@[simp] theorem isDisp_pBytes (a : Bool) (b : Nat) (d : Bytes) : isDisp (.pBytes a b d) = false := rfl
@[simp] theorem isDisp_pText (a : Bool) (b : Bytes) (d : Bool) : isDisp (.pText a b d) = false := rfl
@[simp] theorem isDisp_pArr (a : Bool) (b : List Int) : isDisp (.pArr a b) = false := rfl
@[simp] theorem isDisp_tag (a : Int) : isDisp (.tag a) = false := rfl
@[simp] theorem isDisp_nums (a : Bool) (b : List Int) : isDisp (.nums a b) = false := rfl
@[simp] theorem isDisp_test (a : Bool) : isDisp (.test a) = false := rfl
@[simp] theorem isDisp_input (a : Bool) : isDisp (.input a) = false := rfl
@[simp] theorem isDisp_parseMsg (a : Bytes) : isDisp (.parseMsg a) = false := rfl
@[simp] theorem isDisp_handler (a : Int) (b : Bytes) : isDisp (.handler a b) = true := rfl

@[simp] theorem dcore_emit_parseMsg (c : Ctx) (a : Bytes) : dcore (emit c (.parseMsg a)) = dcore c := dcore_emit c _ rfl

theorem isDisp_of_apiEv {e : Ev} (h : Api.apiEv e = true) : isDisp e = false := by
  cases e <;> first | rfl | cases h

/-- the dispatcher alone queues -113: not the API, and no script by assumption -/
theorem ne113 {code : Int} (h : code ∈ Api.apiCodes ∨ code ≠ -113) : code ≠ -113 :=
  h.elim (fun hm hc => by subst hc; exact absurd hm (by decide)) id

def Traced (c0 : Ctx) (X : List Ev) (c : Ctx) : Prop :=
  c.cmds = c0.cmds ∧ ∃ es, c.events = c0.events ++ es ∧ dispatchTrace es = X

theorem Traced.trans {c0 c1 c2 : Ctx} {X Y : List Ev} (h1 : Traced c0 X c1) (h2 : Traced c1 Y c2) :
    Traced c0 (X ++ Y) c2 := by
  obtain ⟨a1, e1, b1, d1⟩ := h1
  obtain ⟨a2, e2, b2, d2⟩ := h2
  exact ⟨a2.trans a1, e1 ++ e2, by rw [b2, b1, List.append_assoc], by rw [dispatchTrace_append, d1, d2]⟩

theorem traced_emit (c : Ctx) (e : Ev) : Traced c (dispatchTrace [e]) (emit c e) := ⟨rfl, [e], rfl, rfl⟩

theorem trace_single {e : Ev} (h : isDisp e = false) : dispatchTrace [e] = [] := by
  rw [dispatchTrace_eq, List.filter_cons, h]; rfl

theorem traced_pushError (c : Ctx) (code : Int) (info : Option Bytes) (n : Nat) :
    Traced c (dispatchTrace (Params.pushEvents c code info n)) (pushError c code info n) :=
  ⟨by rw [Isolation.pushError_eq], _, Params.pushError_events c code info n, rfl⟩

theorem traced_closed (c0 : Ctx) (X : List Ev) : Api.ApiClosed (· ≠ -113) (Traced c0 X) where
  emit e he h := by
    have := h.trans (traced_emit _ e)
    rwa [trace_single (isDisp_of_apiEv he), List.append_nil] at this
  pushError code info n hc h := by
    have := h.trans (traced_pushError _ code info n)
    rwa [trace_pushEvents, if_neg (ne113 hc), List.append_nil] at this
  out _ h := h
  regs _ h := h
  eq _ h := h
  cursor _ _ h := h

theorem processCommand_disp (c : Ctx) (cmd : Cmd) (hc : c.cur = some cmd)
    (hs : ∀ op ∈ cmd.script, ∀ code info, op = SOp.ePush code info → code ≠ -113) :
    Traced c [.handler cmd.tag ((c.buf.drop c.rawOff).take c.rawLen)] (processCommand c).1 := by
  apply (traced_closed c _).processCommand
  · intro cmd' hc'
    rw [hc] at hc'
    cases hc'
    exact hs
  · rw [Stage.enter, show (Isolation.pcReset c).cur = some cmd from hc]
    exact traced_emit (Isolation.pcReset c) _

theorem pushError113_disp (c : Ctx) (info : Bytes) (n : Nat) :
    Traced c [.error (-113) (some (if n = 0 then info.takeWhile (· ≠ 0) else (info.takeWhile (· ≠ 0)).take n))]
      (pushError c (-113) (some info) n) := by
  have := traced_pushError c (-113) (some info) n
  rwa [trace_pushEvents, if_pos rfl] at this

theorem find_index {α : Type} (f : α → Bool) : ∀ (l : List α) (g : Nat → Bool),
    (∀ i (h : i < l.length), g i = f l[i]) →
    (l.find? f = none ∧ (List.range l.length).find? g = none) ∨
    (∃ i a, l.find? f = some a ∧ (List.range l.length).find? g = some i ∧ l[i]? = some a) := by
  intro l
  induction l with
  | nil => intro g _; left; simp
  | cons a l ih =>
    intro g hg
    have h0 : g 0 = f a := hg 0 (by simp)
    rw [List.length_cons, List.range_succ_eq_map, List.find?_cons, List.find?_cons, h0]
    cases hfa : f a with
    | true => right; exact ⟨0, a, rfl, rfl, rfl⟩
    | false =>
      dsimp only
      rw [List.find?_map]
      have hg' : ∀ i (h : i < l.length), (g ∘ Nat.succ) i = f l[i] := by
        intro i h
        have := hg (i + 1) (by simp; omega)
        simpa using this
      rcases ih (g ∘ Nat.succ) hg' with ⟨h1, h2⟩ | ⟨i, x, h1, h2, h3⟩
      · left; rw [h1, h2]; simp
      · right
        refine ⟨i + 1, x, h1, ?_, ?_⟩
        · rw [h2]; rfl
        · simpa using h3

/-- the lookup of `findCommandHeader` on the effective header `eff` lying at `buf[off, off+n)` -/
theorem lookup_spec (cmds : List Cmd) (pats : List Spec.Pattern.Pat) (ht : TableOK cmds pats)
    (buf : Bytes) (B lim off n : Nat) (eff : Bytes) (hP : PrevOK buf B lim (some (off, n)) (some eff))
    (hlim : lim ≤ buf.length) :
    let found := cmds.find? (fun cmd => (matchCommand cmd.pattern (buf.drop off) n none 0).1)
    (found = none ∧ dispatch pats eff = none) ∨
    (∃ i cmd, found = some cmd ∧ dispatch pats eff = some i ∧ cmds[i]? = some cmd) := by
  intro found
  obtain ⟨-, hlen, hbytes, hn, halpha⟩ := hP
  have hel : eff.length = n := by rw [← hbytes]; simp; omega
  have hf : ∀ cmd : Cmd, (matchCommand cmd.pattern (buf.drop off) n none 0).1 =
      (matchCommand cmd.pattern eff eff.length none 0).1 := by
    intro cmd
    rw [matchCommand_take, hbytes, hel]
  unfold dispatch
  rw [ht.1]
  apply find_index
  intro i hi
  obtain ⟨p, h1, h2, h3⟩ := ht.2 i hi
  rw [h1, hf]
  exact ((Lemmas.Match.match_iff_language _ p h2 h3 eff (List.all_eq_true.2 halpha)).1).symm

theorem dropWhile_append_length (p : UInt8 → Bool) (B : Bytes) (hB : ∀ x, B.head? = some x → p x = false) :
    ∀ A : Bytes, B.length ≤ ((A ++ B).dropWhile p).length := by
  intro A
  induction A with
  | nil =>
    cases B with
    | nil => simp
    | cons x B => simp [hB x rfl]
  | cons a A ih =>
    rw [List.cons_append, List.dropWhile_cons]
    split
    · exact ih
    · simp; omega

/-- the text recorded with the -113 of a unit `A ++ hdr ++ R`: trailing CR / LF are cut off, then it ends at a NUL -/
theorem text_contains (txt A hdr R : Bytes) (r2 : Nat) (hr : r2 = (txt.reverse.dropWhile (fun b => b == 13 || b == 10)).length)
    (htxt : txt = A ++ hdr ++ R) (hnz : ∀ x ∈ A ++ hdr, x ≠ 0) (hne : hdr ≠ [])
    (hnl : ∀ x ∈ hdr, (x == 13 || x == 10) = false) :
    ∃ pre post, (if r2 = 0 then (txt.take r2).takeWhile (· ≠ 0) else ((txt.take r2).takeWhile (· ≠ 0)).take r2) =
      pre ++ hdr ++ post := by
  subst htxt
  -- the header ends in a byte that is not cut off
  have hr2 := dropWhile_append_length (fun b => b == 13 || b == 10) (A ++ hdr).reverse (by
    intro x hx
    rw [List.head?_reverse, List.getLast?_append, List.getLast?_eq_some_getLast hne] at hx
    cases hx
    exact hnl _ (List.getLast_mem hne)) R.reverse
  rw [← List.reverse_append, List.length_reverse] at hr2
  have hpos : 0 < (A ++ hdr).length := by
    rw [List.length_append]; have := List.length_pos_iff.2 hne; omega
  rw [← hr] at hr2
  generalize hP : A ++ hdr = P at hnz hr2 hpos ⊢
  rw [if_neg (by omega), List.take_append, List.take_of_length_le hr2,
    List.takeWhile_append_of_pos (by intro a ha; simpa using hnz a ha), List.take_append,
    List.take_of_length_le hr2, ← hP]
  exact ⟨_, _, rfl⟩

def expectOf (pats : List Pattern.Pat) (eff : Bytes) : Message.Expect :=
  match dispatch pats eff with
  | some i => .run i eff
  | none => .undefined eff

def nextEff (pe : Option Bytes) (hdr : Bytes) : Option Bytes :=
  if hdr.isEmpty then pe else some (effective pe hdr)

inductive UnitTrace (cmds : List Cmd) (pats : List Pattern.Pat) (pe : Option Bytes) (hdr : Bytes) : List Ev → Prop
  | none : hdr.isEmpty = true → UnitTrace cmds pats pe hdr []
  | one (ev : Ev) : ¬ hdr.isEmpty = true → realises cmds hdr (expectOf pats (effective pe hdr)) ev →
      UnitTrace cmds pats pe hdr [ev]

/-- the header of a detected unit as the specification lists it: none for a unit that is not well formed -/
def headerOf (s : Bytes) (u : Parser.Unit) : Bytes :=
  (s.drop u.header.ptr).take (if u.header.type != .invalid then u.header.len.toNat else 0)

/-- a unit whose text in the buffer is `A ++ hdr ++ R`, without NUL up to the end of the header as written `hdr`, once its
effective header `eff` lies at `cur`: one dispatch event, the entry of the table's handler for `eff` or the -113 -/
theorem unitCmd_spec (pats : List Pattern.Pat) (c : Ctx) (ht : TableOK c.cmds pats) (hs : NoScript113 c.cmds)
    (B lim base r dptr dlen : Nat) (cur : Nat × Nat) (res : Bool) (eff A hdr R : Bytes)
    (hP : PrevOK c.buf B lim (some cur) (some eff)) (hlim : lim ≤ c.buf.length)
    (htxt : (c.buf.drop base).take r = A ++ hdr ++ R) (hnz : ∀ x ∈ A ++ hdr, x ≠ 0) (hne : hdr ≠ [])
    (hnl : ∀ x ∈ hdr, (x == 13 || x == 10) = false) :
    (Isolation.unitCmd c base r dptr dlen cur res).1.buf = c.buf ∧
    ∃ ev, Traced c [ev] (Isolation.unitCmd c base r dptr dlen cur res).1 ∧ realises c.cmds hdr (expectOf pats eff) ev := by
  obtain ⟨o, n⟩ := cur
  have hlk := lookup_spec c.cmds pats ht c.buf B lim o n eff hP hlim
  unfold Isolation.unitCmd findCommand expectOf
  dsimp only at hlk ⊢
  rcases hlk with ⟨h1, h2⟩ | ⟨i, cmd, h1, h2, h3⟩ <;> rw [h1, h2] <;> dsimp only
  · obtain ⟨pre, post, h⟩ := text_contains _ A hdr R _ rfl htxt hnz hne hnl
    exact ⟨Params.pushError_buf _ _ _ _, _, pushError113_disp c _ _, pre, post, h⟩
  · exact ⟨Bounds.processCommand_buf _, _, processCommand_disp (Isolation.setUnit base dptr dlen cmd (o, n) c) cmd rfl
      (hs cmd (List.mem_of_find?_eq_some h1)), ⟨cmd, h3, rfl⟩, hP.2.2.1⟩

/-- one iteration of the unit loop on the unit found in `s`, which lies at `buf[b, b+l)`; `hnp`: if it is well formed,
its data list does not end in a separator -/
theorem stepUnit_spec (cmds : List Cmd) (pats : List Pattern.Pat) (ht : TableOK cmds pats) (hs : NoScript113 cmds)
    (B : Nat) (c : Ctx) (b l : Nat) (prev : Option (Nat × Nat)) (pe : Option Bytes) (res : Bool) (s : Bytes)
    (hcm : c.cmds = cmds) (hB : B ≤ b) (hN : b + l ≤ c.buf.length)
    (hsuf : (c.buf.drop b).take l = s) (hprev : PrevOK c.buf B b prev pe)
    (hnp : (detectUnit s).header.type ≠ .invalid → 0 ≤ (detectUnit s).nParams)
    {x : Ctx × Option (Nat × Nat) × Bool} (hx : Stage.UnitStep c b prev res (detectUnit s) x) :
    Frame B (b + (detectUnit s).consumed) c.buf x.1.buf ∧
    PrevOK x.1.buf B (b + (detectUnit s).consumed) x.2.1 (nextEff pe (headerOf s (detectUnit s))) ∧
    ∃ X, Traced c X x.1 ∧ UnitTrace cmds pats pe (headerOf s (detectUnit s)) X := by
  subst hcm
  have a2 := detect_consumed_le s
  have a7 := fun hwf hpos => And.intro (detect_header_inside s hwf hpos) (detect_header_bytes s hwf hpos)
  have hsl : s.length = l := by rw [← hsuf]; simp; omega
  unfold headerOf nextEff
  generalize detectUnit s = u at *
  have hprev' := PrevOK_mono hprev (Nat.le_add_right b u.consumed)
  cases hx
  case invalid hwf =>
    -- -101 is no dispatch event, and the unit has no header
    have q := traced_pushError c (-101) none 0
    rw [trace_pushEvents, if_neg (by decide)] at q
    rw [if_neg (show ¬ (u.header.type != .invalid) = true by rw [hwf]; decide), List.take_zero, if_pos List.isEmpty_nil]
    dsimp only
    rw [Params.pushError_buf]
    exact ⟨Frame.refl _ _ _, hprev', [], q, .none rfl⟩
  case separator hwf hpos hneg => exact absurd (hnp hwf) (by omega)
  case noHeader hwf hpos =>
    have hemp : ((s.drop u.header.ptr).take u.header.len.toNat).isEmpty = true := by
      rw [Int.toNat_of_nonpos (by omega)]; rfl
    rw [if_pos (show (u.header.type != .invalid) = true by simpa using hwf), if_pos hemp]
    exact ⟨Frame.refl _ _ _, hprev', [], ⟨rfl, [], (List.append_nil _).symm, rfl⟩, .none hemp⟩
  case header hwf hpos =>
    obtain ⟨b2, b3, b4⟩ := a7 hwf hpos
    have hne : (s.drop u.header.ptr).take u.header.len.toNat ≠ [] := by
      rw [← List.length_pos_iff, List.length_take, List.length_drop]; omega
    have hemp : ¬ ((s.drop u.header.ptr).take u.header.len.toNat).isEmpty = true := by
      rw [List.isEmpty_iff]; exact hne
    have hhdr : (c.buf.drop (b + u.header.ptr)).take u.header.len.toNat = (s.drop u.header.ptr).take u.header.len.toNat := by
      rw [← hsuf, List.drop_take, List.take_take, List.drop_drop, Nat.min_eq_left (by omega)]
    obtain ⟨k2, hP', m2⟩ := compose_next c.buf prev pe (b + u.header.ptr, u.header.len.toNat) B (by dsimp only; omega)
      (by dsimp only; omega) (by dsimp only; omega) (PrevOK_mono hprev (Nat.le_add_right b u.header.ptr))
      (by dsimp only; rw [hhdr]; exact b4)
    unfold Stage.compose
    generalize composeCompound c.buf prev (b + u.header.ptr, u.header.len.toNat) = cc at k2 m2 hP' ⊢
    obtain ⟨buf', cur, okc⟩ := cc
    dsimp only at k2 m2 hP' ⊢
    rw [hhdr] at hP'
    replace hP' := PrevOK_mono hP' (show b + u.header.ptr + u.header.len.toNat ≤ b + u.consumed by omega)
    -- the unit as it lies in the buffer: what precedes the header, the header as written, the rest
    have hsplit : (buf'.drop b).take u.consumed = (buf'.drop b).take u.header.ptr ++
        (s.drop u.header.ptr).take u.header.len.toNat ++
        (buf'.drop (b + (u.header.ptr + u.header.len.toNat))).take (u.consumed - (u.header.ptr + u.header.len.toNat)) := by
      rw [← hhdr, ← k2.2.2, ← List.drop_drop, ← List.drop_drop, ← List.take_add, ← List.take_add]
      congr 1; omega
    have hnz : ∀ x ∈ (buf'.drop b).take u.header.ptr ++ (s.drop u.header.ptr).take u.header.len.toNat, x ≠ 0 := by
      intro x hx
      rcases List.mem_append.1 hx with hx | hx
      · refine m2 b (by omega) ?_ x (by rw [Nat.add_sub_cancel_left]; exact hx)
        intro y hy
        apply b3 y
        rw [← hsuf, List.take_take, Nat.min_eq_left (by omega)]
        rw [Nat.add_sub_cancel_left] at hy
        exact hy
      · exact alpha_ne_zero x (b4 x hx)
    obtain ⟨e1, ev, q, hr⟩ := unitCmd_spec pats { c with buf := buf', oob := c.oob || !okc } ht hs B (b + u.consumed) b
      u.consumed u.data.ptr u.data.len.toNat cur res _ _ _ _ hP' (by dsimp only; rw [k2.1]; omega) hsplit hnz hne
      (fun x hx => alpha_not_nl x (b4 x hx))
    rw [Isolation.unitCmd_prev, e1, if_pos (show (u.header.type != .invalid) = true by simpa using hwf), if_neg hemp]
    exact ⟨k2.mono (Nat.le_refl _) (by omega), hP', [ev], q, .one ev hemp hr⟩

/-- `expectDispatch` without the accumulator -/
def expGo (pats : List Pattern.Pat) : List UnitInfo → Option Bytes → List Message.Expect
  | [], _ => []
  | u :: rest, prev =>
    if u.header.isEmpty then expGo pats rest prev
    else expectOf pats (effective prev u.header) :: expGo pats rest (some (effective prev u.header))

theorem go_eq (pats : List Pattern.Pat) : ∀ (us : List UnitInfo) (prev : Option Bytes) (acc : List Message.Expect),
    expectDispatch.go pats us prev acc = acc.reverse ++ expGo pats us prev := by
  intro us
  induction us with
  | nil => intro prev acc; simp [expectDispatch.go, expGo]
  | cons u rest ih =>
    intro prev acc
    unfold expectDispatch.go expGo
    split
    · exact ih prev acc
    · dsimp only
      unfold expectOf
      cases hd : dispatch pats (effective prev u.header) with
      | none => dsimp only; rw [ih]; simp
      | some i => dsimp only; rw [ih]; simp

theorem expectDispatch_eq (pats : List Pattern.Pat) (us : List UnitInfo) :
    expectDispatch pats us = expGo pats us none := by
  unfold expectDispatch
  rw [go_eq]; rfl

/-- the dispatch events realise, one for one and in order, what is expected of the units that have a header -/
def Real (cmds : List Cmd) : List Ev → List UnitInfo → List Message.Expect → Prop
  | [], [], [] => True
  | e :: es, u :: us, w :: ws => realises cmds u.header w e ∧ Real cmds es us ws
  | _, _, _ => False

theorem real_index (cmds : List Cmd) : ∀ (got : List Ev) (us : List UnitInfo) (want : List Message.Expect),
    Real cmds got us want →
    got.length = want.length ∧ us.length = want.length ∧
    ∀ k (hk : k < want.length), ∃ e u, got[k]? = some e ∧ us[k]? = some u ∧ realises cmds u.header want[k] e := by
  intro got
  induction got with
  | nil =>
    intro us want h
    match us, want, h with
    | [], [], _ => exact ⟨rfl, rfl, fun k hk => absurd hk (by simp)⟩
  | cons e es ih =>
    intro us want h
    match us, want, h with
    | u :: us, w :: ws, ⟨h1, h2⟩ =>
      obtain ⟨i1, i2, i3⟩ := ih us ws h2
      refine ⟨by simp [i1], by simp [i2], ?_⟩
      intro k hk
      cases k with
      | zero => exact ⟨e, u, rfl, rfl, h1⟩
      | succ k =>
        obtain ⟨e', u', j1, j2, j3⟩ := i3 k (by simpa using hk)
        exact ⟨e', u', by simpa using j1, by simpa using j2, by simpa using j3⟩

theorem Real.nil (cmds : List Cmd) : Real cmds [] [] [] := trivial

theorem Real.cons {cmds : List Cmd} {pats : List Pattern.Pat} {pe : Option Bytes} {u : UnitInfo} {us : List UnitInfo}
    {X Y : List Ev} (h1 : UnitTrace cmds pats pe u.header X)
    (h2 : Real cmds Y (us.filter (fun u => !u.header.isEmpty)) (expGo pats us (nextEff pe u.header))) :
    Real cmds (X ++ Y) ((u :: us).filter (fun u => !u.header.isEmpty)) (expGo pats (u :: us) pe) := by
  unfold nextEff at h2
  unfold expGo
  cases h1 with
  | none he =>
    rw [if_pos he] at h2 ⊢
    rw [List.filter_cons_of_neg (by rw [he]; exact Bool.false_ne_true)]
    exact h2
  | one ev he hr =>
    rw [if_neg he] at h2 ⊢
    rw [List.filter_cons_of_pos (by rw [Bool.not_eq_true] at he; rw [he]; rfl)]
    exact ⟨hr, h2⟩

/-- the walk of the specification goes over the detected units (`specUnit_detect`), as `parseLoop` does -/
theorem units_succ (g : Nat) (M : Bytes) (off : Nat) :
    units (g + 1) M off =
      ⟨off, (detectUnit (M.drop off)).consumed, (detectUnit (M.drop off)).header.type != .invalid,
        headerOf (M.drop off) (detectUnit (M.drop off)), (detectUnit (M.drop off)).header.type,
        (detectUnit (M.drop off)).nParams⟩ ::
      (if (detectUnit (M.drop off)).consumed = 0 ∨ off + (detectUnit (M.drop off)).consumed ≥ M.length then []
       else units g M (off + (detectUnit (M.drop off)).consumed)) := by
  have h := specUnit_detect (M.drop off)
  -- (the unit as a variable: matching fields of `specOf (detectUnit ..)` with fields of `detectUnit ..` unfolds the detector)
  generalize detectUnit (M.drop off) = u at h ⊢
  rw [units, h]
  split <;> rename_i hc
  · rw [if_pos (show u.consumed = 0 ∨ off + u.consumed ≥ M.length from hc)]; rfl
  · rw [if_neg (show ¬ (u.consumed = 0 ∨ off + u.consumed ≥ M.length) from hc)]; rfl

/-- the loop on the rest `M.drop o` of the message `M` lying at `buf[B, B + M.length)`, against the units of the
specification (one budget for both: each iteration takes a unit) -/
theorem parseLoop_spec (cmds : List Cmd) (pats : List Pattern.Pat) (ht : TableOK cmds pats) (hs : NoScript113 cmds)
    (M : Bytes) (B : Nat) :
    ∀ (g : Nat) (c : Ctx) (o : Nat) (prev : Option (Nat × Nat)) (pe : Option Bytes) (res : Bool),
      c.cmds = cmds → B + M.length ≤ c.buf.length → o ≤ M.length →
      (c.buf.drop (B + o)).take (M.length - o) = M.drop o → PrevOK c.buf B (B + o) prev pe →
      M.length - o + 1 ≤ g →
      (∀ u ∈ units g M o, u.wellFormed = true → 0 ≤ u.nParams) →
      ∃ X, Traced c X (parseLoop (g + 1) c (B + o) (M.length - o) prev res).1 ∧
        Real cmds X ((units g M o).filter (fun u => !u.header.isEmpty)) (expGo pats (units g M o) pe) := by
  intro g
  induction g with
  | zero => intro c o prev pe res _ _ _ _ _ hg; omega
  | succ g ih =>
    intro c o prev pe res hcm hN ho hwin hprev hg hwf
    rw [units_succ] at hwf ⊢
    generalize hs0 : M.drop o = s at hwin hwf ⊢
    rw [Stage.parseLoop_succ, hwin]
    have hx := Stage.stepCore_step c (B + o) prev res (detectUnit s)
    generalize Stage.stepCore c (B + o) prev res (detectUnit s) = x at hx ⊢
    have w2 := hwf _ List.mem_cons_self
    dsimp only at w2
    obtain ⟨t1, t3, X1, t4, t5⟩ := stepUnit_spec cmds pats ht hs B c (B + o) (M.length - o) prev pe res s hcm
      (Nat.le_add_right _ _) (by omega) hwin hprev (fun h => w2 (by simpa using h)) hx
    have hsl : s.length = M.length - o := by rw [← hs0, List.length_drop]
    by_cases hlt : (detectUnit s).consumed < M.length - o
    · have h1 := detect_consumed_pos s (by intro h0; rw [h0, List.length_nil] at hsl; omega)
      have hcond : ¬ ((detectUnit s).consumed = 0 ∨ o + (detectUnit s).consumed ≥ M.length) := by omega
      rw [if_neg hcond] at hwf
      rw [if_pos hlt, if_neg hcond, Nat.add_assoc, ← Nat.sub_add_eq]
      rw [Nat.add_assoc] at t1 t3
      have hwin' : (x.1.buf.drop (B + (o + (detectUnit s).consumed))).take (M.length - (o + (detectUnit s).consumed)) =
          M.drop (o + (detectUnit s).consumed) := by
        rw [t1.2.2, Nat.sub_add_eq, ← Nat.add_assoc, ← List.drop_drop, ← List.drop_take, hwin, ← hs0, List.drop_drop]
      obtain ⟨X2, q1, q2⟩ := ih x.1 (o + (detectUnit s).consumed) x.2.1 _ x.2.2 (t4.1.trans hcm)
        (by rw [t1.1]; exact hN) (by omega) hwin' t3 (by omega) (fun u hu => hwf u (List.mem_cons_of_mem _ hu))
      refine ⟨X1 ++ X2, t4.trans q1, Real.cons ?_ ?_⟩ <;> dsimp only
      · exact t5
      · exact q2
    · have hcond : (detectUnit s).consumed = 0 ∨ o + (detectUnit s).consumed ≥ M.length := by omega
      rw [if_neg hlt, if_pos hcond]
      refine ⟨X1 ++ [], by rw [List.append_nil]; exact t4, Real.cons ?_ ?_⟩ <;> dsimp only
      · exact t5
      · exact Real.nil cmds

/-- C02 for any message whose well-formed units have data lists that do not end in a separator: a unit that is not well
formed has no header in the specification's list, and the loop answers it with -101, which is no dispatch event -/
theorem dispatch_general (c : Ctx) (base len : Nat) (pats : List Pattern.Pat)
    (hb : base + len ≤ c.buf.length) (ht : TableOK c.cmds pats) (hs : NoScript113 c.cmds)
    (hwf : ∀ u ∈ unitsOf ((c.buf.drop base).take len), u.wellFormed = true → 0 ≤ u.nParams) :
    let msg := (c.buf.drop base).take len
    let us := (unitsOf msg).filter (fun u => !u.header.isEmpty)
    let want := expectDispatch pats (unitsOf msg)
    let got := dispatchTrace ((parse c base len).1.events.drop c.events.length)
    got.length = want.length ∧ us.length = want.length ∧
    ∀ k (hk : k < want.length), ∃ e u, got[k]? = some e ∧ us[k]? = some u ∧ realises c.cmds u.header want[k] e := by
  intro msg us want got
  have hml : msg.length = len := window_length c.buf base len hb
  obtain ⟨X, ⟨-, es, e1, rfl⟩, e2⟩ := parseLoop_spec c.cmds pats ht hs msg base (msg.length + 1)
    (emit { c with out := ParseLocalAux.outReset c.out } (.parseMsg msg)) 0 none none true rfl (by rw [hml]; exact hb)
    (Nat.zero_le _) (by rw [hml]; rfl) trivial (Nat.le_refl _) hwf
  rw [hml] at e1
  have hgot : got = dispatchTrace es := by
    show dispatchTrace ((parse c base len).1.events.drop c.events.length) = _
    rw [ParseLocalAux.parse_eq, show len + 2 = len + 1 + 1 from rfl]
    generalize parseLoop _ _ _ _ _ _ = x at e1 ⊢
    show dispatchTrace (x.1.events.drop c.events.length) = _
    rw [e1]
    show dispatchTrace ((c.events ++ [Ev.parseMsg _] ++ es).drop c.events.length) = _
    rw [List.append_assoc, List.drop_left]
    rfl
  rw [hgot, show want = expGo pats (unitsOf msg) none from expectDispatch_eq _ _]
  exact real_index c.cmds _ _ _ e2

theorem dispatch_correct (c : Ctx) (base len : Nat) (pats : List Pattern.Pat)
    (hb : base + len ≤ c.buf.length) (ht : TableOK c.cmds pats) (hs : NoScript113 c.cmds)
    (hwf : ∀ u ∈ unitsOf ((c.buf.drop base).take len), u.wellFormed = true ∧ 0 ≤ u.nParams) :
    let msg := (c.buf.drop base).take len
    let us := (unitsOf msg).filter (fun u => !u.header.isEmpty)
    let want := expectDispatch pats (unitsOf msg)
    let got := dispatchTrace ((parse c base len).1.events.drop c.events.length)
    got.length = want.length ∧ us.length = want.length ∧
    ∀ k (hk : k < want.length), ∃ e u, got[k]? = some e ∧ us[k]? = some u ∧ realises c.cmds u.header want[k] e :=
  dispatch_general c base len pats hb ht hs fun u hu _ => (hwf u hu).2

end ScpiVerif.Lemmas.Dispatch
