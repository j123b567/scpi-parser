/-
C08, streams with quoted strings.  `QuotesLineLocal` (Spec/Chunking.lean: no word of the string language that starts
directly after a blank or a comma contains a line terminator) is closed under taking factors, is implied by `NoQuotes`,
is decidable, and makes the string token at a program-data position prefix-stable: with a line terminator at index `i`
of `s`, the string token of `s ++ y` and of `s` are the same (`specToken_string_stable`).
-/
import ScpiVerif.Spec.Chunking
import ScpiVerif.Spec.Unit
import ScpiVerif.Lemmas.Regex
import ScpiVerif.Lemmas.LexData

namespace ScpiVerif.Lemmas.Chunking
open ScpiVerif ScpiVerif.Lexer ScpiVerif.Spec ScpiVerif.Props.C08

theorem SepBefore.of_drop {s : Bytes} {k p : Nat} (h : SepBefore (s.drop k) p) : SepBefore s (k + p) := by
  obtain ⟨h0, b, hb, hs⟩ := h
  refine ⟨by omega, b, ?_, hs⟩
  rw [List.getElem?_drop] at hb
  rw [show k + p - 1 = k + (p - 1) by omega]
  exact hb

theorem SepBefore.of_take {s : Bytes} {m p : Nat} (h : SepBefore (s.take m) p) : SepBefore s p := by
  obtain ⟨h0, b, hb, hs⟩ := h
  refine ⟨h0, b, ?_, hs⟩
  rw [List.getElem?_take] at hb
  split at hb
  · exact hb
  · cases hb

theorem SepBefore.le {s : Bytes} {p : Nat} (h : SepBefore s p) : p ≤ s.length := by
  obtain ⟨h0, b, hb, _⟩ := h
  have := (List.getElem?_eq_some_iff.1 hb).1
  omega

theorem SepBefore.append {s : Bytes} {p : Nat} (h : SepBefore s p) (y : Bytes) : SepBefore (s ++ y) p := by
  have hl := SepBefore.le h
  obtain ⟨h0, b, hb, hs⟩ := h
  exact ⟨h0, b, by rw [List.getElem?_append_left (by omega)]; exact hb, hs⟩

theorem SepBefore.of_get {s : Bytes} {j : Nat} {b : UInt8} (h : s[j]? = some b) (hb : isSep b = true) :
    SepBefore s (j + 1) :=
  ⟨Nat.succ_pos _, b, h, hb⟩

theorem qll_drop {s : Bytes} (h : QuotesLineLocal s) (k : Nat) : QuotesLineLocal (s.drop k) := by
  intro p n q hq hp hacc
  rw [List.drop_drop] at hacc ⊢
  exact h (k + p) n q hq (SepBefore.of_drop hp) hacc

theorem qll_take {s : Bytes} (h : QuotesLineLocal s) (m : Nat) : QuotesLineLocal (s.take m) := by
  intro p n q hq hp hacc
  rw [List.drop_take, List.take_take] at hacc ⊢
  exact h p _ q hq (SepBefore.of_take hp) hacc

theorem qll_left {s y : Bytes} (h : QuotesLineLocal (s ++ y)) : QuotesLineLocal s := by
  have := qll_take h s.length
  rwa [List.take_left'] at this
  rfl

theorem qll_right {s y : Bytes} (h : QuotesLineLocal (s ++ y)) : QuotesLineLocal y := by
  have := qll_drop h s.length
  rwa [List.drop_left'] at this
  rfl

theorem quoted_accepts_head {q : UInt8} {u : Bytes} (h : (quoted q).accepts u = true) : u.head? = some q := by
  obtain ⟨s, t, rfl, hs, _⟩ := Regex.matches_seq.1 ((Regex.accepts_iff_matches _ _).1 h)
  obtain ⟨b, rfl, hb⟩ := Regex.matches_chr.1 hs
  rw [eq_of_beq hb]
  rfl

theorem noQuotes_qll {s : Bytes} (h : NoQuotes s) : QuotesLineLocal s := by
  intro p n q hq _ hacc
  exfalso
  have hh := quoted_accepts_head hacc
  have hm : q ∈ (s.drop p).take n := by
    cases hu : (s.drop p).take n with
    | nil => rw [hu] at hh; cases hh
    | cons b t => rw [hu] at hh; simp at hh; rw [hh]; simp
  have hs : q ∈ s := List.mem_of_mem_drop (List.mem_of_mem_take hm)
  rcases hq with hq | hq
  · exact (h q hs).1 hq
  · exact (h q hs).2 hq

theorem noQuotes_left {s y : Bytes} (h : NoQuotes (s ++ y)) : NoQuotes s := fun b hb => h b (List.mem_append_left _ hb)

theorem longestString_none (q : UInt8) (s : Bytes) (hq : q ∉ s) : longestString q s = none := by
  unfold longestString
  have : (List.range (s.length + 1)).filter (fun n => (quoted q).accepts (s.take n) && s[n]? != some q) = [] := by
    rw [List.filter_eq_nil_iff]
    intro n _ hn
    rw [Bool.and_eq_true] at hn
    exact hq (List.mem_of_mem_take (List.mem_of_mem_head? (quoted_accepts_head hn.1)))
  rw [this]
  rfl

theorem specToken_string_none (s : Bytes) (hq : NoQuotes s) : specToken .string s = none := by
  have h34 : (34 : UInt8) ∉ s := fun h => (hq 34 h).1 rfl
  have h39 : (39 : UInt8) ∉ s := fun h => (hq 39 h).2 rfl
  simp only [specToken, longestString_none 34 s h34, longestString_none 39 s h39]

theorem sepBeforeB_iff (s : Bytes) (p : Nat) : sepBeforeB s p = true ↔ SepBefore s p := by
  unfold sepBeforeB SepBefore
  rw [Bool.and_eq_true, decide_eq_true_iff]
  constructor
  · rintro ⟨h0, h1⟩
    refine ⟨h0, ?_⟩
    cases hb : s[p - 1]? with
    | none => rw [hb] at h1; cases h1
    | some b => rw [hb] at h1; exact ⟨b, rfl, h1⟩
  · rintro ⟨h0, b, hb, hs⟩
    refine ⟨h0, ?_⟩
    rw [hb]; exact hs

theorem quotesLineLocalB_iff (s : Bytes) : quotesLineLocalB s = true ↔ QuotesLineLocal s := by
  simp only [quotesLineLocalB, List.all_eq_true, List.mem_range, Bool.or_eq_true, Bool.not_eq_true', Bool.and_eq_true,
    bne_iff_ne, ne_eq, List.mem_cons, List.not_mem_nil, or_false]
  constructor
  · intro h p n q hq hp hacc
    -- a word longer than `s` is the word of length `s.length`
    have hn : (s.drop p).take n = (s.drop p).take (min n s.length) := by
      rw [List.take_eq_take_iff, List.length_drop]; omega
    rw [hn] at hacc ⊢
    rcases h p (Nat.lt_succ_of_le (SepBefore.le hp)) with h1 | h1
    · rw [(sepBeforeB_iff s p).2 hp] at h1; cases h1
    · rcases h1 (min n s.length) (by omega) q hq with h3 | h3
      · rw [hacc] at h3; cases h3
      · exact h3
  · intro h p _
    cases hp : sepBeforeB s p with
    | false => exact Or.inl rfl
    | true =>
      refine Or.inr fun n _ q hq => ?_
      cases hacc : (quoted q).accepts ((s.drop p).take n) with
      | false => exact Or.inl rfl
      | true => exact Or.inr (h p n q hq ((sepBeforeB_iff s p).1 hp) hacc)

instance (s : Bytes) : Decidable (QuotesLineLocal s) := decidable_of_iff _ (quotesLineLocalB_iff s)

/-- what `QuotesLineLocal` says about a position after a blank or a comma, seen from that position -/
def StrOK (w : Bytes) : Prop :=
  ∀ n q, (q = 34 ∨ q = 39) → (quoted q).accepts (w.take n) = true → ∀ b ∈ w.take n, b ≠ 10 ∧ b ≠ 13

theorem qll_strOK {s : Bytes} (h : QuotesLineLocal s) {p : Nat} (hp : SepBefore s p) : StrOK (s.drop p) :=
  fun n q hq hacc => h p n q hq hp hacc

def NLat (s : Bytes) (i : Nat) : Prop := s[i]? = some 10 ∨ s[i]? = some 13

theorem NLat.lt {s : Bytes} {i : Nat} (h : NLat s i) : i < s.length := by
  rcases h with h | h <;> exact (List.getElem?_eq_some_iff.1 h).1

theorem NLat.append {s : Bytes} {i : Nat} (h : NLat s i) (y : Bytes) : NLat (s ++ y) i := by
  have hl := h.lt
  rcases h with h | h
  · left; rw [List.getElem?_append_left hl]; exact h
  · right; rw [List.getElem?_append_left hl]; exact h

theorem longestString_stable (q : UInt8) (hq : q = 34 ∨ q = 39) (s y : Bytes) (i : Nat) (hi : NLat s i)
    (h : StrOK (s ++ y)) : longestString q (s ++ y) = longestString q s := by
  have hil := hi.lt
  -- no word of the string language in `s ++ y` reaches over the line terminator
  have kill : ∀ n, i < n → (quoted q).accepts ((s ++ y).take n) = false := by
    intro n hn
    cases hacc : (quoted q).accepts ((s ++ y).take n) with
    | false => rfl
    | true =>
      exfalso
      rcases hi.append y with h10 | h13
      · exact (h n q hq hacc 10 (ByteList.mem_take_idx h10 hn)).1 rfl
      · exact (h n q hq hacc 13 (ByteList.mem_take_idx h13 hn)).2 rfl
  unfold longestString
  refine congrArg List.getLast? (ByteList.filter_range_agree (i + 1) (by rw [List.length_append]; omega) (by omega)
    (fun n hn => ?_) (fun n h1 _ => ?_) (fun n h1 h2 => ?_))
  · rw [List.take_append_of_le_length (by omega), List.getElem?_append_left (by omega)]
  · rw [kill n (by omega)]; rfl
  · have := kill n (by omega)
    rw [List.take_append_of_le_length (by omega)] at this
    rw [this]; rfl

theorem specToken_string_stable (s y : Bytes) (i : Nat) (hi : NLat s i) (h : StrOK (s ++ y)) :
    specToken .string (s ++ y) = specToken .string s := by
  simp only [specToken, longestString_stable 34 (Or.inl rfl) s y i hi h, longestString_stable 39 (Or.inr rfl) s y i hi h]

theorem wsLen_last {s : Bytes} (h : 0 < wsLen s) : ∃ b, s[wsLen s - 1]? = some b ∧ isSep b = true := by
  rw [Lemmas.Lexer.pdata_wsLen_eq_tw] at h ⊢
  obtain ⟨b, hb, hs⟩ := Lemmas.Lexer.hd_cons_drop (Lemmas.Lexer.hd_drop_of_lt_tw (Nat.sub_one_lt_of_lt h))
  refine ⟨b, ?_, by unfold isSep; rw [hb]; rfl⟩
  rw [Lemmas.Lexer.getElem?_eq_head_drop, hs]
  rfl

end ScpiVerif.Lemmas.Chunking
