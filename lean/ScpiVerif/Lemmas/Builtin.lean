/-
Normal form of `Ctx.runBuiltin` (the library's own handlers, Model/Ctx.lean), shared by every development
that analyses `runOp` by cases:

* four handlers read one mandatory int32 and write it to an enable register (`paramReg`): they are
  `regFromParam`, i.e. `paramInt` followed by one `Regs.step … (.set reg v)`;
* every other handler touches only the status registers, the error queue and the output state, and appends
  at most one event (`.noError` / `.reset`); what it does is a function of (registers, queue) — `bRegs`, `bEq`,
  `bOut`, `bEvs` — and of nothing else in the context.
-/
import ScpiVerif.Model.Ctx
import ScpiVerif.Lemmas.Regs


namespace ScpiVerif.Lemmas.Builtin
open ScpiVerif ScpiVerif.Ctx ScpiVerif.Result ScpiVerif.Lexer

/-- the register written, and whether a failed reader fails the handler -/
def paramReg : Builtin → Option (Nat × Bool)
  | .ese => some (Regs.ESE, true)
  | .sre => some (Regs.SRE, true)
  | .quesEnab => some (Regs.QUESE, false)
  | .operEnab => some (Regs.OPERE, false)
  | _ => none

def regOp : Builtin → Option Regs.Op
  | .cls => some .cls
  | .esrQ => some .esrQ
  | .opc => some (.setBits Regs.ESR (Regs.bv Gen.ESR_OPC))
  | .errNextQ => some .errPop
  | .quesEvenQ => some .quesQ
  | .operEvenQ => some .operQ
  | .pres => some .preset
  | _ => none

def bRegs (r : Regs.St) (b : Builtin) : Regs.St :=
  match regOp b with
  | some op => Regs.step r op
  | none => r

def bEq (q : Fifo.EQ) : Builtin → Fifo.EQ
  | .cls => q.clear
  | .errNextQ => q.sysErrNext.1
  | _ => q

/-- `SCPI_ResultInt32` of a non-negative value -/
def outNat (n : Nat) (o : Out) : Out := resultIntBaseSign o 32 n 10 true

def outReg (r : Regs.St) (reg : Nat) (o : Out) : Out := outNat (Regs.get r reg).toNat o

def bOut (r : Regs.St) (q : Fifo.EQ) : Builtin → Out → Out
  | .eseQ => outReg r Regs.ESE
  | .esrQ => outReg r Regs.ESR
  | .idnQ fields => fun o => (List.range 4).foldl (fun o i => resultCharacters o (idnField fields i)) o
  | .opcQ => outNat 1
  | .sreQ => outReg r Regs.SRE
  | .stbQ => outReg r Regs.STB
  | .tstQ => outNat 0
  | .stubQ => outNat 0
  | .versQ => fun o => resultCharacters o (bytesOf Gen.STD_VERSION)
  | .errNextQ => fun o =>
    resultError o q.sysErrNext.2.code (errorTranslate q.sysErrNext.2.code) [q.sysErrNext.2.info.map (·.2)]
  | .errCountQ => outNat q.count
  | .quesCondQ => outReg r Regs.QUESC
  | .quesEvenQ => outReg r Regs.QUES
  | .quesEnabQ => outReg r Regs.QUESE
  | .operCondQ => outReg r Regs.OPERC
  | .operEvenQ => outReg r Regs.OPER
  | .operEnabQ => outReg r Regs.OPERE
  | _ => fun o => o

def cbEvs (b : Bool) : List Ev := if b then [Ev.noError] else []

/-- did the status-side operation report the "queue empty" callback -/
def fired (r : Regs.St) (op : Regs.Op) : Bool := decide ((Regs.step r op).errcb.length > r.errcb.length)

def bEvs (r : Regs.St) : Builtin → List Ev
  | .cls => cbEvs (fired r .cls)
  | .errNextQ => cbEvs (fired r .errPop)
  | .rst => [.reset]
  | _ => []

theorem noErrorCb_eq (c : Ctx) (r : Regs.St) :
    noErrorCb c r = { c with regs := r, events := c.events ++ cbEvs (decide (r.errcb.length > c.regs.errcb.length)) } := by
  unfold noErrorCb cbEvs
  by_cases h : r.errcb.length > c.regs.errcb.length <;> simp [h, emit]

theorem runBuiltin_pure (c : Ctx) (b : Builtin) (h : paramReg b = none) :
    runBuiltin c b = ({ c with regs := bRegs c.regs b, eq := bEq c.eq b, out := bOut c.regs c.eq b c.out,
                                events := c.events ++ bEvs c.regs b }, true) := by
  cases b
  case cls | errNextQ => simp only [runBuiltin, noErrorCb_eq, bRegs, regOp, bEq, bOut, bEvs, fired]
  case ese | sre | quesEnab | operEnab => cases h
  all_goals simp [runBuiltin, bRegs, regOp, bEq, bOut, bEvs, resultReg, resultNat32, regStep, outReg, outNat, emit]

theorem runBuiltin_param (c : Ctx) (b : Builtin) (reg : Nat) (strict : Bool) (h : paramReg b = some (reg, strict)) :
    runBuiltin c b = ((regFromParam c reg).1, (regFromParam c reg).2 || !strict) := by
  cases b <;> cases h <;> simp only [runBuiltin, Bool.not_true, Bool.or_false, Bool.not_false, Bool.or_true]

theorem regFromParam_eq (c : Ctx) (reg : Nat) :
    regFromParam c reg =
      (if (paramInt c 32 true true).2.1 = true
        then regStep (paramInt c 32 true true).1 (.set reg (Regs.bv (paramInt c 32 true true).2.2))
        else (paramInt c 32 true true).1, (paramInt c 32 true true).2.1) := by
  unfold regFromParam
  generalize paramInt c 32 true true = r
  obtain ⟨c1, ok, v⟩ := r
  cases ok <;> rfl

theorem fired_core (r : Regs.St) (op : Regs.Op) : fired r op = fired (Lemmas.Regs.core r) op := by
  unfold fired
  rw [Lemmas.Regs.step_frame r op]
  simp [Lemmas.Regs.pre, Lemmas.Regs.core]

theorem bEvs_core (r : Regs.St) (b : Builtin) : bEvs r b = bEvs (Lemmas.Regs.core r) b := by
  cases b
  case cls => exact congrArg cbEvs (fired_core r .cls)
  case errNextQ => exact congrArg cbEvs (fired_core r .errPop)
  all_goals rfl

end ScpiVerif.Lemmas.Builtin
