/-
Correctness of the Brzozowski-derivative matcher of Spec/Tokens.lean against the declarative
semantics `Matches`: `nullable`, `deriv`, `isNone`, `accepts`, `longestAux` / `longest`.
-/
import ScpiVerif.Spec.Tokens

namespace ScpiVerif.Lemmas.Regex
open ScpiVerif ScpiVerif.Spec ScpiVerif.Spec.Re
open ScpiVerif.Lexer (Bytes)

theorem matches_empty {u : Bytes} : ¬ Matches .empty u := by
  intro h; cases h

theorem matches_eps {u : Bytes} : Matches .eps u ↔ u = [] := by
  constructor
  · intro h; cases h; rfl
  · rintro rfl; exact .eps

theorem matches_chr {p : UInt8 → Bool} {u : Bytes} :
    Matches (.chr p) u ↔ ∃ b, u = [b] ∧ p b = true := by
  constructor
  · intro h; cases h with | chr _ b hb => exact ⟨b, rfl, hb⟩
  · rintro ⟨b, rfl, hb⟩; exact .chr p b hb

theorem matches_seq {a b : Re} {u : Bytes} :
    Matches (.seq a b) u ↔ ∃ s t, u = s ++ t ∧ Matches a s ∧ Matches b t := by
  constructor
  · intro h; cases h with | seq h1 h2 => exact ⟨_, _, rfl, h1, h2⟩
  · rintro ⟨s, t, rfl, h1, h2⟩; exact .seq h1 h2

theorem matches_alt {a b : Re} {u : Bytes} :
    Matches (.alt a b) u ↔ Matches a u ∨ Matches b u := by
  constructor
  · intro h
    cases h with
    | altL h => exact .inl h
    | altR h => exact .inr h
  · rintro (h | h)
    · exact .altL h
    · exact .altR h

theorem matches_chr_cons {p : UInt8 → Bool} {c : UInt8} {u : Bytes} :
    Matches (.chr p) (c :: u) ↔ p c = true ∧ u = [] := by
  constructor
  · intro h; cases h with | chr _ _ hb => exact ⟨hb, rfl⟩
  · rintro ⟨hp, rfl⟩; exact .chr p c hp

/-- the first byte lies in the first part, or in the second behind an empty first part -/
theorem matches_seq_cons {a b : Re} {c : UInt8} {u : Bytes} :
    Matches (.seq a b) (c :: u) ↔
      (∃ s t, u = s ++ t ∧ Matches a (c :: s) ∧ Matches b t) ∨ (Matches a [] ∧ Matches b (c :: u)) := by
  rw [matches_seq]
  constructor
  · rintro ⟨s, t, h, h1, h2⟩
    rcases List.cons_eq_append_iff.1 h with ⟨rfl, rfl⟩ | ⟨s', rfl, rfl⟩
    · exact .inr ⟨h1, h2⟩
    · exact .inl ⟨s', t, rfl, h1, h2⟩
  · rintro (⟨s, t, rfl, h1, h2⟩ | ⟨h1, h2⟩)
    · exact ⟨c :: s, t, rfl, h1, h2⟩
    · exact ⟨[], c :: u, rfl, h1, h2⟩

theorem matches_star_cons {a : Re} {c : UInt8} {u : Bytes} (h : Matches (.star a) (c :: u)) :
    ∃ s t, u = s ++ t ∧ Matches a (c :: s) ∧ Matches (.star a) t := by
  generalize hr : Re.star a = r at h
  generalize hw : c :: u = w at h
  induction h with
  | eps => cases hr
  | chr => cases hr
  | seq => cases hr
  | altL => cases hr
  | altR => cases hr
  | starNil => cases hw
  | @starCons a' s t h1 h2 _ ih2 =>
    cases hr
    cases s with
    | nil => exact ih2 rfl (by simpa using hw)
    | cons d s' =>
      simp at hw
      obtain ⟨rfl, rfl⟩ := hw
      exact ⟨s', t, rfl, h1, h2⟩

theorem matches_star {a : Re} {u : Bytes} :
    Matches (.star a) u ↔ u = [] ∨ ∃ s t, u = s ++ t ∧ s ≠ [] ∧ Matches a s ∧ Matches (.star a) t := by
  constructor
  · intro h
    cases u with
    | nil => exact .inl rfl
    | cons c u =>
      obtain ⟨s, t, rfl, h1, h2⟩ := matches_star_cons h
      exact .inr ⟨c :: s, t, rfl, by simp, h1, h2⟩
  · rintro (rfl | ⟨s, t, rfl, _, h1, h2⟩)
    · exact .starNil
    · exact .starCons h1 h2

/-- every character class of `r` lies within `q` -/
def reAll (q : UInt8 → Prop) : Re → Prop
  | .chr p => ∀ b, p b = true → q b
  | .seq a b | .alt a b => reAll q a ∧ reAll q b
  | .star a => reAll q a
  | _ => True

theorem matches_all {q : UInt8 → Prop} {r : Re} {u : Bytes} (h : Matches r u) (hr : reAll q r) :
    ∀ b ∈ u, q b := by
  induction h with
  | eps => simp
  | chr p b hb => simpa using hr b hb
  | seq _ _ ih1 ih2 => simpa [or_imp, forall_and] using ⟨ih1 hr.1, ih2 hr.2⟩
  | altL _ ih => exact ih hr.1
  | altR _ ih => exact ih hr.2
  | starNil => simp
  | starCons _ _ ih1 ih2 => simpa [or_imp, forall_and] using ⟨ih1 hr, ih2 hr⟩

theorem nullable_iff (r : Re) : r.nullable = true ↔ Matches r [] := by
  induction r with
  | empty => simp [nullable, matches_empty]
  | eps => simp [nullable, matches_eps]
  | chr p => simp [nullable, matches_chr]
  | seq a b iha ihb =>
    simp only [nullable, Bool.and_eq_true, iha, ihb, matches_seq]
    constructor
    · rintro ⟨h1, h2⟩; exact ⟨[], [], rfl, h1, h2⟩
    · rintro ⟨s, t, h, h1, h2⟩
      have : s = [] ∧ t = [] := by simpa using h.symm
      obtain ⟨rfl, rfl⟩ := this
      exact ⟨h1, h2⟩
  | alt a b iha ihb => simp [nullable, iha, ihb, matches_alt]
  | star a _ => simp [nullable]; exact .starNil

theorem deriv_iff (c : UInt8) (r : Re) (u : Bytes) : Matches (r.deriv c) u ↔ Matches r (c :: u) := by
  induction r generalizing u with
  | empty => simp [deriv, matches_empty]
  | eps => simp [deriv, matches_empty, matches_eps]
  | chr p =>
    rw [matches_chr_cons, deriv]
    by_cases hp : p c = true
    · rw [if_pos hp, matches_eps]; exact ⟨fun h => ⟨hp, h⟩, And.right⟩
    · rw [if_neg hp]; exact ⟨fun h => absurd h matches_empty, fun h => absurd h.1 hp⟩
  | seq a b iha ihb =>
    rw [matches_seq_cons, ← nullable_iff, deriv]
    by_cases hn : a.nullable = true
    · rw [if_pos hn]; simp only [matches_alt, matches_seq, iha, ihb, hn, true_and]
    · rw [if_neg hn]; simp only [matches_seq, iha, hn, Bool.false_eq_true, false_and, or_false]
  | alt a b iha ihb => simp [deriv, matches_alt, iha, ihb]
  | star a iha =>
    simp only [deriv, matches_seq, iha]
    exact ⟨fun ⟨s, t, e, h1, h2⟩ => e ▸ Matches.starCons (s := c :: s) h1 h2, matches_star_cons⟩

theorem accepts_iff_matches (r : Re) (s : Bytes) : r.accepts s = true ↔ Matches r s := by
  induction s generalizing r with
  | nil => simp [accepts, nullable_iff]
  | cons b bs ih => simp [accepts, ih, deriv_iff]

theorem isNone_sound (r : Re) (u : Bytes) (h : r.isNone = true) : ¬ Matches r u := by
  induction r generalizing u with
  | empty => exact matches_empty
  | eps => simp [isNone] at h
  | chr p => simp [isNone] at h
  | seq a b iha ihb =>
    simp only [isNone, Bool.or_eq_true] at h
    rw [matches_seq]
    rintro ⟨s, t, _, h1, h2⟩
    rcases h with h | h
    · exact iha s h h1
    · exact ihb t h h2
  | alt a b iha ihb =>
    simp only [isNone, Bool.and_eq_true] at h
    rw [matches_alt]
    rintro (h1 | h1)
    · exact iha u h.1 h1
    · exact ihb u h.2 h1
  | star a _ => simp [isNone] at h

section
/- `L'` is the derivative of `L` at `b`: how the longest prefix of `b :: bs` in `L` comes from that of `bs` in `L'` -/
variable {L L' : Bytes → Prop} {b : UInt8} {bs : Bytes} (hd : ∀ u, L' u ↔ L (b :: u))
include hd

theorem isLongest_cons_succ {k : Nat} (h : IsLongest L' bs k) : IsLongest L (b :: bs) (k + 1) := by
  refine ⟨Nat.succ_le_succ h.1, (hd _).1 h.2.1, fun m h1 h2 => ?_⟩
  obtain ⟨m, rfl⟩ : ∃ m', m = m' + 1 := ⟨m - 1, by omega⟩
  exact fun hm => h.2.2 m (by omega) (Nat.le_of_succ_le_succ h2) ((hd _).2 hm)

theorem no_prefix_cons (hno : ∀ m, m ≤ bs.length → ¬ L' (bs.take m)) (h0 : ¬ L []) :
    ∀ m, m ≤ (b :: bs).length → ¬ L ((b :: bs).take m)
  | 0, _ => h0
  | m + 1, h => fun hm => hno m (Nat.le_of_succ_le_succ h) ((hd _).2 hm)

theorem isLongest_cons_zero (hno : ∀ m, m ≤ bs.length → ¬ L' (bs.take m)) (h0 : L []) : IsLongest L (b :: bs) 0 := by
  refine ⟨Nat.zero_le _, h0, fun m h1 h2 => ?_⟩
  obtain ⟨m, rfl⟩ : ∃ m', m = m' + 1 := ⟨m - 1, by omega⟩
  exact fun hm => hno m (Nat.le_of_succ_le_succ h2) ((hd _).2 hm)

end

theorem longestAux_spec (r : Re) (s : Bytes) (n : Nat) (best : Option Nat) :
    (∃ k, IsLongest (Matches r) s k ∧ longestAux r s n best = some (n + k)) ∨
    ((∀ m, m ≤ s.length → ¬ Matches r (s.take m)) ∧ longestAux r s n best = best) := by
  induction s generalizing r n best with
  | nil =>
    rw [longestAux]
    by_cases hn : r.nullable = true
    · exact .inl ⟨0, ⟨Nat.le_refl _, (nullable_iff r).1 hn, fun m h1 h2 => absurd h2 (Nat.not_le_of_gt h1)⟩,
        by rw [if_pos hn]; rfl⟩
    · exact .inr ⟨fun m _ hm => hn ((nullable_iff r).2 (by simpa using hm)), if_neg hn⟩
  | cons b bs ih =>
    have h0 := nullable_iff r
    by_cases hz : r.isNone = true
    · have hno : ∀ u, ¬ Matches r u := fun u => isNone_sound r u hz
      refine .inr ⟨fun m _ => hno _, ?_⟩
      rw [longestAux, if_pos hz, if_neg (fun h => hno _ (h0.1 h))]
    · rw [longestAux, if_neg hz]
      rcases ih (r.deriv b) (n + 1) (if r.nullable then some n else best) with ⟨k, hk, hres⟩ | ⟨hno, hres⟩
      · exact .inl ⟨k + 1, isLongest_cons_succ (deriv_iff b r) hk, by rw [hres, Nat.add_assoc, Nat.add_comm 1]⟩
      · by_cases hn : r.nullable = true
        · exact .inl ⟨0, isLongest_cons_zero (deriv_iff b r) hno (h0.1 hn), by rw [hres, if_pos hn]; rfl⟩
        · exact .inr ⟨no_prefix_cons (deriv_iff b r) hno (fun h => hn (h0.2 h)), by rw [hres, if_neg hn]⟩

theorem isLongest_unique {L : Bytes → Prop} {s : Bytes} {n m : Nat}
    (hn : IsLongest L s n) (hm : IsLongest L s m) : n = m := by
  obtain ⟨a1, a2, a3⟩ := hn
  obtain ⟨b1, b2, b3⟩ := hm
  rcases Nat.lt_trichotomy n m with h | h | h
  · exact absurd b2 (a3 m h b1)
  · exact h
  · exact absurd a2 (b3 n h a1)

theorem longest_is_longest (r : Re) (s : Bytes) (n : Nat) :
    r.longest s = some n ↔ IsLongest (Matches r) s n := by
  unfold longest
  rcases longestAux_spec r s 0 none with ⟨k, hk, hres⟩ | ⟨hno, hres⟩
  · rw [hres]
    constructor
    · intro h
      have : k = n := by simpa using h
      exact this ▸ hk
    · intro h
      rw [isLongest_unique hk h]; simp
  · rw [hres]
    constructor
    · intro h; cases h
    · intro h; exact absurd h.2.1 (hno n h.1)

theorem longest_none (r : Re) (s : Bytes) :
    r.longest s = none ↔ ∀ m, m ≤ s.length → ¬ Matches r (s.take m) := by
  unfold longest
  rcases longestAux_spec r s 0 none with ⟨k, hk, hres⟩ | ⟨hno, hres⟩
  · rw [hres]
    constructor
    · intro h; cases h
    · intro h; exact absurd hk.2.1 (h k hk.1)
  · rw [hres]
    simpa using hno

end ScpiVerif.Lemmas.Regex
