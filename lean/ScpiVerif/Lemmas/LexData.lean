/-
One program data element.  `parseProgramData` tries the recognisers in a fixed order between blanks, `Spec.specData` chooses
among the same token specifications; with every recogniser an equation the cascade is one too: `parseProgramData_eq :
parseProgramData buf pos = dataResult .. (specData ..)`, whence `programData_spec`, the statement of Props/C13.  The white space
as `Spec.wsLen` counts it (`pdata_wsLen_eq_tw`, `unit_ws`) is here for this module and for the message unit (Lemmas/Lexer.lean).
-/
import ScpiVerif.Model.Parser
import ScpiVerif.Spec.Unit
import ScpiVerif.Lemmas.LexPlain
import ScpiVerif.Lemmas.LexDecimal
import ScpiVerif.Lemmas.LexString
import ScpiVerif.Lemmas.LexBlock

namespace ScpiVerif.Lemmas.Lexer
open ScpiVerif ScpiVerif.Lexer ScpiVerif.Parser ScpiVerif.Spec ScpiVerif.Lemmas.Regex
open ScpiVerif.Spec.Re (opt plus nullable deriv longest)

theorem pdata_wsLen_eq_tw (s : Bytes) : wsLen s = tw isWs s := by
  unfold wsLen
  rw [specToken_ws]
  split
  · rfl
  · show 0 = _; omega

theorem pdata_wsLen_drop_wsLen (s : Bytes) : wsLen (s.drop (wsLen s)) = 0 := by
  rw [pdata_wsLen_eq_tw, pdata_wsLen_eq_tw]
  exact tw_eq_zero_iff.2 (hd_drop_tw _ _)

theorem pdata_wsLen_nil : wsLen [] = 0 := by
  rw [pdata_wsLen_eq_tw]; rfl

theorem unit_wsLen_le (s : Bytes) : wsLen s ≤ s.length := by
  rw [pdata_wsLen_eq_tw]; exact tw_le_length _ _

theorem unit_ws_bound (buf : Bytes) (pos : Nat) (h : pos ≤ buf.length) :
    pos + wsLen (buf.drop pos) ≤ buf.length := by
  have := unit_wsLen_le (buf.drop pos)
  simp at this; omega

theorem unit_ws (buf : Bytes) (pos : Nat) :
    lexWhiteSpace buf pos =
      (pos + wsLen (buf.drop pos),
       Token.mk (if wsLen (buf.drop pos) > 0 then .ws else .unknown) pos (wsLen (buf.drop pos)),
       (wsLen (buf.drop pos) : Int)) := by
  rw [pdata_wsLen_eq_tw, whiteSpace_eq, specToken_ws, found_closed]

/- The cascade of `parseProgramData` between its blanks, cut at the alternatives that are not a plain "try the next":
`pdata_core1`, `pdata_core3`, `pdata_core5` are the cascade from its first, third and fifth recogniser on (`r1`, `r3`, `r5` in
Model/Parser.lean), `pdata_try` one plain step, `pdata_dec` what is made of a decimal number: blanks and a suffix if there
is one; `pdata_parse_close` is `parseProgramData` in these terms.  `pdata_tok`, `pdata_sd3`, `pdata_sd5` cut `specData` at
the same places (`pdata_specData_eq`), so that the two sides are compared alternative by alternative (`pdata_close_*`). -/

def pdata_try (f g : Nat → Nat × Token × Int) (q : Nat) : Nat × Token × Int :=
  if (f q).2.2 != 0 then f q else g (f q).1

def pdata_dec (buf : Bytes) (r3 : Nat × Token × Int) : Nat × Token × Int :=
  let a := lexWhiteSpace buf r3.1
  let b := lexSuffix buf a.1
  if b.2.2 > 0 then
    (b.1, { r3.2.1 with len := r3.2.1.len + a.2.2 + b.2.2, type := .decimalWithSuffix }, r3.2.1.len + a.2.2 + b.2.2)
  else (b.1, r3.2.1, r3.2.2 + a.2.2)
def pdata_core5 (buf : Bytes) : Nat → Nat × Token × Int := pdata_try (lexBlock buf) (lexExpression buf)
def pdata_core3 (buf : Bytes) (q : Nat) : Nat × Token × Int :=
  if (lexDecimal buf q).2.2 != 0 then pdata_dec buf (lexDecimal buf q)
  else pdata_try (lexString buf) (pdata_core5 buf) (lexDecimal buf q).1
def pdata_core1 (buf : Bytes) : Nat → Nat × Token × Int :=
  pdata_try (lexNondecimal buf) (pdata_try (lexCharacterProgramData buf) (pdata_core3 buf))

def pdata_tok (k : Kind) (s : Bytes) (d : DataSpec) : DataSpec :=
  match specToken k s with
  | some e => .item e.consumed e.type e.payloadOff e.payloadLen
  | none => d

theorem pdata_tok_item {k : Kind} {s : Bytes} {d : DataSpec} {n : Nat} {t : TokType} {po pl : Nat}
    (h : pdata_tok k s d = .item n t po pl) : specToken k s = some ⟨n, t, po, pl⟩ ∨ d = .item n t po pl := by
  unfold pdata_tok at h
  split at h
  · cases h; exact .inl ‹_›
  · exact .inr h

def pdata_sd5 (s : Bytes) : DataSpec :=
  match specBlock s with
  | .valid h n => .item (h + n) .block h n
  | .incomplete => .swallow
  | .invalid => pdata_tok .expression s .none

def pdata_sd3 (s : Bytes) : DataSpec :=
  match specToken .decimal s with
  | some e =>
    let w := wsLen (s.drop e.consumed)
    match specToken .suffix (s.drop (e.consumed + w)) with
    | some sf => .item (e.consumed + w + sf.consumed) .decimalWithSuffix 0 (e.consumed + w + sf.consumed)
    | none => .item e.consumed .decimal 0 e.consumed
  | none => pdata_tok .string s (pdata_sd5 s)

theorem pdata_specData_eq (s : Bytes) :
    specData s = pdata_tok .nondecimal s (pdata_tok .chr s (pdata_sd3 s)) := by
  unfold specData pdata_tok pdata_sd3 pdata_tok pdata_sd5 pdata_tok
  simp only []
  cases specToken .nondecimal s with
  | some _ => rfl
  | none =>
  cases specToken .chr s with
  | some _ => rfl
  | none =>
  cases specToken .decimal s with
  | some _ => rfl
  | none =>
  cases specToken .string s with
  | some _ => rfl
  | none => cases specBlock s <;> rfl

/-- what `parseProgramData` returns at `pos`, after `w0` blanks, when the specification finds `d` behind them -/
def dataResult (buf : Bytes) (pos w0 : Nat) : DataSpec → Nat × Token × Int
  | .item n t po pl => (pos + w0 + n + wsLen (buf.drop (pos + w0 + n)), ⟨t, pos + w0 + po, pl⟩,
      ((w0 + n + wsLen (buf.drop (pos + w0 + n)) : Nat) : Int))
  | .swallow => (buf.length, ⟨.unknown, buf.length, 0⟩, (w0 : Int))
  | .none => (pos + w0, ⟨.unknown, pos + w0, 0⟩, (w0 : Int))

/-- what `parseProgramData` makes of the result `c` of its cascade, after `w0` leading blanks -/
def pdata_close (buf : Bytes) (w0 : Nat) (c : Nat × Token × Int) : Nat × Token × Int :=
  (c.1 + wsLen (buf.drop c.1), c.2.1, c.2.2 + ((w0 : Int) + (wsLen (buf.drop c.1) : Nat)))

theorem pdata_parse_close (buf : Bytes) (pos : Nat) :
    parseProgramData buf pos =
      pdata_close buf (wsLen (buf.drop pos)) (pdata_core1 buf (pos + wsLen (buf.drop pos))) := by
  simp only [parseProgramData, pdata_core1, pdata_core3, pdata_dec, pdata_core5, pdata_try, unit_ws]
  rfl

theorem triple_ext {a a' : Nat} {t t' : Token} {x x' : Int} (h1 : a = a') (h2 : t = t') (h3 : x = x') :
    (a, t, x) = (a', t', x') := by
  subst h1 h2 h3; rfl

section cascade
variable (buf : Bytes) (pos w0 : Nat)

theorem pdata_close_found (e : Expect) :
    pdata_close buf w0 (found (pos + w0) (some e)) =
      dataResult buf pos w0 (.item e.consumed e.type e.payloadOff e.payloadLen) :=
  triple_ext rfl rfl (by dsimp only [found]; omega)

theorem pdata_close_none (hz : wsLen (buf.drop (pos + w0)) = 0) :
    pdata_close buf w0 (found (pos + w0) none) = dataResult buf pos w0 .none :=
  triple_ext (by dsimp only [found]; omega) rfl (by dsimp only [found]; omega)

/-- at the end of the input, after a block that has swallowed it -/
theorem pdata_close_end : pdata_close buf w0 (found buf.length none) = dataResult buf pos w0 .swallow := by
  have e : wsLen (buf.drop buf.length) = 0 := by rw [List.drop_length, pdata_wsLen_nil]
  exact triple_ext (by dsimp only [found]; omega) rfl (by dsimp only [found]; omega)

variable {buf pos w0}

theorem pdata_try_hit {f g : Nat → Nat × Token × Int} {q : Nat} (h : (f q).2.2 ≠ 0) : pdata_try f g q = f q :=
  if_pos (bne_iff_ne.2 h)

theorem pdata_try_miss {f g : Nat → Nat × Token × Int} {q : Nat} (h : (f q).2.2 = 0) :
    pdata_try f g q = g (f q).1 :=
  if_neg (by rw [h]; decide)

theorem pdata_close_try {k : Kind} {f g : Nat → Nat × Token × Int} {d : DataSpec}
    (hf : f (pos + w0) = found (pos + w0) (specToken k (buf.drop (pos + w0))))
    (hg : pdata_close buf w0 (g (pos + w0)) = dataResult buf pos w0 d) :
    pdata_close buf w0 (pdata_try f g (pos + w0)) =
      dataResult buf pos w0 (pdata_tok k (buf.drop (pos + w0)) d) := by
  unfold pdata_tok
  cases he : specToken k (buf.drop (pos + w0)) with
  | some e =>
    have := (specToken_some he).pos
    rw [he] at hf
    rw [pdata_try_hit (by rw [hf]; dsimp only [found]; omega), hf]
    exact pdata_close_found buf pos w0 e
  | none =>
    rw [he] at hf
    rw [pdata_try_miss (by rw [hf]; rfl), hf]
    exact hg

theorem pdata_close_core5 (hz : wsLen (buf.drop (pos + w0)) = 0) :
    pdata_close buf w0 (pdata_core5 buf (pos + w0)) = dataResult buf pos w0 (pdata_sd5 (buf.drop (pos + w0))) := by
  have hB := block_lexBlock_eq buf (pos + w0)
  unfold pdata_core5 pdata_sd5
  cases hb : specBlock (buf.drop (pos + w0)) with
  | valid hl n =>
    have := block_valid hb
    rw [hb] at hB
    rw [pdata_try_hit (by rw [hB]; dsimp only [block_result]; omega), hB]
    exact triple_ext rfl rfl (by dsimp only [block_result]; omega)
  | incomplete =>
    rw [hb] at hB
    rw [pdata_try_miss (by rw [hB]; rfl), hB]
    dsimp only [block_result]
    rw [expression_eq, List.drop_length, show specToken .expression [] = none from rfl]
    exact pdata_close_end buf pos w0
  | invalid =>
    rw [hb] at hB
    rw [pdata_try_miss (by rw [hB]; rfl), hB]
    dsimp only [block_result]
    rw [expression_eq]
    unfold pdata_tok
    cases specToken .expression (buf.drop (pos + w0)) with
    | some e => exact pdata_close_found buf pos w0 e
    | none => exact pdata_close_none buf pos w0 hz

theorem pdata_close_dec {e : Expect}
    (he : specToken .decimal (buf.drop (pos + w0)) = some e) :
    pdata_close buf w0 (pdata_dec buf (found (pos + w0) (some e))) = dataResult buf pos w0
      (match specToken .suffix ((buf.drop (pos + w0)).drop
          (e.consumed + wsLen ((buf.drop (pos + w0)).drop e.consumed))) with
        | some sf => .item (e.consumed + wsLen ((buf.drop (pos + w0)).drop e.consumed) + sf.consumed) .decimalWithSuffix 0
            (e.consumed + wsLen ((buf.drop (pos + w0)).drop e.consumed) + sf.consumed)
        | none => .item e.consumed .decimal 0 e.consumed) := by
  obtain ⟨n, rfl, -⟩ := plainSpec_cases (r := decimal) he
  rw [List.drop_drop, List.drop_drop]
  dsimp only
  have hz := pdata_wsLen_drop_wsLen (buf.drop (pos + w0 + n))
  rw [List.drop_drop] at hz
  unfold pdata_dec
  dsimp only [found]
  rw [unit_ws]
  dsimp only
  generalize hw : wsLen (buf.drop (pos + w0 + n)) = w at *
  rw [suffix_eq, ← Nat.add_assoc]
  cases hs : specToken .suffix (buf.drop (pos + w0 + n + w)) with
  | some sf =>
    have := (specToken_some hs).pos
    rw [if_pos (show (found _ (some sf)).2.2 > 0 by dsimp only [found]; omega)]
    dsimp only [found, pdata_close, dataResult]
    rw [show pos + w0 + (n + w + sf.consumed) = pos + w0 + n + w + sf.consumed by omega]
    exact triple_ext rfl (by push_cast; rfl) (by omega)
  | none =>
    rw [if_neg (show ¬ (found _ none).2.2 > 0 by dsimp only [found]; omega)]
    exact triple_ext (by dsimp only [found]; omega) rfl (by dsimp only [found]; omega)

theorem pdata_close_core3 (hz : wsLen (buf.drop (pos + w0)) = 0) :
    pdata_close buf w0 (pdata_core3 buf (pos + w0)) = dataResult buf pos w0 (pdata_sd3 (buf.drop (pos + w0))) := by
  unfold pdata_core3 pdata_sd3
  rw [decimal_eq]
  cases he : specToken .decimal (buf.drop (pos + w0)) with
  | some e =>
    have := (specToken_some he).pos
    rw [if_pos (bne_iff_ne.2 (show (found _ (some e)).2.2 ≠ 0 by dsimp only [found]; omega))]
    exact pdata_close_dec he
  | none =>
    rw [if_neg (show ¬ ((found _ none).2.2 != 0) = true by simp [found])]
    exact pdata_close_try (string_eq buf _) (pdata_close_core5 hz)

end cascade

theorem parseProgramData_eq (buf : Bytes) (pos : Nat) :
    parseProgramData buf pos =
      dataResult buf pos (wsLen (buf.drop pos)) (specData (buf.drop (pos + wsLen (buf.drop pos)))) := by
  have hz : wsLen (buf.drop (pos + wsLen (buf.drop pos))) = 0 := by
    rw [← List.drop_drop]; exact pdata_wsLen_drop_wsLen _
  rw [pdata_parse_close, pdata_specData_eq]
  exact pdata_close_try (nondecimal_eq buf _) (pdata_close_try (characterData_eq buf _)
    (pdata_close_core3 hz))

theorem specData_item {s : Bytes} {n : Nat} {t : TokType} {po pl : Nat} (h : specData s = .item n t po pl) :
    TokenOk s ⟨n, t, po, pl⟩ := by
  have tok : ∀ {k d}, pdata_tok k s d = .item n t po pl → (d = .item n t po pl → TokenOk s ⟨n, t, po, pl⟩) →
      TokenOk s ⟨n, t, po, pl⟩ := by
    intro k d h hd
    rcases pdata_tok_item h with he | h
    · exact specToken_some he
    · exact hd h
  rw [pdata_specData_eq] at h
  refine tok h fun h => tok h fun h => ?_
  unfold pdata_sd3 at h
  split at h
  · rename_i e he
    have he' := specToken_some he
    dsimp only at h
    split at h
    · rename_i sf hs
      cases h
      have hs' := (specToken_some hs).inside
      have hw := unit_wsLen_le (s.drop e.consumed)
      have := he'.pos
      have := he'.inside
      simp only [List.length_drop] at hw hs'
      exact ⟨by simp only; omega, by simp, by simp, by simp only; omega, by simp only; omega⟩
    · cases h; exact ⟨he'.pos, by simp, by simp, by simp only; omega, he'.inside⟩
  · refine tok h fun h => ?_
    unfold pdata_sd5 at h
    split at h
    · cases h; exact block_ok ‹_›
    · cases h
    · exact tok h (fun h => by cases h)

theorem specData_decimal {s : Bytes} (hn : 0 < decimalTotal s) (hws : hd (s.drop (decimalTotal s)) isWs = false)
    (hsf : hd (s.drop (decimalTotal s)) (fun b => b == 47 || isAlpha b) = false) :
    specData s = .item (decimalTotal s) .decimal 0 (decimalTotal s) := by
  have h1 := decimal_first _ _ (decimal_total_mem hn)
  rw [pdata_specData_eq]
  unfold pdata_tok pdata_sd3
  rw [specToken_nondecimal_none (hd_disj (fun b hb => (ByteClass.num_excl b hb).hash) h1),
    specToken_chr_none (hd_disj (fun b hb => (ByteClass.num_excl b hb).alpha) h1), specToken_decimal, if_pos hn]
  dsimp only
  rw [pdata_wsLen_eq_tw, tw_eq_zero_iff.2 hws, Nat.add_zero, specToken_suffix_none hsf]

theorem parseProgramData_decimal {buf : Bytes} (hn : 0 < decimalTotal buf)
    (hws : hd (buf.drop (decimalTotal buf)) isWs = false)
    (hsf : hd (buf.drop (decimalTotal buf)) (fun b => b == 47 || isAlpha b) = false) :
    parseProgramData buf 0 = (decimalTotal buf, ⟨.decimal, 0, decimalTotal buf⟩, (decimalTotal buf : Int)) := by
  have h1 := decimal_first _ _ (decimal_total_mem hn)
  have hw0 : wsLen buf = 0 := by
    rw [pdata_wsLen_eq_tw]; exact tw_eq_zero_iff.2 (hd_disj (fun b hb => (ByteClass.num_excl b hb).ws) h1)
  rw [parseProgramData_eq, List.drop_zero, hw0, List.drop_zero, specData_decimal hn hws hsf]
  simp only [dataResult, Nat.zero_add, Nat.add_zero, pdata_wsLen_eq_tw, tw_eq_zero_iff.2 hws]

theorem programData_spec (buf : Bytes) (pos : Nat) (h : pos ≤ buf.length) :
    let r := parseProgramData buf pos
    let s := buf.drop pos
    let w0 := wsLen s
    match specData (s.drop w0) with
    | .item n t po pl =>
      let w1 := wsLen (s.drop (w0 + n))
      r.1 = pos + w0 + n + w1 ∧ r.2.2 = w0 + n + w1 ∧ r.2.1 = ⟨t, pos + w0 + po, pl⟩ ∧ pos + w0 + n + w1 ≤ buf.length
    | .swallow => r.2.1.type = .unknown ∧ r.1 = buf.length
    | .none => r.2.1.type = .unknown ∧ r.2.1.len = 0 ∧ r.1 = pos + w0 ∧ r.2.2 = w0 := by
  simp only [List.drop_drop, ← Nat.add_assoc]
  rw [parseProgramData_eq]
  cases hd : specData (buf.drop (pos + wsLen (buf.drop pos))) with
  | item n t po pl =>
    have : n ≤ _ := (specData_item hd).inside
    have := length_drop_le (unit_ws_bound buf pos h)
    exact ⟨rfl, by simp only [dataResult]; omega, rfl, unit_ws_bound buf _ (by omega)⟩
  | swallow => exact ⟨rfl, rfl⟩
  | none => exact ⟨rfl, rfl, rfl, rfl⟩

/-- the swallow case: a definite-length block that has not arrived completely -/
theorem programData_swallow (buf : Bytes) (pos : Nat) (h : pos ≤ buf.length)
    (hs : specData (buf.drop (pos + wsLen (buf.drop pos))) = .swallow) :
    (parseProgramData buf pos).1 = buf.length ∧ (parseProgramData buf pos).2.1.type = .unknown ∧
    (parseProgramData buf pos).2.2 = wsLen (buf.drop pos) ∧ pos + wsLen (buf.drop pos) + 1 ≤ buf.length := by
  rw [parseProgramData_eq, hs]
  have : 0 < (buf.drop (pos + wsLen (buf.drop pos))).length := by
    cases hd : buf.drop (pos + wsLen (buf.drop pos)) with
    | nil => rw [hd] at hs; exact absurd hs (by decide)
    | cons _ _ => exact Nat.succ_pos _
  have := length_drop_le (unit_ws_bound buf pos h)
  exact ⟨rfl, rfl, rfl, by omega⟩

end ScpiVerif.Lemmas.Lexer
