/-
The decimal number.  What `lexDecimal` computes is written down relative to the text as `decimalMant`, `decimalExp` and
`decimalTotal`; `decimalTotal s` is the longest match of `Spec.decimal` at `s`, hence `decimal_eq` and the token in closed form,
`specToken_decimal`.  The layers above (Numeric, RoundTrip, ExprList) reason about the three closed forms.
-/
import ScpiVerif.Lemmas.LexCalc

namespace ScpiVerif.Lemmas.Lexer
open ScpiVerif ScpiVerif.Lexer ScpiVerif.Spec ScpiVerif.Lemmas.Regex
open ScpiVerif.Spec.Re (opt plus nullable deriv longest)

theorem decimal_sign_not_digit : ∀ b, isPlusMn b = true → isDigit b = false := fun b h => (ByteClass.sign_excl b h).digit
theorem decimal_sign_not_dd : ∀ b, isPlusMn b = true → (isDigit b || b == 46) = false := fun b h => by
  simp [(ByteClass.sign_excl b h).digit, (ByteClass.sign_excl b h).point]
theorem decimal_ws_not_E : ∀ b, isWs b = true → isE b = false := fun b h => (ByteClass.ws_excl b h).e
theorem decimal_ws_not_sd : ∀ b, isWs b = true → (isPlusMn b || isDigit b) = false := fun b h => by
  simp [(ByteClass.ws_excl b h).sign, (ByteClass.ws_excl b h).digit]
theorem decimal_dd_not_wsE : ∀ b, (isDigit b || b == 46) = true → (isWs b || isE b) = false :=
  ByteClass.class_or (fun b h => by simp [(ByteClass.digit_excl b h).ws, (ByteClass.digit_excl b h).e]) (class_of_beq (by decide))

theorem decimal_digits_hd : ∀ (t : Bytes) (j : Nat), PM digits t j → hd t isDigit = true :=
  First.chr_seq.hd rfl

def decimalCore : Re :=
  .alt (.seq digits (opt (.seq (Re.c 46) (.star (.chr isDigit))))) (.seq (Re.c 46) digits)

theorem decimal_mantissa_eq : mantissa = .seq (opt (.chr isPlusMn)) decimalCore := rfl

theorem decimal_PM_core {t : Bytes} {m d1 d2 : Nat} (hd1 : d1 = tw isDigit t)
    (hd2 : d2 = tw isDigit (t.drop (d1 + 1))) :
    PM decimalCore t m ↔
      (1 ≤ m ∧ m ≤ d1) ∨
      (hd (t.drop d1) (· == 46) = true ∧ d1 + 1 ≤ m ∧ m ≤ d1 + 1 + d2 ∧ (1 ≤ d1 ∨ d1 + 2 ≤ m)) := by
  unfold decimalCore
  rw [PM_alt, PM_seq, PM_seq]
  constructor
  · rintro (⟨a, b, rfl, ha, hb⟩ | ⟨a, b, rfl, ha, hb⟩)
    · rw [digits, PM_plus_chr] at ha
      rw [PM_opt, PM_seq] at hb
      rcases hb with rfl | ⟨i, j, rfl, hi, hj⟩
      · left; omega
      · rw [Re.c, PM_chr] at hi
        obtain ⟨rfl, hdot⟩ := hi
        rw [PM_star_chr, List.drop_drop] at hj
        have ha' : a = d1 := by
          rcases Nat.lt_or_ge a d1 with hlt | hge
          · rw [hd1] at hlt
            have := hd_disj (class_ne_beq (x := 46) (by decide)) (hd_drop_of_lt_tw hlt)
            rw [this] at hdot; cases hdot
          · omega
        subst ha'
        right; exact ⟨hdot, by omega, by omega, by omega⟩
    · rw [Re.c, PM_chr] at ha
      obtain ⟨rfl, hdot⟩ := ha
      rw [digits, PM_plus_chr] at hb
      have h0 : d1 = 0 := by
        rw [hd1, tw_eq_zero_iff]
        cases h : hd t isDigit
        · rfl
        · rw [hd_disj (class_ne_beq (x := 46) (by decide)) h] at hdot; cases hdot
      subst h0
      right
      simp only [Nat.zero_add] at hd2
      exact ⟨by simpa using hdot, by omega, by omega, by omega⟩
  · rintro (⟨h1, h2⟩ | ⟨hdot, h1, h2, h3⟩)
    · left
      exact ⟨m, 0, rfl, PM_plus_chr.2 ⟨h1, by omega⟩, PM_opt.2 (.inl rfl)⟩
    · by_cases h0 : 1 ≤ d1
      · left
        refine ⟨d1, m - d1, by omega, PM_plus_chr.2 ⟨h0, by omega⟩, PM_opt.2 (.inr ?_)⟩
        rw [PM_seq]
        refine ⟨1, m - d1 - 1, by omega, PM_chr.2 ⟨rfl, hdot⟩, PM_star_chr.2 ?_⟩
        rw [List.drop_drop]; omega
      · right
        have h0 : d1 = 0 := by omega
        subst h0
        simp only [Nat.zero_add, List.drop_zero] at hd2 hdot
        exact ⟨1, m - 1, by omega, PM_chr.2 ⟨rfl, hdot⟩, PM_plus_chr.2 ⟨by omega, by omega⟩⟩

theorem decimal_core_first : First decimalCore (fun b => isDigit b || b == 46) :=
  .alt (.mono (by simp +contextual) (.seq_left rfl .chr_seq)) (.mono (by simp +contextual) .chr_seq)

theorem decimal_core_hd : ∀ (t : Bytes) (j : Nat), PM decimalCore t j → hd t (fun b => isDigit b || b == 46) = true :=
  decimal_core_first.hd rfl

theorem decimal_first : ∀ (t : Bytes) (j : Nat), PM Spec.decimal t j →
    hd t (fun b => isPlusMn b || isDigit b || b == 46) = true :=
  (First.seq_left rfl (.seq (.mono (by simp +contextual) (.opt .chr))
    (.mono (by simp +contextual [Bool.or_assoc]) decimal_core_first))).hd rfl

/-- length and digit count of the mantissa as `skipMantisa` computes them, relative to `s` -/
def decimalMant (s : Bytes) : Nat × Nat :=
  let sg := if hd s isPlusMn = true then 1 else 0
  let d1 := tw isDigit (s.drop sg)
  if hd (s.drop (sg + d1)) (· == 46) = true then
    (sg + d1 + 1 + tw isDigit (s.drop (sg + d1 + 1)), d1 + tw isDigit (s.drop (sg + d1 + 1)))
  else (sg + d1, d1)

theorem decimal_skipMantisa_eq (buf : Bytes) (pos : Nat) :
    skipMantisa buf pos = (pos + (decimalMant (buf.drop pos)).1, (decimalMant (buf.drop pos)).2) := by
  unfold skipMantisa decimalMant
  lex_rel
  generalize buf.drop pos = s
  simp only [List.drop_drop]
  generalize (if hd s isPlusMn = true then 1 else 0) = sg
  generalize tw isDigit (s.drop sg) = d1
  generalize tw isDigit (s.drop (sg + d1 + 1)) = d2
  split
  · refine Prod.ext ?_ ?_ <;> simp only <;> omega
  · refine Prod.ext ?_ ?_ <;> simp only <;> omega

theorem decimal_PM_mantissa {s : Bytes} {m : Nat} :
    PM mantissa s m ↔ ∃ j, m = (if hd s isPlusMn = true then 1 else 0) + j ∧
      PM decimalCore (s.drop (if hd s isPlusMn = true then 1 else 0)) j := by
  rw [decimal_mantissa_eq]
  exact Greedy.opt_chr.seq_iff decimal_core_hd decimal_sign_not_dd

theorem decimal_mantissa_mem {s : Bytes} (h : (decimalMant s).2 ≠ 0) : PM mantissa s (decimalMant s).1 := by
  rw [decimal_PM_mantissa]
  unfold decimalMant at h ⊢
  generalize (if hd s isPlusMn = true then 1 else 0) = sg at *
  by_cases hh : hd (s.drop (sg + tw isDigit (s.drop sg))) (· == 46) = true
  · simp only [hh, if_true] at h ⊢
    refine ⟨tw isDigit (s.drop sg) + 1 + tw isDigit (s.drop (sg + tw isDigit (s.drop sg) + 1)), by omega, ?_⟩
    rw [decimal_PM_core rfl rfl]
    right
    simp only [List.drop_drop]
    refine ⟨hh, by omega, ?_, by omega⟩
    rw [← Nat.add_assoc]; omega
  · simp only [hh] at h ⊢
    simp at h
    refine ⟨tw isDigit (s.drop sg), by simp, ?_⟩
    rw [decimal_PM_core rfl rfl]
    left; omega

theorem decimal_core_chars : reAll ((fun b => isDigit b || b == 46) · = true) decimalCore := by
  simp +contextual [reAll, decimalCore, digits, opt, plus, Re.c]

theorem decimal_mantissa_max {s : Bytes} {m : Nat} (h : PM mantissa s m) :
    (decimalMant s).2 ≠ 0 ∧ m ≤ (decimalMant s).1 ∧
      (m < (decimalMant s).1 → hd (s.drop m) (fun b => isDigit b || b == 46) = true) := by
  obtain ⟨j, rfl, hj⟩ := decimal_PM_mantissa.1 h
  have hb : (decimalMant s).2 ≠ 0 ∧ (if hd s isPlusMn = true then 1 else 0) + j ≤ (decimalMant s).1 := by
    rw [decimal_PM_core rfl rfl] at hj
    unfold decimalMant
    generalize (if hd s isPlusMn = true then 1 else 0) = sg at *
    simp only [List.drop_drop, ← Nat.add_assoc] at hj
    by_cases hh : hd (s.drop (sg + tw isDigit (s.drop sg))) (· == 46) = true
    · rw [if_pos hh]; omega
    · have hj := hj.resolve_right fun h => hh h.1
      rw [if_neg hh]; omega
  -- a shorter match ends inside the longest one, which behind the sign consists of digits and points
  refine ⟨hb.1, hb.2, fun hlt => ?_⟩
  obtain ⟨J, hJ, hP⟩ := decimal_PM_mantissa.1 (decimal_mantissa_mem hb.1)
  rw [← List.drop_drop]
  exact PM_inside hP decimal_core_chars (by omega)

def decimalExpTail : Re :=
  .seq (.chr isE) (.seq (.star (.chr isWs)) (.seq (opt (.chr isPlusMn)) digits))

theorem decimal_exponent_eq : exponent = .seq (.star (.chr isWs)) decimalExpTail := rfl

/-- length and digit count of the exponent as `skipExponent` computes them, relative to `t` -/
def decimalExp (t : Bytes) : Nat × Nat :=
  if hd t isE = true then
    let w := tw isWs (t.drop 1)
    let sg := if hd ((t.drop 1).drop w) isPlusMn = true then 1 else 0
    let d := tw isDigit (((t.drop 1).drop w).drop sg)
    (1 + w + sg + d, d)
  else (0, 0)

theorem decimal_skipExponent_eq (buf : Bytes) (pos : Nat) :
    skipExponent buf pos = (pos + (decimalExp (buf.drop pos)).1, (decimalExp (buf.drop pos)).2) := by
  unfold skipExponent decimalExp
  lex_rel
  generalize buf.drop pos = s
  generalize tw isWs (s.drop 1) = w
  generalize (if hd ((s.drop 1).drop w) isPlusMn = true then 1 else 0) = sg
  generalize tw isDigit (((s.drop 1).drop w).drop sg) = d
  split
  · refine Prod.ext ?_ ?_ <;> simp only <;> omega
  · rfl

theorem decimal_sd_hd : ∀ (t : Bytes) (j : Nat), PM (.seq (opt (.chr isPlusMn)) digits) t j →
    hd t (fun b => isPlusMn b || isDigit b) = true :=
  (First.seq (.mono (by simp +contextual) (.opt .chr)) (.mono (by simp +contextual) .chr_seq)).hd rfl

theorem decimal_PM_expTail {t : Bytes} {j : Nat} :
    PM decimalExpTail t j ↔ hd t isE = true ∧ (decimalExp t).1 - (decimalExp t).2 + 1 ≤ j ∧ j ≤ (decimalExp t).1 := by
  unfold decimalExpTail decimalExp
  -- 'E', blanks and sign have one length each (`seq_iff`): a match differs from the longest in its digits only
  rw [PM_chr_seq]
  refine and_congr_right fun hE => ?_
  simp only [hE, if_true, Greedy.star_chr.seq_iff decimal_sd_hd decimal_ws_not_sd,
    Greedy.opt_chr.seq_iff decimal_digits_hd decimal_sign_not_digit]
  simp only [digits, PM_plus_chr]
  constructor
  · rintro ⟨_, rfl, _, rfl, _, rfl, h1, h2⟩; omega
  · rintro ⟨h1, h2⟩
    exact ⟨_, (Nat.add_sub_cancel' (by omega)).symm, _, (Nat.add_sub_cancel' (by omega)).symm, _,
      (Nat.add_sub_cancel' (by omega)).symm, by omega, by omega⟩

theorem decimal_expTail_hd : ∀ (t : Bytes) (j : Nat), PM decimalExpTail t j → hd t isE = true :=
  First.chr_seq.hd rfl

theorem decimal_PM_exponent {t : Bytes} {j : Nat} :
    PM exponent t j ↔ ∃ j', j = tw isWs t + j' ∧ PM decimalExpTail (t.drop (tw isWs t)) j' := by
  rw [decimal_exponent_eq]
  exact Greedy.star_chr.seq_iff decimal_expTail_hd decimal_ws_not_E

theorem decimal_exponent_hd {t : Bytes} {j : Nat} : PM exponent t j → hd t (fun b => isWs b || isE b) = true :=
  (First.seq (.mono (by simp +contextual) (.star .chr)) (.mono (by simp +contextual) .chr_seq)).hd rfl t j

def decimalTotal (s : Bytes) : Nat :=
  if (decimalMant s).2 ≠ 0 then
    if (decimalExp ((s.drop (decimalMant s).1).drop (tw isWs (s.drop (decimalMant s).1)))).2 ≠ 0 then
      (decimalMant s).1 + tw isWs (s.drop (decimalMant s).1) +
        (decimalExp ((s.drop (decimalMant s).1).drop (tw isWs (s.drop (decimalMant s).1)))).1
    else (decimalMant s).1
  else 0

theorem decimal_exp_len_pos {t : Bytes} (h : (decimalExp t).2 ≠ 0) :
    hd t isE = true ∧ (decimalExp t).2 ≤ (decimalExp t).1 := by
  unfold decimalExp at h ⊢
  by_cases hE : hd t isE = true
  · simp only [hE, if_true] at h ⊢; exact ⟨trivial, by omega⟩
  · simp [hE] at h

theorem decimal_total_max {s : Bytes} {m : Nat} (h : PM decimal s m) : m ≤ decimalTotal s := by
  unfold decimal at h
  rw [PM_seq] at h
  obtain ⟨i, j, rfl, hi, hj⟩ := h
  obtain ⟨hn, hle, hnext⟩ := decimal_mantissa_max hi
  unfold decimalTotal
  rw [if_pos hn]
  rw [PM_opt] at hj
  rcases hj with rfl | hj
  · split <;> omega
  · have hlt : ¬ i < (decimalMant s).1 := by
      intro hlt
      have h1 := hd_disj decimal_dd_not_wsE (hnext hlt)
      rw [decimal_exponent_hd hj] at h1; cases h1
    have hi' : i = (decimalMant s).1 := by omega
    subst hi'
    rw [decimal_PM_exponent] at hj
    obtain ⟨j', rfl, hj⟩ := hj
    rw [decimal_PM_expTail] at hj
    obtain ⟨_, h1, h2⟩ := hj
    have : (decimalExp ((s.drop (decimalMant s).1).drop (tw isWs (s.drop (decimalMant s).1)))).2 ≠ 0 := by
      intro h0; rw [h0] at h1; omega
    rw [if_pos this]; omega

theorem decimal_total_mem {s : Bytes} (h : 0 < decimalTotal s) : PM decimal s (decimalTotal s) := by
  unfold decimalTotal at h ⊢
  by_cases hn : (decimalMant s).2 ≠ 0
  · rw [if_pos hn] at h ⊢
    have hm := decimal_mantissa_mem hn
    unfold decimal
    rw [PM_seq]
    by_cases he : (decimalExp ((s.drop (decimalMant s).1).drop (tw isWs (s.drop (decimalMant s).1)))).2 ≠ 0
    · rw [if_pos he]
      refine ⟨_, _, Nat.add_assoc _ _ _, hm, PM_opt.2 (.inr ?_)⟩
      rw [decimal_PM_exponent]
      refine ⟨_, rfl, ?_⟩
      rw [decimal_PM_expTail]
      have := decimal_exp_len_pos he
      exact ⟨this.1, by omega, Nat.le_refl _⟩
    · rw [if_neg he]
      exact ⟨_, 0, rfl, hm, PM_opt.2 (.inl rfl)⟩
  · rw [if_neg hn] at h; omega

theorem decimal_lexDecimal_eq (buf : Bytes) (pos : Nat) :
    lexDecimal buf pos =
      (pos + decimalTotal (buf.drop pos),
        Token.mk (if decimalTotal (buf.drop pos) > 0 then .decimal else .unknown) pos (decimalTotal (buf.drop pos)),
        (decimalTotal (buf.drop pos) : Int)) := by
  unfold lexDecimal
  simp only [decimal_skipMantisa_eq, decimal_skipExponent_eq]
  lex_rel
  apply plain_result_eq
  unfold decimalTotal
  generalize buf.drop pos = s
  generalize (decimalMant s).2 = n
  generalize (decimalMant s).1 = M
  generalize tw isWs (s.drop M) = w
  generalize (decimalExp ((s.drop M).drop w)).2 = ne
  generalize (decimalExp ((s.drop M).drop w)).1 = le
  by_cases hn : n = 0
  · simp [hn]
  · by_cases he : ne = 0
    · simp [hn, he]
    · simp [hn, he]; omega

theorem specToken_decimal (s : Bytes) :
    specToken .decimal s = if 0 < decimalTotal s then some ⟨decimalTotal s, .decimal, 0, decimalTotal s⟩ else none :=
  plainSpec_eq (r := Spec.decimal) _ (fun _ hm => decimal_total_max hm) decimal_total_mem

theorem decimal_eq (buf : Bytes) (pos : Nat) : lexDecimal buf pos = found pos (specToken .decimal (buf.drop pos)) := by
  rw [decimal_lexDecimal_eq, specToken_decimal, found_closed]

end ScpiVerif.Lemmas.Lexer
