/-
For Props/C11.lean and Props/C12.lean: the status-register model (Model/Regs.lean) instantiated with the generated
tables.  One iteration of the walk of SCPI_RegSet is an equation (`regSetLoop_succ`: the state after it, `touch`, and the
write that follows, `next`); on each concrete register the walk is a closed form by `rfl`, the tables being literals
(`regSet_0` .. `regSet_9`), and `regSet_spec` says what a write does to the registers, to `Coh3` and to the service
request.  One case analysis over the operations of `step` gives what all of them keep (`Keeps`, `step_keeps`); no
operation reads the two logs (`step_pre`, `step_frame`), which is what `Isolation` rests on.
-/
import ScpiVerif.Model.Regs
namespace ScpiVerif.Lemmas.Regs
open ScpiVerif ScpiVerif.Regs

theorem or_and_self (x b : Reg) : (x ||| b) &&& b = b := by
  ext i hi; simp; intro h; simp [h]
theorem andn_and_self (x b : Reg) : (x &&& ~~~b) &&& b = 0 := by
  ext i hi; simp
theorem or_and_disj (x b b' : Reg) (h : b &&& b' = 0) : (x ||| b) &&& b' = x &&& b' := by
  ext i hi
  have a := congrArg (·[i]) h
  simp at a ⊢
  revert a; cases x[i] <;> cases b[i] <;> cases b'[i] <;> simp
theorem andn_and_disj (x b b' : Reg) (h : b &&& b' = 0) : (x &&& ~~~b) &&& b' = x &&& b' := by
  ext i hi
  have a := congrArg (·[i]) h
  simp at a ⊢
  revert a; cases x[i] <;> cases b[i] <;> cases b'[i] <;> simp
theorem and_of_mask (x y m b : Reg) (h : x &&& m = y &&& m) (hb : b &&& ~~~m = 0) : x &&& b = y &&& b := by
  ext i hi
  have a := congrArg (·[i]) h
  have c := congrArg (·[i]) hb
  simp at a c ⊢
  revert a c; cases x[i] <;> cases y[i] <;> cases m[i] <;> cases b[i] <;> simp
theorem andn_of_and_eq_zero (x b : Reg) (h : x &&& b = 0) : x &&& ~~~b = x := by
  ext i hi
  have a := congrArg (·[i]) h
  simp at a ⊢
  revert a; cases x[i] <;> cases b[i] <;> simp
theorem and_andn_or (x y : Reg) : x &&& ~~~(x ||| y) = 0 := by
  ext i hi; simp; cases x[i] <;> simp
theorem and_andn_self (x : Reg) : x &&& ~~~x = 0 := by
  ext i hi; simp
theorem xor_and_and (o v : Reg) : ((o ^^^ v) &&& v) = v &&& ~~~o := by
  ext i hi; simp; cases o[i] <;> cases v[i] <;> simp

theorem srq_tp : stbSRQ = BitVec.twoPow 16 6 := by decide
theorem or_srq_of_and_ne (x : Reg) (h : x &&& stbSRQ ≠ 0) : x ||| stbSRQ = x := by
  rw [srq_tp] at h ⊢
  rw [BitVec.and_twoPow] at h
  have h6 : x[6] = true := by
    cases hh : x[6] <;> simp [hh] at h ⊢
  ext i hi
  simp [BitVec.getElem_twoPow]
  intro h'; subst h'; exact h6

theorem ptrans_ne (old val sre m : Reg) (h0 : (old &&& m) &&& (sre &&& m) = 0)
    (h1 : (val &&& m) &&& (sre &&& m) ≠ 0) : ((old ^^^ val) &&& val) &&& val ≠ 0 := by
  intro h; apply h1; ext i hi
  have a := congrArg (·[i]) h0
  have b := congrArg (·[i]) h
  simp at a b ⊢
  revert a b; cases old[i] <;> cases val[i] <;> cases sre[i] <;> cases m[i] <;> simp

@[simp] theorem regCount_eq : regCount = 10 := rfl
@[simp] theorem STB_eq : STB = 0 := rfl
@[simp] theorem SRE_eq : SRE = 1 := rfl
@[simp] theorem ESR_eq : ESR = 2 := rfl
@[simp] theorem ESE_eq : ESE = 3 := rfl
@[simp] theorem OPER_eq : OPER = 4 := rfl
@[simp] theorem OPERE_eq : OPERE = 5 := rfl
@[simp] theorem OPERC_eq : OPERC = 6 := rfl
@[simp] theorem QUES_eq : QUES = 7 := rfl
@[simp] theorem QUESE_eq : QUESE = 8 := rfl
@[simp] theorem QUESC_eq : QUESC = 9 := rfl

@[simp] theorem put_length (s : St) (n : Nat) (v : Reg) : (put s n v).regs.length = s.regs.length := by
  simp [put]
@[simp] theorem put_qn (s : St) (n : Nat) (v : Reg) : (put s n v).qn = s.qn := rfl
@[simp] theorem put_cap (s : St) (n : Nat) (v : Reg) : (put s n v).cap = s.cap := rfl
@[simp] theorem put_srq (s : St) (n : Nat) (v : Reg) : (put s n v).srq = s.srq := rfl
@[simp] theorem put_errcb (s : St) (n : Nat) (v : Reg) : (put s n v).errcb = s.errcb := rfl

theorem get_eq (s : St) (n : Nat) : get s n = if n < 10 then s.regs.getD n 0 else 0 := rfl

theorem get_put (s : St) (n m : Nat) (v : Reg) (L : s.regs.length = 10) (hn : n < 10) :
    get (put s n v) m = if m = n then v else get s m := by
  unfold Regs.get put
  simp only [regCount_eq]
  by_cases hm : m = n
  · subst hm; simp [hn, L]
  · have hm' : ¬ n = m := fun h => hm h.symm
    simp [hm, hm', List.getD_eq_getElem?_getD]

theorem get_ge (s : St) (m : Nat) (h : 10 ≤ m) : get s m = 0 := by
  simp [Regs.get]; omega


def summ (x b : Reg) (c : Prop) [Decidable c] : Reg := if c then x ||| b else x &&& ~~~b

theorem summ_self (x b : Reg) (c : Prop) [Decidable c] (hb : b ≠ 0) : summ x b c &&& b ≠ 0 ↔ c := by
  unfold summ; split
  · rename_i h; simp only [or_and_self]; exact ⟨fun _ => h, fun _ => hb⟩
  · rename_i h; simp only [andn_and_self]; exact ⟨fun a => absurd rfl a, fun a => absurd a h⟩
theorem summ_disj (x b b' : Reg) (c : Prop) [Decidable c] (h : b &&& b' = 0) : summ x b c &&& b' = x &&& b' := by
  unfold summ; split
  · exact or_and_disj _ _ _ h
  · exact andn_and_disj _ _ _ h

/-- the status byte `x` with its SRQ bit recomputed: `summ x stbSRQ` of "a bit of `x` other than SRQ is enabled in `sre`" -/
def fixSRQ (x sre : Reg) : Reg :=
  if (x &&& ~~~stbSRQ) &&& (sre &&& ~~~stbSRQ) ≠ 0 then x ||| stbSRQ else x &&& ~~~stbSRQ

def SrqOK (s : St) : Prop :=
  (get s 0 &&& stbSRQ ≠ 0) ↔ ((get s 0 &&& ~~~stbSRQ) &&& (get s 1 &&& ~~~stbSRQ) ≠ 0)

/-- the service-request clause of one register write (C12 `srq_regset`): at most one callback, with the new status byte
and only when its SRQ bit is set; one whenever that bit rises -/
def SrqClause (s s' : St) : Prop :=
  (s'.srq = s.srq ∨ (s'.srq = s.srq ++ [get s' 0] ∧ get s' 0 &&& stbSRQ ≠ 0)) ∧
  (get s 0 &&& stbSRQ = 0 → get s' 0 &&& stbSRQ ≠ 0 → s'.srq = s.srq ++ [get s' 0])

def Same (s s' : St) : Prop :=
  s'.regs.length = s.regs.length ∧ s'.qn = s.qn ∧ s'.cap = s.cap ∧ s'.errcb = s.errcb

theorem Same.trans {a b c : St} (h1 : Same a b) (h2 : Same b c) : Same a c :=
  ⟨h2.1.trans h1.1, h2.2.1.trans h1.2.1, h2.2.2.1.trans h1.2.2.1, h2.2.2.2.trans h1.2.2.2⟩

theorem fixSRQ_and (x sre b : Reg) (hb : stbSRQ &&& b = 0) : fixSRQ x sre &&& b = x &&& b :=
  summ_disj x stbSRQ b _ hb
theorem fixSRQ_srq (x sre : Reg) :
    fixSRQ x sre &&& stbSRQ ≠ 0 ↔ (x &&& ~~~stbSRQ) &&& (sre &&& ~~~stbSRQ) ≠ 0 :=
  summ_self x stbSRQ _ (by decide)
theorem fixSRQ_ok (x sre : Reg) :
    fixSRQ x sre &&& stbSRQ ≠ 0 ↔ (fixSRQ x sre &&& ~~~stbSRQ) &&& (sre &&& ~~~stbSRQ) ≠ 0 := by
  rw [fixSRQ_and _ _ _ (and_andn_self _)]; exact fixSRQ_srq x sre
theorem fixSRQ_self (x sre : Reg)
    (h : x &&& stbSRQ ≠ 0 ↔ (x &&& ~~~stbSRQ) &&& (sre &&& ~~~stbSRQ) ≠ 0) : fixSRQ x sre = x := by
  unfold fixSRQ; split
  · rename_i c; exact or_srq_of_and_ne x (h.2 c)
  · rename_i c; exact andn_of_and_eq_zero x _ (Decidable.not_not.1 (mt h.1 c))

/-- the STB/SRE case body after the store -/
def recomp (s : St) (old val : Reg) : St :=
  let stb := get s STB &&& ~~~stbSRQ
  let sre := get s SRE &&& ~~~stbSRQ
  if stb &&& sre ≠ 0 then
    let ptrans := (old ^^^ val) &&& val
    let s := put s STB (get s STB ||| stbSRQ)
    if ptrans &&& val ≠ 0 then { s with srq := s.srq ++ [get s STB] } else s
  else put s STB (get s STB &&& ~~~stbSRQ)

def setTop (s : St) (name : Nat) (val : Reg) : St :=
  if get s name = val then s else recomp (put s name val) (get s name) val

theorem loop_STB (f : Nat) (s : St) (v : Reg) : regSetLoop (f+1) s STB v = setTop s STB v := rfl
theorem loop_SRE (f : Nat) (s : St) (v : Reg) : regSetLoop (f+1) s SRE v = setTop s SRE v := rfl

def addSrq (s : St) (v : Reg) : St := { s with srq := s.srq ++ [v] }
@[simp] theorem addSrq_get (s : St) (v : Reg) (m : Nat) : get (addSrq s v) m = get s m := rfl
@[simp] theorem addSrq_length (s : St) (v : Reg) : (addSrq s v).regs.length = s.regs.length := rfl
@[simp] theorem addSrq_qn (s : St) (v : Reg) : (addSrq s v).qn = s.qn := rfl
@[simp] theorem addSrq_cap (s : St) (v : Reg) : (addSrq s v).cap = s.cap := rfl
@[simp] theorem addSrq_errcb (s : St) (v : Reg) : (addSrq s v).errcb = s.errcb := rfl
@[simp] theorem addSrq_srq (s : St) (v : Reg) : (addSrq s v).srq = s.srq ++ [v] := rfl

theorem recomp_eq (s : St) (old val : Reg) : recomp s old val =
    (fun t => if (get s 0 &&& ~~~stbSRQ) &&& (get s 1 &&& ~~~stbSRQ) ≠ 0 ∧ ((old ^^^ val) &&& val) &&& val ≠ 0
      then addSrq t (get t 0) else t) (put s 0 (fixSRQ (get s 0) (get s 1))) := by
  show (if (get s 0 &&& ~~~stbSRQ) &&& (get s 1 &&& ~~~stbSRQ) ≠ 0 then _ else _) = _
  unfold fixSRQ
  by_cases c : (get s 0 &&& ~~~stbSRQ) &&& (get s 1 &&& ~~~stbSRQ) = 0
  · simp only [c, ne_eq, not_true_eq_false, false_and, if_false]; rfl
  · by_cases p : ((old ^^^ val) &&& val) &&& val = 0
    · simp only [c, p, ne_eq, not_true_eq_false, not_false_eq_true, and_false, if_true, if_false]; rfl
    · simp only [c, p, ne_eq, not_false_eq_true, and_self, if_true]; rfl

theorem recomp_spec (s : St) (old val : Reg) (L : s.regs.length = 10) :
    get (recomp s old val) 0 = fixSRQ (get s 0) (get s 1) ∧
    (∀ m, m ≠ 0 → get (recomp s old val) m = get s m) ∧
    ((recomp s old val).srq = s.srq ∨
      ((recomp s old val).srq = s.srq ++ [get (recomp s old val) 0] ∧ get (recomp s old val) 0 &&& stbSRQ ≠ 0)) ∧
    ((get s 0 &&& ~~~stbSRQ) &&& (get s 1 &&& ~~~stbSRQ) ≠ 0 → ((old ^^^ val) &&& val) &&& val ≠ 0 →
      (recomp s old val).srq = s.srq ++ [get (recomp s old val) 0]) := by
  have gp := fun m => get_put s 0 m (fixSRQ (get s 0) (get s 1)) L (by decide)
  have gm := fun m (hm : m ≠ 0) => (gp m).trans (if_neg hm)
  rw [recomp_eq]
  show get (if _ then _ else _) 0 = _ ∧ _
  split
  · next h => exact ⟨gp 0, gm, .inr ⟨rfl, by rw [addSrq_get, gp 0]; exact (fixSRQ_srq _ _).2 h.1⟩, fun _ _ => rfl⟩
  · next h => exact ⟨gp 0, gm, .inl rfl, fun c p => absurd ⟨c, p⟩ h⟩

theorem SrqClause.rfl' (s : St) : SrqClause s s :=
  ⟨Or.inl rfl, fun h1 h2 => absurd h1 h2⟩

theorem get_eq_ite {s : St} {w : Nat} {val : Reg} (e : get s w = val) (m : Nat) :
    get s m = if m = w then val else get s m := by
  split
  · rename_i hm; rw [hm, e]
  · rfl

/-- a write to the status byte (w = 0) or to SRE (w = 1) -/
theorem setTop_spec (s : St) (w : Nat) (val : Reg) (L : s.regs.length = 10) (hw : w = 0 ∨ w = 1) :
    (∀ m, m ≠ 0 → get (setTop s w val) m = if m = w then val else get s m) ∧
    (SrqOK s → get (setTop s w val) 0 = fixSRQ (if 0 = w then val else get s 0) (if 1 = w then val else get s 1) ∧
      SrqClause s (setTop s w val)) := by
  have gp := fun m => get_put s w m val L (by rcases hw with rfl | rfl <;> decide)
  unfold setTop
  by_cases e : get s w = val
  · rw [if_pos e]
    refine ⟨fun m _ => get_eq_ite e m, fun h => ⟨?_, SrqClause.rfl' s⟩⟩
    rw [← get_eq_ite e 0, ← get_eq_ite e 1]; exact (fixSRQ_self _ _ h).symm
  · rw [if_neg e]
    obtain ⟨h2, h3, h4, h5⟩ := recomp_spec (put s w val) (get s w) val ((put_length s w val).trans L)
    rw [gp 0, gp 1] at h2 h5
    refine ⟨fun m hm => (h3 m hm).trans (gp m), fun h => ⟨h2, h4, fun a b => ?_⟩⟩
    rw [h2, fixSRQ_srq] at b
    have z := Decidable.not_not.1 (mt h.2 (Decidable.not_not.2 a))
    refine h5 b ?_
    rcases hw with rfl | rfl
    · exact ptrans_ne _ _ _ _ z b
    · exact ptrans_ne _ _ _ _ (BitVec.and_comm _ _ ▸ z) (BitVec.and_comm _ _ ▸ b)

theorem setTop_STB (s : St) (val : Reg) (L : s.regs.length = 10) :
    (∀ m, m ≠ 0 → get (setTop s 0 val) m = get s m) ∧
    (SrqOK s → get (setTop s 0 val) 0 = fixSRQ val (get s 1) ∧ SrqClause s (setTop s 0 val)) := by
  obtain ⟨b, c⟩ := setTop_spec s 0 val L (Or.inl rfl)
  exact ⟨fun m hm => (b m hm).trans (if_neg hm), c⟩


/-- the state that has the registers `regs` and nothing else: the walk reads the registers only (`regSetLoop_frame`) -/
def bare (regs : List Reg) : St := ⟨regs, 0, 0, [], []⟩
@[simp] theorem bare_regs (regs : List Reg) : (bare regs).regs = regs := rfl

/-- the value the COND case passes on to the event register (as in the model) -/
def latch (s : St) (g : Group) (old val : Reg) : Reg :=
  let ev := get s g.event
  if g.ptfilt = regNone ∧ g.ntfilt = regNone then ((old ^^^ val) &&& val) ||| ev
  else
    let ptf := if g.ptfilt ≠ regNone then get s g.ptfilt else 0
    let ntf := if g.ntfilt ≠ regNone then get s g.ntfilt else 0
    let tr := old ^^^ val
    let ptrans := tr &&& val
    let ntrans := tr &&& ~~~ptrans
    ((ptrans &&& ptf) ||| (ntrans &&& ntf)) ||| ev

/-- the state after one iteration of the loop of SCPI_RegSet -/
def touch (s : St) (name : Nat) (val : Reg) : St :=
  if s.regs.getD name 0 = val then s
  else if (detailOf name).1 = clsSTB ∨ (detailOf name).1 = clsSRE then recomp (put s name val) (s.regs.getD name 0) val
  else put s name val

/-- the register and value the following iteration writes, if the loop goes on -/
def next (s : St) (name : Nat) (val : Reg) : Option (Nat × Reg) :=
  let cls := (detailOf name).1
  let g := groupOf (detailOf name).2
  let s1 := put s name val
  if s.regs.getD name 0 = val ∨ g.parentReg = regNone then none
  else if cls = clsSTB ∨ cls = clsSRE then some (name, val)
  else if cls = clsEVEN then
    some (g.parentReg, summ (get s1 g.parentReg) g.parentBit (val &&& (if g.enable ≠ regNone then get s1 g.enable else 0xFFFF) ≠ 0))
  else if cls = clsCOND then some (g.event, latch s1 g (s.regs.getD name 0) val)
  else if cls = clsENAB then some (g.parentReg, summ (get s1 g.parentReg) g.parentBit (get s1 g.event &&& val ≠ 0))
  else none

theorem regSetLoop_succ (f : Nat) (s : St) (name : Nat) (val : Reg) :
    regSetLoop (f+1) s name val =
      (next s name val).elim (touch s name val) (fun p => regSetLoop f (touch s name val) p.1 p.2) := by
  generalize hd : detailOf name = d
  obtain ⟨cls, grp⟩ := d
  generalize hg : groupOf grp = g
  by_cases h0 : s.regs.getD name 0 = val
  · simp only [regSetLoop, next, touch, h0, ↓reduceIte, true_or, Option.elim_none]
  -- The class tests form a chain (STB/SRE, EVEN, COND, ENAB, none of these); `rotate_left` keeps the negative case in
  -- front, which leaves five goals. In each, with the parent test decided as well, every `if` of the model, of `next`
  -- and of `touch` reduces, and the two sides are the same term.
  by_cases hA : cls = clsSTB ∨ cls = clsSRE; rotate_left
  by_cases hB : cls = clsEVEN; rotate_left
  by_cases hC : cls = clsCOND; rotate_left
  by_cases hD : cls = clsENAB
  all_goals by_cases hp : g.parentReg = regNone <;>
    simp only [regSetLoop, next, touch, *, ↓reduceIte, ne_eq, not_true_eq_false, not_false_eq_true, false_or, or_self] <;> rfl

theorem next_bare (s : St) (name : Nat) (val : Reg) : next s name val = next (bare s.regs) name val := rfl

theorem recomp_frame (s : St) (old val : Reg) :
    recomp s old val =
      { s with regs := (recomp (bare s.regs) old val).regs, srq := s.srq ++ (recomp (bare s.regs) old val).srq } := by
  have e : ∀ m, Regs.get (bare s.regs) m = Regs.get s m := fun _ => rfl
  simp only [recomp_eq, e]
  split <;> simp [put, bare, addSrq, Regs.get]

theorem touch_frame (s : St) (name : Nat) (val : Reg) :
    touch s name val =
      { s with regs := (touch (bare s.regs) name val).regs, srq := s.srq ++ (touch (bare s.regs) name val).srq } := by
  by_cases h0 : s.regs.getD name 0 = val
  · simp only [touch, h0, ↓reduceIte, bare, List.append_nil]
  by_cases hA : (detailOf name).1 = clsSTB ∨ (detailOf name).1 = clsSRE
  · simp only [touch, bare_regs, h0, hA, ↓reduceIte]; exact recomp_frame _ _ _
  · simp only [touch, h0, hA, ↓reduceIte, put, bare, List.append_nil]

theorem recomp_length (s : St) (old val : Reg) : (recomp s old val).regs.length = s.regs.length := by
  rw [recomp_eq]
  show (if _ then _ else _ : St).regs.length = _
  split <;> exact put_length _ _ _

theorem touch_length (s : St) (name : Nat) (val : Reg) : (touch s name val).regs.length = s.regs.length := by
  unfold touch
  split
  · rfl
  · split
    · rw [recomp_length, put_length]
    · exact put_length _ _ _

theorem regSetLoop_frame (f : Nat) : ∀ (s : St) (name : Nat) (val : Reg),
    regSetLoop f s name val =
      { s with regs := (regSetLoop f (bare s.regs) name val).regs,
               srq := s.srq ++ (regSetLoop f (bare s.regs) name val).srq } := by
  induction f with
  | zero => intro s _ _; simp [regSetLoop, bare]
  | succ f ih =>
    intro s name val
    rw [regSetLoop_succ, regSetLoop_succ f (bare s.regs), ← next_bare]
    cases next s name val with
    | none => exact touch_frame s name val
    | some p =>
      rw [Option.elim_some, Option.elim_some, ih (touch s name val), ih (touch (bare s.regs) name val), touch_frame s]
      simp [bare]

theorem regSetLoop_length (f : Nat) : ∀ (s : St) (name : Nat) (val : Reg),
    (regSetLoop f s name val).regs.length = s.regs.length := by
  induction f with
  | zero => intros; rfl
  | succ f ih =>
    intro s name val
    rw [regSetLoop_succ]
    cases next s name val with
    | none => exact touch_length s name val
    | some p => exact (ih _ _ _).trans (touch_length s name val)

theorem regSet_frame (s : St) (name : Nat) (val : Reg) :
    regSet s name val = { s with regs := (regSet (bare s.regs) name val).regs,
                                 srq := s.srq ++ (regSet (bare s.regs) name val).srq } := by
  unfold regSet
  split
  · simp [bare]
  · exact regSetLoop_frame _ _ _ _

theorem regSet_qn (s : St) (n : Nat) (v : Reg) : (regSet s n v).qn = s.qn := by
  rw [regSet_frame]

theorem regSet_cap (s : St) (n : Nat) (v : Reg) : (regSet s n v).cap = s.cap := by
  rw [regSet_frame]

theorem regSet_errcb (s : St) (n : Nat) (v : Reg) : (regSet s n v).errcb = s.errcb := by
  rw [regSet_frame]

theorem regSet_same (s : St) (name : Nat) (val : Reg) : Same s (regSet s name val) := by
  refine ⟨?_, regSet_qn s name val, regSet_cap s name val, regSet_errcb s name val⟩
  unfold regSet
  split
  · rfl
  · exact regSetLoop_length _ _ _ _

/-- a write of `val` to the event (`w = ev`) or enable (`w = en`) register of a group with summary bit `b` in the status byte -/
def setGrp (s : St) (w ev en : Nat) (b val : Reg) : St :=
  if get s w = val then s else
  let s1 := put s w val
  setTop s1 0 (summ (get s1 0) b ((if w = ev then val else get s1 ev) &&& (if w = en then val else get s1 en) ≠ 0))
def setCond (s : St) (c ev en : Nat) (b val : Reg) : St :=
  if get s c = val then s else
  let s1 := put s c val
  setGrp s1 ev ev en b ((get s c ^^^ val) &&& val ||| get s1 ev)

theorem regSet_ge (s : St) (n : Nat) (v : Reg) (h : 10 ≤ n) : regSet s n v = s := by
  unfold regSet; rw [if_pos (by simpa using h)]
theorem regSet_0 (s : St) (v : Reg) : regSet s 0 v = setTop s 0 v := rfl
theorem regSet_1 (s : St) (v : Reg) : regSet s 1 v = setTop s 1 v := rfl
theorem regSet_2 (s : St) (v : Reg) : regSet s 2 v = setGrp s 2 2 3 32 v := rfl
theorem regSet_3 (s : St) (v : Reg) : regSet s 3 v = setGrp s 3 2 3 32 v := rfl
theorem regSet_4 (s : St) (v : Reg) : regSet s 4 v = setGrp s 4 4 5 128 v := rfl
theorem regSet_5 (s : St) (v : Reg) : regSet s 5 v = setGrp s 5 4 5 128 v := rfl
theorem regSet_6 (s : St) (v : Reg) : regSet s 6 v = setCond s 6 4 5 128 v := rfl
theorem regSet_7 (s : St) (v : Reg) : regSet s 7 v = setGrp s 7 7 8 8 v := rfl
theorem regSet_8 (s : St) (v : Reg) : regSet s 8 v = setGrp s 8 7 8 8 v := rfl
theorem regSet_9 (s : St) (v : Reg) : regSet s 9 v = setCond s 9 7 8 8 v := rfl

def GrpOK (s : St) (ev en : Nat) (b : Reg) : Prop := get s 0 &&& b ≠ 0 ↔ get s ev &&& get s en ≠ 0
/-- `Regs.Coherent` without its clause about the queue (`coherent_iff`): this much a register write keeps by itself -/
def Coh3 (s : St) : Prop := GrpOK s 2 3 32 ∧ GrpOK s 4 5 128 ∧ GrpOK s 7 8 8 ∧ SrqOK s
theorem Coh3.srq {s : St} (h : Coh3 s) : SrqOK s := h.2.2.2

theorem _root_.ScpiVerif.Regs.Coherent.qma {s : St} (h : Coherent s) : get s STB &&& bit Gen.STB_QMA ≠ 0 ↔ s.qn ≠ 0 :=
  h.2.2.2.1

abbrev IsGrp (ev en : Nat) (b : Reg) : Prop :=
  (ev = 2 ∧ en = 3 ∧ b = 32) ∨ (ev = 4 ∧ en = 5 ∧ b = 128) ∨ (ev = 7 ∧ en = 8 ∧ b = 8)

theorem coherent_iff (s : St) : Coherent s ↔ Coh3 s ∧ (get s 0 &&& 4 ≠ 0 ↔ s.qn ≠ 0) := by
  have e1 : bit Gen.STB_ESR = 32 := by decide
  have e2 : bit Gen.STB_OPS = 128 := by decide
  have e3 : bit Gen.STB_QES = 8 := by decide
  have e4 : bit Gen.STB_QMA = 4 := by decide
  have e5 : bit Gen.STB_SRQ = stbSRQ := rfl
  unfold Coherent Coh3 GrpOK SrqOK
  simp only [e1, e2, e3, e4, e5, STB_eq, SRE_eq, ESR_eq, ESE_eq, OPER_eq, OPERE_eq, QUES_eq, QUESE_eq]
  constructor
  · rintro ⟨a, b, c, d, e⟩; exact ⟨⟨a, b, c, e⟩, d⟩
  · rintro ⟨⟨a, b, c, e⟩, d⟩; exact ⟨a, b, c, d, e⟩

/-- a state that has `sre` in SRE, the status byte `X` with its SRQ bit recomputed for `sre`, and the other registers of `s` -/
theorem coh3_of_stb (s s' : St) (X sre : Reg)
    (h0 : get s' 0 = fixSRQ X sre) (h1 : get s' 1 = sre) (hm : ∀ m, m ≠ 0 → m ≠ 1 → get s' m = get s m)
    (g1 : X &&& 32 ≠ 0 ↔ get s 2 &&& get s 3 ≠ 0)
    (g2 : X &&& 128 ≠ 0 ↔ get s 4 &&& get s 5 ≠ 0)
    (g3 : X &&& 8 ≠ 0 ↔ get s 7 &&& get s 8 ≠ 0) : Coh3 s' := by
  unfold Coh3 GrpOK SrqOK
  rw [h0, h1, hm 2 (by decide) (by decide), hm 3 (by decide) (by decide), hm 4 (by decide) (by decide),
    hm 5 (by decide) (by decide), hm 7 (by decide) (by decide), hm 8 (by decide) (by decide),
    fixSRQ_and _ _ 32 (by decide), fixSRQ_and _ _ 128 (by decide), fixSRQ_and _ _ 8 (by decide)]
  exact ⟨g1, g2, g3, fixSRQ_ok _ _⟩

/-- what a write to a register other than the status byte keeps or establishes: `Coh3`, the service-request clause, and
the error-available bit (4) of the status byte as it was -/
def Good (s s' : St) : Prop :=
  Coh3 s → Coh3 s' ∧ SrqClause s s' ∧ get s' 0 &&& 4 = get s 0 &&& 4

theorem Good.rfl' (s : St) : Good s s := fun h => ⟨h, SrqClause.rfl' s, rfl⟩

theorem SrqClause.of_eq {s s1 s' : St} (hq : s1.srq = s.srq) (h0 : get s1 0 = get s 0)
    (h : SrqClause s1 s') : SrqClause s s' := by
  unfold SrqClause at *; rw [hq, h0] at h; exact h

/-- registers other than the status byte after `regSet s n v` -/
def expect (s : St) (n : Nat) (v : Reg) (m : Nat) : Reg :=
  if m = n then v
  else if n = 6 ∧ m = 4 then get s 4 ||| (v &&& ~~~get s 6)
  else if n = 9 ∧ m = 7 then get s 7 ||| (v &&& ~~~get s 9)
  else get s m

theorem expect_of_ne (s : St) (n : Nat) (v : Reg) (m : Nat) (h6 : n ≠ 6) (h9 : n ≠ 9) :
    expect s n v m = if m = n then v else get s m := by
  simp only [expect, h6, h9, false_and, ↓reduceIte]

theorem IsGrp.eq_or_disj {ev en ev' en' : Nat} {b b' : Reg} (h : IsGrp ev en b) (h' : IsGrp ev' en' b') :
    (ev' = ev ∧ en' = en ∧ b' = b) ∨ (b &&& b' = 0 ∧ ev' ≠ ev ∧ ev' ≠ en ∧ en' ≠ ev ∧ en' ≠ en) := by
  rcases h with ⟨rfl, rfl, rfl⟩ | ⟨rfl, rfl, rfl⟩ | ⟨rfl, rfl, rfl⟩ <;>
    rcases h' with ⟨rfl, rfl, rfl⟩ | ⟨rfl, rfl, rfl⟩ | ⟨rfl, rfl, rfl⟩ <;> decide

theorem setGrp_spec (s : St) (w ev en : Nat) (b val : Reg) (L : s.regs.length = 10)
    (hg : IsGrp ev en b) (hw : w = ev ∨ w = en) :
    (∀ m, m ≠ 0 → get (setGrp s w ev en b val) m = expect s w val m) ∧ Good s (setGrp s w ev en b val) := by
  have hw' : w < 10 ∧ w ≠ 0 ∧ w ≠ 1 ∧ w ≠ 6 ∧ w ≠ 9 ∧ b ≠ 0 ∧ b &&& 4 = 0 := by
    rcases hg with ⟨rfl, rfl, rfl⟩ | ⟨rfl, rfl, rfl⟩ | ⟨rfl, rfl, rfl⟩ <;> rcases hw with rfl | rfl <;> decide
  obtain ⟨w10, w0, w1, w6, w9, b0, b4⟩ := hw'
  simp only [expect_of_ne s w val _ w6 w9]
  unfold setGrp
  by_cases e : get s w = val
  · rw [if_pos e]; exact ⟨fun m _ => get_eq_ite e m, Good.rfl' s⟩
  rw [if_neg e]
  have gp : ∀ m, get (put s w val) m = if m = w then val else get s m := fun m => get_put s w m val L w10
  have L1 : (put s w val).regs.length = 10 := (put_length s w val).trans L
  have q1 : (put s w val).srq = s.srq := rfl
  generalize put s w val = s1 at gp L1 q1 ⊢
  have g0 : get s1 0 = get s 0 := by rw [gp, if_neg (Ne.symm w0)]
  have gw : ∀ k, (if w = k then val else get s1 k) = get s1 k := fun k => by
    split
    · rename_i h; rw [← h, gp, if_pos rfl]
    · rfl
  simp only [gw]
  obtain ⟨h2, h3⟩ := setTop_STB s1 (summ (get s1 0) b (get s1 ev &&& get s1 en ≠ 0)) L1
  refine ⟨fun m hm => by rw [h2 m hm, gp], fun hcoh => ?_⟩
  have hs : SrqOK s1 := by
    have := hcoh.srq
    unfold SrqOK at this ⊢
    rwa [g0, gp 1, if_neg (Ne.symm w1)]
  obtain ⟨h4, h5⟩ := h3 hs
  -- the new summary bit is right for the group written to; another group has its registers and its bit untouched
  have grp : ∀ {ev' en' b'}, IsGrp ev' en' b' → GrpOK s ev' en' b' →
      (summ (get s1 0) b (get s1 ev &&& get s1 en ≠ 0) &&& b' ≠ 0 ↔ get s1 ev' &&& get s1 en' ≠ 0) := by
    intro ev' en' b' h' c
    rcases hg.eq_or_disj h' with ⟨rfl, rfl, rfl⟩ | ⟨d, _, _, _, _⟩
    · exact summ_self _ _ _ b0
    · obtain ⟨n1, n2⟩ : ev' ≠ w ∧ en' ≠ w := by rcases hw with rfl | rfl <;> exact ⟨by assumption, by assumption⟩
      rw [summ_disj _ _ _ _ d, g0, gp ev', gp en', if_neg n1, if_neg n2]; exact c
  refine ⟨coh3_of_stb s1 _ _ _ h4 (h2 1 (by decide)) (fun m h _ => h2 m h) (grp (by decide) hcoh.1) (grp (by decide) hcoh.2.1)
    (grp (by decide) hcoh.2.2.1), SrqClause.of_eq q1 g0 h5, ?_⟩
  rw [h4, fixSRQ_and _ _ 4 (by decide), g0]; exact summ_disj _ _ _ _ b4

theorem Coh3.congr' {s t : St} (h : ∀ m, m ≠ 6 → m ≠ 9 → get t m = get s m) : Coh3 t ↔ Coh3 s := by
  unfold Coh3 GrpOK SrqOK; simp (disch := decide) only [h]

abbrev IsCond (c ev en : Nat) (b : Reg) : Prop :=
  (c = 6 ∧ ev = 4 ∧ en = 5 ∧ b = 128) ∨ (c = 9 ∧ ev = 7 ∧ en = 8 ∧ b = 8)

theorem setCond_spec (s : St) (c ev en : Nat) (b val : Reg) (L : s.regs.length = 10) (hg : IsCond c ev en b) :
    (∀ m, m ≠ 0 → get (setCond s c ev en b val) m = expect s c val m) ∧ Good s (setCond s c ev en b val) := by
  have hg' : IsGrp ev en b := hg.elim (fun h => .inr (.inl h.2)) (fun h => .inr (.inr h.2))
  have hc : c < 10 ∧ c ≠ ev ∧ ev ≠ 6 ∧ ev ≠ 9 ∧ (c = 6 ∧ ev = 4 ∨ c = 9 ∧ ev = 7) := by
    rcases hg with ⟨rfl, rfl, _⟩ | ⟨rfl, rfl, _⟩ <;> decide
  have ex : ∀ m, expect s c val m =
      if m = c then val else if m = ev then get s ev ||| (val &&& ~~~get s c) else get s m := fun m => by
    rcases hc.2.2.2.2 with ⟨rfl, rfl⟩ | ⟨rfl, rfl⟩ <;> simp [expect]
  simp only [ex]
  unfold setCond
  by_cases e : get s c = val
  · rw [if_pos e]
    refine ⟨fun m _ => ?_, Good.rfl' s⟩
    split
    · rename_i hm; rw [hm, e]
    · split
      · rename_i hm; rw [hm, ← e, and_andn_self]; simp
      · rfl
  · rw [if_neg e]
    have gp := fun m => get_put s c m val L hc.1
    obtain ⟨h2, h3⟩ := setGrp_spec (put s c val) ev ev en b ((get s c ^^^ val) &&& val ||| get (put s c val) ev)
      ((put_length s c val).trans L) hg' (Or.inl rfl)
    refine ⟨fun m hm => ?_, fun hcoh => ?_⟩
    · rw [h2 m hm, expect_of_ne _ _ _ _ hc.2.2.1 hc.2.2.2.1, gp m, gp ev, if_neg (Ne.symm hc.2.1), xor_and_and, BitVec.or_comm]
      by_cases mev : m = ev
      · rw [if_pos mev, if_neg (mev ▸ Ne.symm hc.2.1), if_pos mev]
      · rw [if_neg mev, if_neg mev]
    · have ag : ∀ m, m ≠ 6 → m ≠ 9 → get (put s c val) m = get s m := fun m h6 h9 => by
        rw [gp, if_neg (by rcases hc.2.2.2.2 with ⟨rfl, _⟩ | ⟨rfl, _⟩ <;> assumption)]
      obtain ⟨a1, a2, a3⟩ := h3 ((Coh3.congr' ag).2 hcoh)
      have g0 := ag 0 (by decide) (by decide)
      exact ⟨a1, SrqClause.of_eq (s1 := put s c val) rfl g0 a2, by rw [a3, g0]⟩

theorem setTop_SRE (s : St) (val : Reg) (L : s.regs.length = 10) :
    (∀ m, m ≠ 0 → get (setTop s 1 val) m = expect s 1 val m) ∧ Good s (setTop s 1 val) := by
  obtain ⟨b, c⟩ := setTop_spec s 1 val L (Or.inr rfl)
  refine ⟨fun m hm => by rw [b m hm, expect_of_ne _ _ _ _ (by decide) (by decide)], fun h => ?_⟩
  obtain ⟨c1, c2⟩ := c h.srq
  have c1 : get (setTop s 1 val) 0 = fixSRQ (get s 0) val := c1
  exact ⟨coh3_of_stb s _ _ _ c1 (b 1 (by decide)) (fun m h0 h1 => (b m h0).trans (if_neg h1)) h.1 h.2.1 h.2.2.1, c2,
    by rw [c1, fixSRQ_and _ _ 4 (by decide)]⟩

theorem regSet_spec (s : St) (n : Nat) (v : Reg) (L : s.regs.length = 10) :
    Same s (regSet s n v) ∧
    (n < 10 → ∀ m, m ≠ 0 → get (regSet s n v) m = expect s n v m) ∧
    (n ≠ 0 → Good s (regSet s n v)) ∧
    (SrqOK s → get (regSet s 0 v) 0 = fixSRQ v (get s 1)) ∧
    (Coh3 s → SrqClause s (regSet s n v)) := by
  have top := setTop_STB s v L
  -- a register other than the status byte is SRE or the event, enable or condition register of a group
  have key : n ≠ 0 → n < 10 → (∀ m, m ≠ 0 → get (regSet s n v) m = expect s n v m) ∧ Good s (regSet s n v) := by
    intro h0 h10
    have hn : n = 1 ∨ n = 2 ∨ n = 3 ∨ n = 4 ∨ n = 5 ∨ n = 6 ∨ n = 7 ∨ n = 8 ∨ n = 9 := by omega
    rcases hn with rfl | rfl | rfl | rfl | rfl | rfl | rfl | rfl | rfl
    · rw [regSet_1]; exact setTop_SRE s v L
    · rw [regSet_2]; exact setGrp_spec s 2 2 3 32 v L (by decide) (.inl rfl)
    · rw [regSet_3]; exact setGrp_spec s 3 2 3 32 v L (by decide) (.inr rfl)
    · rw [regSet_4]; exact setGrp_spec s 4 4 5 128 v L (by decide) (.inl rfl)
    · rw [regSet_5]; exact setGrp_spec s 5 4 5 128 v L (by decide) (.inr rfl)
    · rw [regSet_6]; exact setCond_spec s 6 4 5 128 v L (by decide)
    · rw [regSet_7]; exact setGrp_spec s 7 7 8 8 v L (by decide) (.inl rfl)
    · rw [regSet_8]; exact setGrp_spec s 8 7 8 8 v L (by decide) (.inr rfl)
    · rw [regSet_9]; exact setCond_spec s 9 7 8 8 v L (by decide)
  have good : n ≠ 0 → Good s (regSet s n v) := fun h0 =>
    if h10 : n < 10 then (key h0 h10).2 else by rw [regSet_ge s n v (by omega)]; exact Good.rfl' s
  refine ⟨regSet_same s n v, fun h10 m hm => ?_, good, fun h => (top.2 h).1, fun h => ?_⟩
  · by_cases h0 : n = 0
    · subst h0; rw [regSet_0, top.1 m hm, expect_of_ne _ _ _ _ (by decide) (by decide), if_neg hm]
    · exact (key h0 h10).1 m hm
  · by_cases h0 : n = 0
    · subst h0; exact (top.2 h.srq).2
    · exact (good h0 h).2.1

theorem get_regSet (s : St) (n : Nat) (v : Reg) (m : Nat) (L : s.regs.length = 10)
    (hn : n < 10 ∧ n ≠ 6 ∧ n ≠ 9) (hm : m ≠ 0) :
    get (regSet s n v) m = if m = n then v else get s m := by
  rw [(regSet_spec s n v L).2.1 hn.1 m hm, expect_of_ne _ _ _ _ hn.2.1 hn.2.2]


/-- the class table in the canonical form the translator produces: maximal ranges (highest, lowest, bits) of codes by
what one SCPI_ErrorPush sets in the event status register, ascending -/
def fixedClassTable : List (Int × Int × Nat) :=
  [(-800, -899, 1), (-700, -799, 2), (-600, -699, 64), (-500, -599, 128), (-400, -499, 4),
   (-300, -399, 8), (-200, -299, 16), (-100, -199, 32), (32767, 1, 8)]

def rowBit (code : Int) (r : Int × Int × Nat) : Reg :=
  if code ≤ r.1 ∧ code ≥ r.2.1 then BitVec.ofNat 16 r.2.2 else 0

def rowStep (code : Int) (acc : Reg) (r : Int × Int × Nat) : Reg :=
  if code ≤ r.1 ∧ code ≥ r.2.1 then acc ||| BitVec.ofNat 16 r.2.2 else acc

theorem rowStep_eq (code : Int) (acc : Reg) (r : Int × Int × Nat) :
    rowStep code acc r = acc ||| rowBit code r := by
  unfold rowStep rowBit; split <;> simp

theorem foldl_rowStep (code : Int) (tbl : List (Int × Int × Nat)) (a : Reg) :
    tbl.foldl (rowStep code) a = a ||| tbl.foldl (rowStep code) 0 := by
  induction tbl generalizing a with
  | nil => simp
  | cons r t ih =>
    simp only [List.foldl]
    rw [ih (rowStep code a r), ih (rowStep code 0 r), rowStep_eq, rowStep_eq, BitVec.or_assoc]
    simp

theorem classBits_eq (tbl : List (Int × Int × Nat)) (code : Int) :
    classBits tbl code = tbl.foldl (rowStep code) 0 := rfl

theorem classBits_nil (code : Int) : classBits [] code = 0 := rfl
theorem classBits_cons (r : Int × Int × Nat) (t : List (Int × Int × Nat)) (code : Int) :
    classBits (r :: t) code = rowBit code r ||| classBits t code := by
  rw [classBits_eq, classBits_eq, List.foldl, foldl_rowStep, rowStep_eq]; simp

theorem class_bit_fixed (code : Int) : classBits fixedClassTable code = specClassBit code := by
  unfold fixedClassTable specClassBit
  simp only [classBits_cons, classBits_nil, rowBit, ge_iff_le, and_comm (a := code ≤ _)]
  -- the rows are tried in the order of `specClassBit`; a row whose range is that of an earlier test is decided by that
  -- test, only the later ones need arithmetic
  by_cases h1 : -199 ≤ code ∧ code ≤ -100; rotate_left
  by_cases h2 : -299 ≤ code ∧ code ≤ -200; rotate_left
  by_cases h3 : -399 ≤ code ∧ code ≤ -300; rotate_left
  by_cases h4 : 1 ≤ code ∧ code ≤ 32767; rotate_left
  by_cases h5 : -499 ≤ code ∧ code ≤ -400; rotate_left
  by_cases h6 : -599 ≤ code ∧ code ≤ -500; rotate_left
  by_cases h7 : -699 ≤ code ∧ code ≤ -600; rotate_left
  by_cases h8 : -799 ≤ code ∧ code ≤ -700; rotate_left
  by_cases h9 : -899 ≤ code ∧ code ≤ -800; rotate_left
  -- ten goals: `code` in none of the ranges, or in exactly one, known together with the negations of those before it.
  -- A test that is a hypothesis or its negation reduces by `*`; any other is refuted by `omega` (through `if_neg`), the
  -- ranges being disjoint. What is left is an equation between literals.
  all_goals simp (disch := omega) only [*, ↓reduceIte, if_neg, and_self, true_or, or_true, or_self] <;> decide


def setQn (s : St) (q : Nat) : St := { s with qn := q }
def addCb (s : St) (c : Int) : St := { s with errcb := s.errcb ++ [c] }
@[simp] theorem setQn_get (s : St) (q m : Nat) : get (setQn s q) m = get s m := rfl
@[simp] theorem setQn_length (s : St) (q : Nat) : (setQn s q).regs.length = s.regs.length := rfl
@[simp] theorem setQn_qn (s : St) (q : Nat) : (setQn s q).qn = q := rfl
@[simp] theorem setQn_cap (s : St) (q : Nat) : (setQn s q).cap = s.cap := rfl
@[simp] theorem setQn_srq (s : St) (q : Nat) : (setQn s q).srq = s.srq := rfl
@[simp] theorem addCb_get (s : St) (c : Int) (m : Nat) : get (addCb s c) m = get s m := rfl
@[simp] theorem addCb_length (s : St) (c : Int) : (addCb s c).regs.length = s.regs.length := rfl
@[simp] theorem addCb_qn (s : St) (c : Int) : (addCb s c).qn = s.qn := rfl
@[simp] theorem addCb_cap (s : St) (c : Int) : (addCb s c).cap = s.cap := rfl
@[simp] theorem addCb_srq (s : St) (c : Int) : (addCb s c).srq = s.srq := rfl

def pushStep (code : Int) (s : St) (r : Int × Int × Nat) : St :=
  if code ≤ r.1 ∧ code ≥ r.2.1 then regSetBits s ESR (BitVec.ofNat 16 r.2.2) else s

theorem emit_eq (s : St) (c : Int) : emit s c = addCb (regSet s 0 (get s 0 ||| 4)) c := rfl
theorem emitEmpty_eq (s : St) : emitEmpty s =
    if s.qn = 0 ∧ get s 0 &&& 4 ≠ 0 then addCb (regSet s 0 (get s 0 &&& ~~~4)) 0 else s := rfl
theorem emitEmpty_qn (s : St) : (emitEmpty s).qn = s.qn := by
  unfold emitEmpty
  split
  · exact regSet_qn _ _ _
  · rfl
theorem errPop_eq (s : St) : errPop s = emitEmpty (setQn s (s.qn - 1)) := rfl
theorem errClear_eq (s : St) : errClear s = emitEmpty (setQn s 0) := rfl
theorem cls_eq (s : St) : cls s = regSet (regSet (regSet (errClear s) 2 0) 4 0) 7 0 := by
  have r : List.range Gen.SCPI_REG_GROUP_COUNT.toNat = [0, 1, 2, 3] := by decide
  have g0 : (groupOf 0).event = 0 := by decide
  have g1 : (groupOf 1).event = 2 := by decide
  have g2 : (groupOf 2).event = 4 := by decide
  have g3 : (groupOf 3).event = 7 := by decide
  unfold cls
  simp only [r, List.foldl, g0, g1, g2, g3, STB_eq]
  simp
theorem errPush_eq (s : St) (code : Int) : errPush s code =
    if s.cap ≤ s.qn then emit (emit (Gen.errClassTable.foldl (pushStep code) s) code) (-350)
    else emit (Gen.errClassTable.foldl (pushStep code) (setQn s (s.qn + 1))) code := by
  unfold errPush
  by_cases h : s.cap ≤ s.qn
  · simp only [ge_iff_le, h, decide_true, if_true]; rfl
  · simp only [ge_iff_le, h, decide_false, if_false]; rfl

def SrqRel (s s' : St) : Prop :=
  ∃ new, s'.srq = s.srq ++ new ∧ (∀ v ∈ new, v &&& stbSRQ ≠ 0) ∧
    (get s 0 &&& stbSRQ = 0 → get s' 0 &&& stbSRQ ≠ 0 → new ≠ [])

theorem SrqRel.rfl' (s : St) : SrqRel s s :=
  ⟨[], by simp, by simp, fun a b => absurd a b⟩

theorem SrqRel.trans {a b c : St} (h1 : SrqRel a b) (h2 : SrqRel b c) : SrqRel a c := by
  obtain ⟨n1, e1, p1, q1⟩ := h1
  obtain ⟨n2, e2, p2, q2⟩ := h2
  refine ⟨n1 ++ n2, by rw [e2, e1, List.append_assoc], ?_, ?_⟩
  · intro v hv
    rcases List.mem_append.1 hv with h | h
    · exact p1 v h
    · exact p2 v h
  · intro ha hc h
    have h' := List.append_eq_nil_iff.1 h
    by_cases hb : get b 0 &&& stbSRQ = 0
    · exact q2 hb hc h'.2
    · exact q1 ha hb h'.1

theorem SrqClause.rel {s s' : St} (h : SrqClause s s') : SrqRel s s' := by
  obtain ⟨h1, h2⟩ := h
  rcases h1 with e | ⟨e, m⟩
  · refine ⟨[], by simpa using e, by simp, fun a b => ?_⟩
    have := h2 a b
    rw [e] at this
    simp at this
  · exact ⟨[get s' 0], e, by simpa using m, fun _ _ => by simp⟩

theorem SrqRel.of_eq {s s' t t' : St} (hq : t.srq = s.srq) (h0 : get t 0 = get s 0)
    (hq' : t'.srq = s'.srq) (h0' : get t' 0 = get s' 0) (h : SrqRel t t') : SrqRel s s' := by
  unfold SrqRel at *; rw [hq, h0, hq', h0'] at h; exact h

theorem Coh3.congr {s t : St} (h : ∀ m, get t m = get s m) : Coh3 t ↔ Coh3 s :=
  Coh3.congr' fun m _ _ => h m

/-- what every composite of register writes keeps -/
structure Tr (s s' : St) : Prop where
  len : s'.regs.length = s.regs.length
  cap : s'.cap = s.cap
  coh : Coh3 s → Coh3 s' ∧ SrqRel s s'

theorem Tr.rfl' (s : St) : Tr s s := ⟨rfl, rfl, fun h => ⟨h, SrqRel.rfl' s⟩⟩
theorem Tr.trans {a b c : St} (h1 : Tr a b) (h2 : Tr b c) : Tr a c :=
  ⟨h2.len.trans h1.len, h2.cap.trans h1.cap, fun h =>
    ⟨(h2.coh (h1.coh h).1).1, (h1.coh h).2.trans (h2.coh (h1.coh h).1).2⟩⟩

theorem Tr.setQn (s : St) (q : Nat) : Tr s (setQn s q) :=
  ⟨rfl, rfl, fun h => ⟨h, SrqRel.rfl' s⟩⟩
theorem Tr.addCb (s : St) (c : Int) : Tr s (addCb s c) :=
  ⟨rfl, rfl, fun h => ⟨h, SrqRel.rfl' s⟩⟩

theorem Tr.regSet (s : St) (n : Nat) (v : Reg) (L : s.regs.length = 10) (hn : n ≠ 0) :
    Tr s (regSet s n v) := by
  obtain ⟨a, _, c, _, _⟩ := regSet_spec s n v L
  exact ⟨a.1, a.2.2.1, fun h => ⟨(c hn h).1, (c hn h).2.1.rel⟩⟩

/-- a write to the status byte that leaves the three group summary bits (mask 0xA8) as they are (the queue bit may change) -/
theorem stb_write_spec (s : St) (X : Reg) (L : s.regs.length = 10) (h : X &&& 0xA8 = get s 0 &&& 0xA8) :
    Tr s (regSet s 0 X) ∧ (regSet s 0 X).qn = s.qn ∧ (∀ m, m ≠ 0 → get (regSet s 0 X) m = get s m) ∧
    (Coh3 s → get (regSet s 0 X) 0 &&& 4 = X &&& 4) := by
  obtain ⟨b, c⟩ := setTop_STB s X L
  have a : Same s (setTop s 0 X) := regSet_same s 0 X
  have g := fun k hk => and_of_mask X (get s 0) 0xA8 k h hk
  rw [regSet_0]
  refine ⟨⟨a.1, a.2.2.1, fun hc => ?_⟩, a.2.1, b, fun hc => ?_⟩
  · obtain ⟨c1, c2⟩ := c hc.srq
    exact ⟨coh3_of_stb s _ _ _ c1 (b 1 (by decide)) (fun m h _ => b m h) (by rw [g 32 (by decide)]; exact hc.1) (by rw [g 128 (by decide)]; exact hc.2.1)
      (by rw [g 8 (by decide)]; exact hc.2.2.1), c2.rel⟩
  · rw [(c hc.srq).1, fixSRQ_and _ _ 4 (by decide)]

theorem emit_spec (s : St) (c : Int) (L : s.regs.length = 10) :
    Tr s (emit s c) ∧ (emit s c).qn = s.qn ∧ (∀ m, m ≠ 0 → get (emit s c) m = get s m) ∧
    (Coh3 s → get (emit s c) 0 &&& 4 ≠ 0) := by
  obtain ⟨t, a, b, d⟩ := stb_write_spec s (get s 0 ||| 4) L (or_and_disj _ _ _ (by decide))
  rw [emit_eq]
  simp only [addCb_qn, addCb_get]
  exact ⟨t.trans (Tr.addCb _ c), a, b, fun h => by rw [d h, or_and_self]; decide⟩

theorem emitEmpty_spec (s : St) (L : s.regs.length = 10) :
    Tr s (emitEmpty s) ∧ (emitEmpty s).qn = s.qn ∧ (∀ m, m ≠ 0 → get (emitEmpty s) m = get s m) ∧
    (Coh3 s → (s.qn ≠ 0 → get s 0 &&& 4 ≠ 0) → (get (emitEmpty s) 0 &&& 4 ≠ 0 ↔ s.qn ≠ 0)) := by
  rw [emitEmpty_eq]
  by_cases e : s.qn = 0 ∧ get s 0 &&& 4 ≠ 0
  · obtain ⟨t, a, b, d⟩ := stb_write_spec s (get s 0 &&& ~~~4) L (andn_and_disj _ _ _ (by decide))
    rw [if_pos e]
    simp only [addCb_qn, addCb_get]
    refine ⟨t.trans (Tr.addCb _ 0), a, b, fun h _ => ?_⟩
    rw [d h, andn_and_self]
    exact ⟨fun x => absurd rfl x, fun x => absurd e.1 x⟩
  · rw [if_neg e]
    exact ⟨Tr.rfl' s, rfl, fun _ _ => rfl, fun _ hq => ⟨fun x y => e ⟨y, x⟩, hq⟩⟩

theorem get_cls (s : St) (L : s.regs.length = 10) (m : Nat) (hm : m ≠ 0) :
    get (cls s) m = if m = QUES then 0 else if m = OPER then 0 else if m = ESR then 0 else get s m := by
  obtain ⟨t, _, he, _⟩ := emitEmpty_spec (setQn s 0) L
  have Le : (errClear s).regs.length = 10 := t.len.trans L
  have L1 := (regSet_same _ 2 0).1.trans Le
  rw [cls_eq, get_regSet _ 7 0 m ((regSet_same _ 4 0).1.trans L1) (by decide) hm, get_regSet _ 4 0 m L1 (by decide) hm,
    get_regSet _ 2 0 m Le (by decide) hm, show get (errClear s) m = get s m from he m hm]
  rfl

theorem pushBits_spec (code : Int) (tbl : List (Int × Int × Nat)) (s : St) (L : s.regs.length = 10) :
    Tr s (tbl.foldl (pushStep code) s) ∧ (tbl.foldl (pushStep code) s).qn = s.qn ∧
    (∀ m, m ≠ 0 → m ≠ 2 → get (tbl.foldl (pushStep code) s) m = get s m) ∧
    get (tbl.foldl (pushStep code) s) 2 = tbl.foldl (rowStep code) (get s 2) := by
  induction tbl generalizing s with
  | nil => exact ⟨Tr.rfl' s, rfl, fun _ _ _ => rfl, rfl⟩
  | cons r t ih =>
    simp only [List.foldl, pushStep, rowStep, regSetBits, ESR_eq]
    split
    · generalize get s 2 ||| BitVec.ofNat 16 r.2.2 = v
      obtain ⟨a, b, _⟩ := regSet_spec s 2 v L
      have a1 := Tr.regSet s 2 v L (by decide)
      have g := fun m h0 => (b (by decide) m h0).trans (expect_of_ne _ _ _ _ (by decide) (by decide))
      obtain ⟨b1, b2, b3, b4⟩ := ih (regSet s 2 v) (a1.len.trans L)
      refine ⟨a1.trans b1, b2.trans a.2.1, fun m h0 h2 => (b3 m h0 h2).trans ((g m h0).trans (if_neg h2)), ?_⟩
      rw [b4, g 2 (by decide), if_pos rfl]
    · exact ih s L

theorem errPush_spec (s : St) (code : Int) (L : s.regs.length = 10) :
    Tr s (errPush s code) ∧ (errPush s code).qn = (if s.cap ≤ s.qn then s.qn else s.qn + 1) ∧
    (∀ m, m ≠ 0 → m ≠ 2 → get (errPush s code) m = get s m) ∧
    get (errPush s code) 2 = Gen.errClassTable.foldl (rowStep code) (get s 2) ∧
    (Coh3 s → get (errPush s code) 0 &&& 4 ≠ 0) := by
  by_cases h : s.cap ≤ s.qn
  · rw [errPush_eq, if_pos h, if_pos h]
    obtain ⟨a1, a2, a3, a4⟩ := pushBits_spec code Gen.errClassTable s L
    obtain ⟨b1, b2, b3, _⟩ := emit_spec _ code (a1.len.trans L)
    obtain ⟨c1, c2, c3, c4⟩ := emit_spec _ (-350) (b1.len.trans (a1.len.trans L))
    refine ⟨(a1.trans b1).trans c1, c2.trans (b2.trans a2), fun m h0 h2 => ?_, ?_,
      fun hc => c4 (b1.coh (a1.coh hc).1).1⟩
    · rw [c3 m h0, b3 m h0, a3 m h0 h2]
    · rw [c3 2 (by decide), b3 2 (by decide), a4]
  · rw [errPush_eq, if_neg h, if_neg h]
    obtain ⟨a1, a2, a3, a4⟩ := pushBits_spec code Gen.errClassTable (setQn s (s.qn + 1)) L
    obtain ⟨b1, b2, b3, b4⟩ := emit_spec _ code (a1.len.trans L)
    refine ⟨((Tr.setQn s _).trans a1).trans b1, b2.trans a2, fun m h0 h2 => ?_, ?_,
      fun hc => b4 (a1.coh hc).1⟩
    · rw [b3 m h0, a3 m h0 h2]; rfl
    · rw [b3 2 (by decide), a4]; rfl

theorem wf_init (cap : Nat) (h : 1 ≤ cap) : WF (St.init cap) :=
  ⟨by simp [St.init], h, Nat.zero_le _⟩

theorem wfLen {s : St} (h : WF s) : s.regs.length = 10 := h.1

theorem wf_regSet (s : St) (n : Nat) (v : Reg) (h : WF s) : WF (regSet s n v) := by
  obtain ⟨a, b, c, _⟩ := (regSet_spec s n v (wfLen h)).1
  exact ⟨a.trans h.1, c ▸ h.2.1, by rw [b, c]; exact h.2.2⟩

theorem coherent_init (cap : Nat) : Coherent (St.init cap) := by
  have e : ∀ m, get (St.init cap) m = 0 := fun m => by
    simp only [Regs.get, St.init, List.getD_eq_getElem?_getD, List.getElem?_replicate]
    split <;> (try split) <;> rfl
  simp only [Coherent, e, show (St.init cap).qn = 0 from rfl]
  decide

/-- what every operation of the histories keeps -/
def Keeps (s s' : St) : Prop := WF s' ∧ Tr s s' ∧ (Coherent s → Coherent s')

theorem Keeps.trans {a b c : St} (h1 : Keeps a b) (h2 : Keeps b c) : Keeps a c :=
  ⟨h2.1, h1.2.1.trans h2.2.1, fun h => h2.2.2 (h1.2.2 h)⟩

theorem keeps_regSet (s : St) (n : Nat) (v : Reg) (hwf : WF s) (hn : n ≠ 0) : Keeps s (regSet s n v) := by
  refine ⟨wf_regSet s n v hwf, Tr.regSet s n v (wfLen hwf) hn, fun hc => ?_⟩
  rw [coherent_iff] at hc ⊢
  obtain ⟨a, _, c, _, _⟩ := regSet_spec s n v (wfLen hwf)
  obtain ⟨c1, _, c3⟩ := c hn hc.1
  exact ⟨c1, by rw [c3, a.2.1]; exact hc.2⟩

/-- SCPI_ErrorEmitEmpty after the queue has shrunk to `q` entries -/
theorem keeps_emitEmpty (s : St) (q : Nat) (hwf : WF s) (hq : q ≤ s.qn) : Keeps s (emitEmpty (setQn s q)) := by
  obtain ⟨a, b, _, d⟩ := emitEmpty_spec (setQn s q) hwf.1
  refine ⟨⟨a.len.trans hwf.1, a.cap ▸ hwf.2.1, by rw [a.cap, b]; exact Nat.le_trans hq hwf.2.2⟩,
    (Tr.setQn s q).trans a, fun hc => ?_⟩
  have h := (coherent_iff s).1 hc
  rw [coherent_iff]
  exact ⟨(a.coh h.1).1, by rw [b]; exact d h.1 (fun (hq' : q ≠ 0) => h.2.2 (by omega))⟩

theorem keeps_errPush (s : St) (c : Int) (hwf : WF s) : Keeps s (errPush s c) := by
  obtain ⟨a, b, _, _, d⟩ := errPush_spec s c (wfLen hwf)
  have hq : (errPush s c).qn ≤ s.cap ∧ (errPush s c).qn ≠ 0 := by
    rw [b]; have := hwf.2.1; have := hwf.2.2; split <;> omega
  refine ⟨⟨a.len.trans hwf.1, a.cap ▸ hwf.2.1, a.cap ▸ hq.1⟩, a, fun hc => ?_⟩
  rw [coherent_iff] at hc ⊢
  exact ⟨(a.coh hc.1).1, fun _ => hq.2, fun _ => d hc.1⟩

theorem step_keeps (s : St) (op : Op) (hwf : WF s) (hop : op.ok = true) : Keeps s (step s op) := by
  cases op with
  | set n v => exact keeps_regSet s n v hwf (by simpa [Op.ok] using hop)
  | setBits n v => exact keeps_regSet s n _ hwf (by simpa [Op.ok] using hop)
  | clearBits n v => exact keeps_regSet s n _ hwf (by simpa [Op.ok] using hop)
  | errPush c => exact keeps_errPush s c hwf
  | errPop => exact keeps_emitEmpty s _ hwf (Nat.sub_le _ _)
  | errClear => exact keeps_emitEmpty s 0 hwf (Nat.zero_le _)
  | cls =>
    show Keeps s (cls s)
    rw [cls_eq]
    have k0 : Keeps s (errClear s) := keeps_emitEmpty s 0 hwf (Nat.zero_le _)
    have k1 := k0.trans (keeps_regSet _ 2 0 k0.1 (by decide))
    have k2 := k1.trans (keeps_regSet _ 4 0 k1.1 (by decide))
    exact k2.trans (keeps_regSet _ 7 0 k2.1 (by decide))
  | esrQ => exact keeps_regSet s 2 0 hwf (by decide)
  | operQ => exact keeps_regSet s 4 0 hwf (by decide)
  | quesQ => exact keeps_regSet s 7 0 hwf (by decide)
  | preset => exact keeps_regSet s 7 0 hwf (by decide)

theorem wf_step (s : St) (op : Op) (h : WF s) : WF (step s op) := by
  by_cases hop : op.ok = true
  · exact (step_keeps s op h hop).1
  · cases op with
    | set n v | setBits n v | clearBits n v => exact wf_regSet _ _ _ h
    | _ => exact absurd rfl hop

theorem coherent_step (s : St) (op : Op) (hwf : WF s) (hc : Coherent s) (hop : op.ok = true) :
    Coherent (step s op) := (step_keeps s op hwf hop).2.2 hc


/-- the table regenerated from the behaviour of SCPI_ErrorPush on all 65536 codes is the expected one -/
theorem errClassTable_fixed : Gen.errClassTable = fixedClassTable := by decide

theorem class_bit (code : Int) (h : -32768 ≤ code ∧ code ≤ 32767) :
    classBits Gen.errClassTable code = specClassBit code := by
  rw [errClassTable_fixed]; exact class_bit_fixed code

/-- holds for any table: the push ORs exactly the class bits of the table into ESR -/
theorem push_sets_table_bits (s : St) (code : Int) (hwf : WF s) :
    get (errPush s code) ESR = get s ESR ||| classBits Gen.errClassTable code := by
  obtain ⟨_, _, _, a, _⟩ := errPush_spec s code (wfLen hwf)
  show get (errPush s code) 2 = get s 2 ||| _
  rw [a, foldl_rowStep, classBits_eq]

theorem push_sets_class_bit (s : St) (code : Int) (hwf : WF s) (h : -32768 ≤ code ∧ code ≤ 32767) :
    get (errPush s code) ESR = get s ESR ||| specClassBit code := by
  rw [push_sets_table_bits s code hwf, class_bit code h]

theorem cond_latches_oper (s : St) (v : Reg) (hwf : WF s) :
    get (regSet s OPERC v) OPER = get s OPER ||| (v &&& ~~~(get s OPERC)) ∧ get (regSet s OPERC v) OPERC = v := by
  obtain ⟨_, b, _⟩ := regSet_spec s 6 v (wfLen hwf)
  exact ⟨b (by decide) 4 (by decide), b (by decide) 6 (by decide)⟩

theorem cond_latches_ques (s : St) (v : Reg) (hwf : WF s) :
    get (regSet s QUESC v) QUES = get s QUES ||| (v &&& ~~~(get s QUESC)) ∧ get (regSet s QUESC v) QUESC = v := by
  obtain ⟨_, b, _⟩ := regSet_spec s 9 v (wfLen hwf)
  exact ⟨b (by decide) 7 (by decide), b (by decide) 9 (by decide)⟩

theorem mss_false (s : St) : mss s = false ↔ get s 0 &&& stbSRQ = 0 := by
  unfold mss; rw [decide_eq_false_iff_not]; exact Decidable.not_not
theorem mss_true (s : St) : mss s = true ↔ get s 0 &&& stbSRQ ≠ 0 := by
  unfold mss; rw [decide_eq_true_iff]; exact Iff.rfl

theorem srq_regset (s : St) (name : Nat) (v : Reg) (hwf : WF s) (hc : Coherent s) :
    let s' := regSet s name v
    (s'.srq = s.srq ∨ (s'.srq = s.srq ++ [get s' STB] ∧ mss s' = true)) ∧
    (mss s = false → mss s' = true → s'.srq = s.srq ++ [get s' STB]) := by
  intro s'
  obtain ⟨_, _, _, _, e⟩ := regSet_spec s name v (wfLen hwf)
  have h := e ((coherent_iff s).1 hc).1
  unfold SrqClause at h
  rw [mss_false, mss_true]
  exact h

theorem srq_step (s : St) (op : Op) (hwf : WF s) (hc : Coherent s) (hop : op.ok = true) :
    ∃ new, (step s op).srq = s.srq ++ new ∧ (∀ v ∈ new, v &&& stbSRQ ≠ 0) ∧
      (mss s = false → mss (step s op) = true → new ≠ []) := by
  have h := ((step_keeps s op hwf hop).2.1.coh ((coherent_iff s).1 hc).1).2
  unfold SrqRel at h
  simp only [mss_false, mss_true]
  exact h


/-- operations defined to clear (bits of) event register `ev` (same as `Props.C12.clears`) -/
def clears (ev : Nat) : Op → Bool
  | .set n _ => n == ev
  | .clearBits n _ => n == ev
  | .cls => true
  | .esrQ => ev == ESR
  | .operQ => ev == OPER
  | .quesQ => ev == QUES
  | .preset => ev == QUES
  | _ => false

theorem mono_regSet (s : St) (n : Nat) (v : Reg) (ev : Nat) (L : s.regs.length = 10)
    (hev : ev = 2 ∨ ev = 4 ∨ ev = 7) (hne : n ≠ ev ∨ get s ev &&& ~~~v = 0) :
    get s ev &&& ~~~get (regSet s n v) ev = 0 := by
  by_cases hn : n < 10
  · obtain ⟨_, b, _⟩ := regSet_spec s n v L
    have ev0 : ev ≠ 0 := by rcases hev with rfl | rfl | rfl <;> decide
    rw [b hn ev ev0]
    unfold expect
    split
    · next h => exact hne.elim (absurd h.symm) id
    · split
      · rename_i h; rw [h.2]; exact and_andn_or _ _
      · split
        · rename_i h; rw [h.2]; exact and_andn_or _ _
        · exact and_andn_self _
  · rw [regSet_ge s n v (by omega)]; exact and_andn_self _

theorem event_monotone (s : St) (op : Op) (ev : Nat) (hev : ev = ESR ∨ ev = OPER ∨ ev = QUES)
    (hwf : WF s) (hop : op.ok = true) (hnc : clears ev op = false) :
    get s ev &&& ~~~(get (step s op) ev) = 0 := by
  have L := wfLen hwf
  have hev' : ev = 2 ∨ ev = 4 ∨ ev = 7 := hev
  have ev0 : ev ≠ 0 := by rcases hev' with rfl | rfl | rfl <;> decide
  have rs := fun n v (h : n ≠ ev) => mono_regSet s n v ev L hev' (Or.inl h)
  have ee : ∀ q, get s ev &&& ~~~get (emitEmpty (setQn s q)) ev = 0 := fun q => by
    rw [(emitEmpty_spec (setQn s q) L).2.2.1 ev ev0]; exact and_andn_self _
  cases op with
  | set n v => exact rs n v (by simpa [clears] using hnc)
  | setBits n v =>
    show get s ev &&& ~~~get (regSet s n (get s n ||| v)) ev = 0
    by_cases h : n = ev
    · subst h; exact mono_regSet s n _ n L hev' (Or.inr (and_andn_or _ _))
    · exact rs n _ h
  | clearBits n v => exact rs n _ (by simpa [clears] using hnc)
  | errPush c =>
    show get s ev &&& ~~~get (errPush s c) ev = 0
    obtain ⟨_, _, a, b, _⟩ := errPush_spec s c L
    by_cases h : ev = 2
    · subst h; rw [b, foldl_rowStep]; exact and_andn_or _ _
    · rw [a ev ev0 h]; exact and_andn_self _
  | errPop => exact ee _
  | errClear => exact ee 0
  | cls => simp [clears] at hnc
  | esrQ => exact rs 2 0 (Ne.symm (by simpa [clears] using hnc))
  | operQ => exact rs 4 0 (Ne.symm (by simpa [clears] using hnc))
  | quesQ => exact rs 7 0 (Ne.symm (by simpa [clears] using hnc))
  | preset => exact rs 7 0 (Ne.symm (by simpa [clears] using hnc))


/-- a state whose logs already hold the histories `a`, `b`: every operation commutes with `pre a b` (`step_pre`), since the
logs are appended to and never read -/
def pre (a : List Reg) (b : List Int) (s : St) : St := { s with srq := a ++ s.srq, errcb := b ++ s.errcb }

section frame
variable (a : List Reg) (b : List Int) (s : St)

@[simp] theorem pre_get (m : Nat) : get (pre a b s) m = get s m := rfl
@[simp] theorem pre_qn : (pre a b s).qn = s.qn := rfl
@[simp] theorem pre_cap : (pre a b s).cap = s.cap := rfl

theorem regSet_pre (n : Nat) (v : Reg) : regSet (pre a b s) n v = pre a b (regSet s n v) := by
  rw [regSet_frame (pre a b s), regSet_frame s]
  simp only [pre, List.append_assoc]

theorem addCb_pre (c : Int) : addCb (pre a b s) c = pre a b (addCb s c) := by
  simp only [pre, addCb, List.append_assoc]

theorem setQn_pre (q : Nat) : setQn (pre a b s) q = pre a b (setQn s q) := rfl

omit s in
theorem foldl_pre {β : Type} {f : St → β → St} (hf : ∀ a b s x, f (pre a b s) x = pre a b (f s x)) (l : List β) :
    ∀ s, l.foldl f (pre a b s) = pre a b (l.foldl f s) := by
  induction l with
  | nil => exact fun _ => rfl
  | cons x l ih => exact fun s => by rw [List.foldl_cons, hf, ih, List.foldl_cons]

theorem emit_pre (c : Int) : emit (pre a b s) c = pre a b (emit s c) := by
  simp only [emit_eq, pre_get, regSet_pre, addCb_pre]

theorem emitEmpty_pre : emitEmpty (pre a b s) = pre a b (emitEmpty s) := by
  simp only [emitEmpty_eq, pre_get, pre_qn, regSet_pre, addCb_pre]
  split <;> rfl

theorem errPush_pre (c : Int) : errPush (pre a b s) c = pre a b (errPush s c) := by
  have fold := foldl_pre a b (f := pushStep c) (fun a b s r => by
    unfold pushStep regSetBits; split
    · rw [pre_get, regSet_pre]
    · rfl) Gen.errClassTable
  simp only [errPush_eq, pre_qn, pre_cap, setQn_pre, fold, emit_pre]
  split <;> rfl

theorem step_pre (op : Op) : step (pre a b s) op = pre a b (step s op) := by
  cases op with
  | errPush c => exact errPush_pre a b s c
  | cls => simp only [step, cls_eq, errClear_eq, setQn_pre, emitEmpty_pre, regSet_pre]
  | errPop => exact emitEmpty_pre a b (setQn s (s.qn - 1))
  | errClear => exact emitEmpty_pre a b (setQn s 0)
  | _ => exact regSet_pre a b s _ _

end frame

/-- the state from which `step_frame` lets every operation start: empty logs -/
def core (s : St) : St := { s with srq := [], errcb := [] }

theorem step_frame (s : St) (op : Op) : step s op = pre s.srq s.errcb (step (core s) op) := by
  rw [← step_pre]; simp [pre, core]

end ScpiVerif.Lemmas.Regs
