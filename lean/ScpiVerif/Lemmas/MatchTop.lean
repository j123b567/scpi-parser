/-
The two loops of `matchCommand` on a rendered pattern and a header split at ':' (C03 proof, text
level): the main loop computes the list-level walker `greedy`, the trailing loop checks that the
keywords left over are optional.  Both also keep numbers[]: `Good` says what they return.
-/
import ScpiVerif.Lemmas.MatchKw
import ScpiVerif.Lemmas.MatchLocal

namespace ScpiVerif.Lemmas.Match
open ScpiVerif ScpiVerif.Match ScpiVerif.Spec.Pattern
open ScpiVerif.Lexer (Bytes isDigit isLower isUpper isAlpha)

section
variable {p c : Bytes} {q cq hn : Bool} {d : Int} {rec : MState → Bool × MState}

/-- the entry of numbers[] for a keyword read with suffix `n`: a suffix as `strtol10` returns it -/
def numVal (n : Option Nat) (d : Int) : Int := match n with | some v => toInt32 v | none => d

/-- `want` with every suffix as `strtol10` returns it (`numVal`); equal to `want` for suffixes below 2^31 -/
def wantC (sol : List (Option Nat)) (d : Int) : List Int := sol.map (numVal · d)

theorem wantC_eq_want (sol : List (Option Nat)) (d : Int) (h : ∀ o ∈ sol, ∀ v, o = some v → v < 2^31) :
    wantC sol d = want sol d :=
  List.map_congr_left fun o ho => by
    cases o with
    | none => rfl
    | some v => exact toInt32_small v (h _ ho v rfl)

def fillIf (hn : Bool) (nums : List Int) (idx : Nat) (ws : List Int) : List Int :=
  if hn then fill nums idx ws else nums

/-- the state after the bookkeeping for keyword `k`, read with suffix `n` (`none` also when skipped) -/
def afterNum (hn : Bool) (d : Int) (num : Bool) (n : Option Nat) (st : MState) : MState :=
  { st with numbers := if num ∧ hn then st.numbers.set st.idx (numVal n d) else st.numbers,
            idx := if num then st.idx + 1 else st.idx }

theorem fillIf_afterNum (hn : Bool) (d : Int) (k : Kw) (n : Option Nat) (st : MState)
    (sol : List (Option Nat)) :
    fillIf hn (afterNum hn d k.numeric n st).numbers (afterNum hn d k.numeric n st).idx (wantC sol d) =
      fillIf hn st.numbers st.idx (wantC (consNum k n sol) d) := by
  cases hn <;> cases hk : k.numeric <;> simp [fillIf, afterNum, wantC, consNum, hk, fill]

theorem numStep_eq (hn : Bool) (d : Int) (isNum : Prop) [Decidable isNum] (num : Bool)
    (hnum : isNum ↔ num = true) (st : MState) :
    numStep hn d isNum st =
      (afterNum hn d num none st, if num = true ∧ hn = true ∧ st.idx < st.numbers.length then some st.idx else none) := by
  unfold numStep afterNum
  cases num with
  | false => simp [hnum]
  | true =>
    simp only [hnum, if_true, setNum_eq, numVal, true_and]
    by_cases h : hn = true ∧ st.idx < st.numbers.length
    · simp [h]
    · cases hn with
      | false => simp
      | true =>
        have h : ¬ st.idx < st.numbers.length := by simpa using h
        simp [List.set_eq_of_length_le (Nat.le_of_not_lt h), h]

theorem applyNum_eq (hn : Bool) (d : Int) (num : Bool) (n : Option Nat) (st : MState) (flag : Prop)
    [Decidable flag] (hflag : flag ↔ num = true ∧ hn = true ∧ st.idx < st.numbers.length) :
    applyNum hn (afterNum hn d num none st) (if flag then some st.idx else none)
      (mpRes (some n) (if flag then some st.idx else none : Option Nat).isSome).2 = afterNum hn d num n st := by
  by_cases hf : flag
  · obtain ⟨h1, h2, h3⟩ := hflag.1 hf
    cases n <;> simp [hf, applyNum, mpRes, afterNum, numVal, setNum_eq, h1, h2]
  · have : afterNum hn d num n st = afterNum hn d num none st := by
      simp only [afterNum, MState.mk.injEq, true_and, and_true]
      cases num <;> cases hn <;> simp
      have := Nat.le_of_not_lt (show ¬ st.idx < st.numbers.length from fun h => hf (hflag.2 ⟨rfl, rfl, h⟩))
      simp [List.set_eq_of_length_le this]
    cases n <;> simp [hf, applyNum, mpRes, this]

/-- what a loop is expected to return when started in state `st` on the keywords `kws` and the
mnemonics `ms` -/
def Good (hn : Bool) (d : Int) (r : Bool × MState) (kws : List Kw) (ms : List Bytes) (st : MState) : Prop :=
  r.1 = (greedy kws ms).isSome ∧ r.2.oob = st.oob ∧
  ∀ sol, greedy kws ms = some sol → r.2.numbers = fillIf hn st.numbers st.idx (wantC sol d)

theorem Good.cons {r : Bool × MState} {kws' kws : List Kw} {ms' ms : List Bytes} {st' st : MState} {k : Kw}
    {n : Option Nat} (h : Good hn d r kws' ms' st')
    (hg : greedy kws ms = (greedy kws' ms').map (consNum k n)) (ho : st'.oob = st.oob)
    (hnums : st'.numbers = (afterNum hn d k.numeric n st).numbers)
    (hidx : st'.idx = (afterNum hn d k.numeric n st).idx) : Good hn d r kws ms st := by
  obtain ⟨g1, g2, g3⟩ := h
  refine ⟨by rw [g1, hg]; simp, g2.trans ho, ?_⟩
  intro sol hsol
  rw [hg] at hsol
  obtain ⟨sol', hs', rfl⟩ := Option.map_eq_some_iff.1 hsol
  rw [g3 sol' hs', hnums, hidx, fillIf_afterNum]

theorem Good.none {r : Bool × MState} {kws : List Kw} {ms : List Bytes} {st : MState}
    (hg : greedy kws ms = none) (h1 : r.1 = false) (h2 : r.2.oob = st.oob) : Good hn d r kws ms st :=
  ⟨by rw [h1, hg]; rfl, h2, fun sol hs => by rw [hg] at hs; cases hs⟩

/-- bytes written after keyword `k` before the next item -/
def closeB (k : Kw) : Bytes := if k.optional then [93] else []
/-- value of `brackets` while inside the item of keyword `k` -/
def brOf (k : Kw) : Int := if k.optional then 1 else 0

/-- the pattern pointer stands before `T`, all that is left of the pattern but its '?' -/
def PatAt (p : Bytes) (q : Bool) (T : Bytes) (pp : Nat) (pl : Int) : Prop :=
  p.drop pp = T ++ qtail q ∧ pl = T.length

theorem PatAt.adv {x T : Bytes} {pp : Nat} {pl : Int} (h : PatAt p q (x ++ T) pp pl) :
    PatAt p q T (pp + x.length) (pl - x.length) :=
  ⟨ByteList.drop_add_of_drop p pp x _ (by rw [h.1, List.append_assoc]), by rw [h.2]; simp; omega⟩

theorem PatAt.read {T : Bytes} {pp : Nat} {pl : Int} (h : PatAt p q T pp pl) (i : Nat) :
    rd p (pp + i) = rd (T ++ qtail q) i := rd_off p pp _ h.1 i

theorem PatAt.isNum {k : Kw} {R : Bytes} {pp : Nat} {pl : Int} (hk : KwW k)
    (h : PatAt p q (keyText k ++ R) pp pl) :
    ((keyText k).length > 0 ∧ rd p (pp + (keyText k).length - 1) == 35) ↔ k.numeric = true := by
  rw [keyText_isNum hk p pp _ (by rw [h.1, List.append_assoc])]
  simp [keyText_pos hk]

theorem after_head (k : Kw) (ks : List Kw) :
    closeB k ++ renderRest ks = [] ∨
    (closeB k ++ renderRest ks).headD 0 = 58 ∨ (closeB k ++ renderRest ks).headD 0 = 91 ∨
      (closeB k ++ renderRest ks).headD 0 = 93 := by
  cases hopt : k.optional with
  | true => simp [closeB, hopt]
  | false =>
    cases ks with
    | nil => simp [closeB, hopt, renderRest]
    | cons k' ks' => cases hopt' : k'.optional <;> simp [closeB, hopt, renderRest, item, hopt']

theorem psp_clean {x R : Bytes} {pp : Nat} {pl : Int} (h : PatAt p q (x ++ R) pp pl)
    (hx : ∀ b ∈ x, b ≠ 0 ∧ [63, 58, 91, 93].contains b = false)
    (hR : R = [] ∨ R.headD 0 = 58 ∨ R.headD 0 = 91 ∨ R.headD 0 = 93) :
    patternSeparatorPos p pp pl.toNat = x.length := by
  refine sepPos_drop p pp _ _ x (R ++ qtail q) (by rw [h.1, List.append_assoc]) hx ?_
  rw [h.2]
  cases R with
  | nil => exact Or.inl (by simp)
  | cons b R =>
    refine Or.inr ⟨by simp; omega, ?_⟩
    rcases hR.resolve_left (by simp) with e | e | e <;> simp at e <;> simp [e]

/-- the check after an iteration that ended with `brackets == 0` -/
def tlX (p : Bytes) (hn : Bool) (d : Int) (fuel : Nat) (st : MState) : MState :=
  if st.pl > 0 ∧ rd p st.pp == 91 then trailingLoop p hn d fuel st else st

theorem trailingLoop_zero_pl {fuel : Nat} {st : MState} (hpl : st.pl = 0) :
    trailingLoop p hn d fuel st = st := by
  cases fuel <;> simp [trailingLoop, hpl]

/-- one iteration: over a separator-free text `x` (empty, or a keyword's) and the separator `ch` -/
theorem trailingLoop_step (x : Bytes) (ch : UInt8) (R : Bytes) (num : Bool)
    (fuel : Nat) (st : MState) (hp : PatAt p q (x ++ ch :: R) st.pp st.pl)
    (hx : ∀ b ∈ x, b ≠ 0 ∧ [63, 58, 91, 93].contains b = false) (hch : ch = 58 ∨ ch = 91 ∨ ch = 93)
    (hnum : (x.length > 0 ∧ rd p (st.pp + x.length - 1) == 35) ↔ num = true) :
    trailingLoop p hn d (fuel + 1) st =
      let st' : MState := { afterNum hn d num none st with
        brackets := if ch = 91 then st.brackets + 1 else if ch = 93 then st.brackets - 1 else st.brackets,
        pp := st.pp + x.length + 1, pl := st.pl - (x.length + 1 : Nat) }
      if st'.brackets == 0 then tlX p hn d fuel st' else trailingLoop p hn d fuel st' := by
  have hpl : 0 < st.pl := by rw [hp.2]; simp; omega
  have h : trailingLoop p hn d (fuel + 1) st =
      if st.pl == 0 then st else if st.pl < 0 then { st with oob := true } else _ := rfl
  rw [h, if_neg (by simp; omega), if_neg (by omega),
    psp_clean hp hx (Or.inr (by simpa using hch))]
  have hr : rd p (st.pp + x.length) = ch := by
    have := hp.read x.length
    rw [List.append_assoc] at this
    exact this.trans (rd_app_right x _ 0)
  have hst : (if x.length > 0 ∧ rd p (st.pp + x.length - 1) == 35 then
      { (setNum st hn st.idx d) with idx := st.idx + 1 } else st) = afterNum hn d num none st := by
    cases num with
    | true => rw [if_pos (hnum.2 rfl)]; simp [afterNum, setNum_eq, numVal]
    | false => rw [if_neg (fun h => by cases hnum.1 h)]; simp [afterNum]
  simp only [hst, afterNum, hr, tlX]
  rcases hch with rfl | rfl | rfl <;> simp

theorem trailingLoop_sep (ch : UInt8) (R : Bytes) (fuel : Nat) (st : MState)
    (hp : PatAt p q (ch :: R) st.pp st.pl) (hch : ch = 58 ∨ ch = 91 ∨ ch = 93) :
    trailingLoop p hn d (fuel + 1) st =
      let st' : MState := { st with
        brackets := if ch = 91 then st.brackets + 1 else if ch = 93 then st.brackets - 1 else st.brackets,
        pp := st.pp + 1, pl := st.pl - 1 }
      if st'.brackets == 0 then tlX p hn d fuel st' else trailingLoop p hn d fuel st' := by
  rw [trailingLoop_step [] ch R false fuel st hp (by simp) hch (by simp)]
  simp [afterNum]

/-- the result `afterMatch` makes of the trailing loop's state -/
def tlRes (st : MState) : Bool × MState := (st.pl == 0, st)

theorem PatAt.cons {ch : UInt8} {T : Bytes} {pp : Nat} {pl : Int}
    (h : PatAt p q (ch :: T) pp pl) : PatAt p q T (pp + 1) (pl - 1) :=
  PatAt.adv (x := [ch]) h

theorem PatAt.head {T : Bytes} {pp : Nat} {pl : Int} (h : PatAt p q T pp pl) :
    rd p pp = (T ++ qtail q).headD 0 := rd_head p pp _ h.1

/-- from the start of the rendering of `ks`, outside brackets, after the `brackets == 0` check -/
theorem tl_rest :
    ∀ (ks : List Kw), (∀ k ∈ ks, KwW k) → ∀ (fuel : Nat) (st : MState),
      PatAt p q (renderRest ks) st.pp st.pl → st.brackets = 0 → (renderRest ks).length ≤ fuel →
      Good hn d (tlRes (tlX p hn d fuel st)) ks [] st := by
  intro ks
  induction ks with
  | nil =>
    intro _ fuel st hp _ _
    have hpl : st.pl = 0 := hp.2
    simp [tlX, tlRes, hpl, Good, greedy, wantC, fillIf, fill]
  | cons k ks ih =>
    intro hks fuel st hp hbr hfuel
    have hk : KwW k := hks k (by simp)
    have hr := hp.head
    cases hopt : k.optional with
    | false =>
      simp only [renderRest, item, hopt, Bool.false_eq_true, if_false, List.cons_append] at hp hr
      have hpl : ¬ st.pl = 0 := by rw [hp.2]; simp; omega
      refine Good.none (by simp [greedy, hopt]) ?_ ?_ <;> simp [tlX, tlRes, hr, hpl]
    | true =>
      simp only [renderRest, item, hopt, if_true, List.append_assoc, List.cons_append, List.nil_append] at hp hr hfuel
      obtain ⟨f, rfl⟩ : ∃ f, fuel = f + 3 := ⟨fuel - 3, by simp at hfuel; omega⟩
      have hpl : 0 < st.pl := by rw [hp.2]; simp; omega
      -- '[' , ':' , `KEY]`
      have e : tlX p hn d (f + 3) st = tlX p hn d f { afterNum hn d k.numeric none st with
          pp := st.pp + 1 + 1 + (keyText k).length + 1,
          pl := st.pl - 1 - 1 - ((keyText k).length + 1 : Nat) } := by
        rw [tlX, if_pos ⟨hpl, by simp [hr]⟩, trailingLoop_sep 91 _ (f + 2) st hp (by simp)]
        simp only [hbr]
        rw [if_neg (by decide), trailingLoop_sep 58 _ (f + 1) _ hp.cons (by simp)]
        simp only []
        rw [if_neg (by decide), trailingLoop_step (keyText k) 93 _ k.numeric f _ hp.cons.cons
          (keyText_clean hk) (by simp) (PatAt.isNum hk hp.cons.cons)]
        simp [afterNum, hbr]
      rw [e]
      refine Good.cons (ih (fun k' hk' => hks k' (by simp [hk'])) f _ ?_ ?_ (by simp at hfuel; omega))
        (by simp [greedy, hopt]) rfl rfl rfl
      · have := PatAt.adv (x := keyText k ++ [93]) (by rw [List.append_assoc]; exact hp.cons.cons)
        simpa [Nat.add_assoc] using this
      · exact hbr

theorem keyText_head {k : Kw} (hk : KwW k) (rest : Bytes) :
    (keyText k ++ rest).headD 0 ≠ 0 ∧ [63, 58, 91, 93].contains ((keyText k ++ rest).headD 0) = false := by
  cases hkt : keyText k with
  | nil => exact absurd (keyText_pos hk) (by simp [hkt])
  | cons c t => exact keyText_clean hk c (by simp [hkt])

theorem tl_after (k : Kw) (ks : List Kw) (hks : ∀ k ∈ ks, KwW k)
    (fuel : Nat) (st : MState) (hp : PatAt p q (closeB k ++ renderRest ks) st.pp st.pl)
    (hbr : st.brackets = brOf k) (hfuel : (closeB k ++ renderRest ks).length ≤ fuel) :
    Good hn d (tlRes (trailingLoop p hn d fuel st)) ks [] st := by
  cases hopt : k.optional with
  | true =>
    simp only [closeB, brOf, hopt, if_true, List.cons_append, List.nil_append] at hp hbr hfuel
    obtain ⟨f, rfl⟩ : ∃ f, fuel = f + 1 := ⟨fuel - 1, by simp at hfuel; omega⟩
    rw [trailingLoop_sep 93 _ f st hp (by simp)]
    simp only [hbr]
    rw [if_pos (by decide)]
    exact tl_rest ks hks f _ hp.cons rfl (by simpa using hfuel)
  | false =>
    simp only [closeB, brOf, hopt, Bool.false_eq_true, if_false, List.nil_append] at hp hbr hfuel
    match ks, hks with
    | [], _ =>
      rw [trailingLoop_zero_pl hp.2]
      simp [tlRes, show st.pl = 0 from hp.2, Good, greedy, wantC, fillIf, fill]
    | k' :: ks', hks =>
      have hr := hp.head
      have hpl : 0 < st.pl := by
        rw [hp.2]; cases hopt' : k'.optional <;> simp [renderRest, item, hopt'] <;> omega
      cases hopt' : k'.optional with
      | true =>
        have e : trailingLoop p hn d fuel st = tlX p hn d fuel st := by
          rw [tlX, if_pos ⟨hpl, by simp [hr, renderRest, item, hopt']⟩]
        rw [e]
        exact tl_rest (k' :: ks') hks fuel st hp hbr hfuel
      | false =>
        simp only [renderRest, item, hopt', Bool.false_eq_true, if_false, List.cons_append] at hp hfuel
        obtain ⟨f, rfl⟩ : ∃ f, fuel = f + 1 := ⟨fuel - 1, by simp at hfuel; omega⟩
        have hh := keyText_head (hks k' (by simp)) (renderRest ks' ++ qtail q)
        have hpl' : ¬ st.pl - 1 = 0 := by
          have := keyText_pos (hks k' (by simp)); rw [hp.2]; simp; omega
        have h91 : ¬ rd p (st.pp + 1) = 91 := by
          rw [hp.cons.head, List.append_assoc]; intro h; rw [h] at hh; exact absurd hh.2 (by decide)
        rw [trailingLoop_sep 58 _ f st hp (by simp)]
        simp only [hbr]
        rw [if_pos (by decide), tlX, if_neg (by simp [h91])]
        exact Good.none (by simp [greedy, hopt']) (by simp [tlRes, hpl']) rfl

/-- bytes written before keyword `k'` -/
def openB (k' : Kw) : Bytes := if k'.optional then [91, 58] else [58]

/-- the window of the pattern at the start of keyword `k` -/
def kwText (k : Kw) (ks : List Kw) : Bytes := keyText k ++ (closeB k ++ renderRest ks)

theorem renderRest_cons (k : Kw) (ks : List Kw) : renderRest (k :: ks) = openB k ++ kwText k ks := by
  cases h : k.optional <;> simp [renderRest, item, openB, kwText, closeB, h]

theorem PatAt.read3 {T : Bytes} {pp : Nat} {pl : Int} (h : PatAt p q T pp pl) :
    rd p pp = rd (T ++ qtail q) 0 ∧ rd p (pp + 1) = rd (T ++ qtail q) 1 ∧
      rd p (pp + 2) = rd (T ++ qtail q) 2 := ⟨h.read 0, h.read 1, h.read 2⟩

theorem afterMatch_next (k k' : Kw)
    (T : Bytes) (st : MState) (hp : PatAt p q (closeB k ++ (openB k' ++ T)) st.pp st.pl)
    (hbr : st.brackets = brOf k) (hc0 : rd c st.cp = 58) (hcl : 0 < st.cl) :
    afterMatch p c hn d rec st =
      rec { st with pp := st.pp + ((closeB k).length + (openB k').length),
                    pl := st.pl - ((closeB k).length + (openB k').length : Nat),
                    cp := st.cp + 1, cl := st.cl - 1, brackets := brOf k' } := by
  obtain ⟨r0, r1, r2⟩ := hp.read3
  have hpl := hp.2
  have hcl' : ¬ st.cl = 0 := by omega
  unfold afterMatch
  simp only [r0, r1, r2, hc0]
  cases hopt : k.optional <;> cases hopt' : k'.optional <;>
    simp [closeB, openB, brOf, hopt, hopt', rd_cons_zero, rd_cons_succ, hbr, hcl'] at hpl ⊢ <;> rw [hpl]
  all_goals rw [if_neg (by omega), if_pos (by omega)]

theorem afterNoMatch_next (k' : Kw)
    (T : Bytes) (st : MState) (hp : PatAt p q (93 :: (openB k' ++ T)) st.pp st.pl) (hbr : st.brackets = 1) :
    afterNoMatch p rec st =
      rec { st with pp := st.pp + ((openB k').length + 1), pl := st.pl - ((openB k').length + 1 : Nat),
                    brackets := brOf k' } := by
  obtain ⟨r0, r1, r2⟩ := hp.read3
  have hpl := hp.2
  unfold afterNoMatch
  simp only [r0, r1, r2]
  cases hopt' : k'.optional <;> simp [openB, brOf, hopt', rd_cons_zero, rd_cons_succ, hbr] at hpl ⊢
  intro h; omega

/-- bytes of a mnemonic: no NUL, no ':', nothing `strtol` would skip or take as a sign -/
def MnOK (m : Bytes) : Prop := ∀ b ∈ m, b ≠ 0 ∧ b ≠ 58 ∧ (isDigit b = false → nonNumStart b = true)

/-- the header pointer stands before `H`, all that is left of the header but its '?' -/
def HdrAt (c : Bytes) (cq : Bool) (H : Bytes) (cp cl : Nat) : Prop :=
  c.drop cp = H ++ qtail cq ∧ cl = H.length

theorem HdrAt.adv {x H : Bytes} {cp cl : Nat} (h : HdrAt c cq (x ++ H) cp cl) :
    HdrAt c cq H (cp + x.length) (cl - x.length) :=
  ⟨ByteList.drop_add_of_drop c cp x _ (by rw [h.1, List.append_assoc]), by rw [h.2]; simp⟩

theorem HdrAt.head {H : Bytes} {cp cl : Nat} (h : HdrAt c cq H cp cl) : rd c cp = (H ++ qtail cq).headD 0 :=
  rd_head c cp _ h.1

/-- what `cmdSeparatorPos` cuts off the header: the mnemonic `m`, or its part before a '?' -/
theorem hdr_split {m : Bytes} {ms : List Bytes} {cp cl : Nat} (hm : MnOK m)
    (h : HdrAt c cq (m ++ hdrRest ms) cp cl) :
    ∃ m1 crest, c.drop cp = m1 ++ crest ∧ cmdSeparatorPos c cp cl = m1.length ∧
      (∀ b ∈ m1, isDigit b = false → nonNumStart b = true) ∧ nonNumStart (crest.headD 0) = true ∧
      ((m1 = m ∧ crest = hdrRest ms ++ qtail cq) ∨ (63 ∈ m ∧ rd c (cp + m1.length) = 63 ∧ m1.length < cl)) := by
  obtain ⟨hc, hcl⟩ := h
  have hclean : ∀ b ∈ m, (b != 63) = true → b ≠ 0 ∧ [58, 63].contains b = false := fun b hb h63 => by
    simp [(hm b hb).1, (hm b hb).2.1] at h63 ⊢; exact h63
  rcases ByteList.all_or_split (fun b => b != 63) m with hall | ⟨m1, b, t, rfl, hall, hb⟩
  · rw [List.append_assoc] at hc
    refine ⟨m, _, hc, ?_, fun b hb => (hm b hb).2.2, ?_, Or.inl ⟨rfl, rfl⟩⟩
    · refine sepPos_drop c cp cl _ m _ hc (fun b hb => hclean b hb (List.all_eq_true.1 hall b hb)) ?_
      cases ms with
      | nil => exact Or.inl (by simp [hcl, hdrRest])
      | cons m' ms' => exact Or.inr ⟨by simp [hcl, hdrRest], by simp [hdrRest], by simp [hdrRest]⟩
    · cases ms with
      | nil => cases cq <;> simp [hdrRest, qtail] <;> decide
      | cons m' ms' => simp [hdrRest]; decide
  · have hb : b = 63 := by simpa using hb
    subst hb
    have hc1 : c.drop cp = m1 ++ (63 :: t ++ hdrRest ms ++ qtail cq) := by simpa using hc
    have hlt : m1.length < cl := by simp [hcl]
    refine ⟨m1, _, hc1, sepPos_drop c cp cl _ m1 _ hc1
        (fun b hb => hclean b (by simp [hb]) (List.all_eq_true.1 hall b hb)) (Or.inr ⟨hlt, by simp, by simp⟩),
      fun b hb => (hm b (by simp [hb])).2.2, by simp; decide, Or.inr ⟨by simp, ?_, hlt⟩⟩
    simpa [rd] using rd_after c cp m1 _ hc1 0

/-- the walker stands at the start of keyword `k`, with `ks` to follow, and at the start of mnemonic
`m`, with `ms` to follow -/
structure AtKw (p c : Bytes) (q cq : Bool) (k : Kw) (ks : List Kw) (m : Bytes) (ms : List Bytes)
    (st : MState) : Prop where
  kws : ∀ k' ∈ k :: ks, KwW k'
  mns : ∀ x ∈ m :: ms, MnOK x
  pat : PatAt p q (kwText k ks) st.pp st.pl
  hdr : HdrAt c cq (m ++ hdrRest ms) st.cp st.cl
  br : st.brackets = brOf k

/-- the recursive call is right at every keyword start with fewer than `n` keywords to follow -/
def RecOK (p c : Bytes) (q cq hn : Bool) (d : Int) (rec : MState → Bool × MState) (n : Nat) : Prop :=
  ∀ k ks m ms st, ks.length < n → AtKw p c q cq k ks m ms st → Good hn d (rec st) (k :: ks) (m :: ms) st

theorem afterMatch_q (st : MState) (hc0 : rd c st.cp = 63) (hcl : 0 < st.cl) :
    afterMatch p c hn d rec st = (false, st) := by
  have hcl' : ¬ st.cl = 0 := by omega
  have e : ∀ x : UInt8, ¬ (x = 63 ∧ x = 58) := by rintro x ⟨rfl, h⟩; cases h
  unfold afterMatch
  simp only [hc0, beq_iff_eq]
  by_cases h0 : st.pl = 0
  · simp [h0, hcl, hcl']
  · rw [if_neg (by simp [h0]), if_neg (by simp [h0]), if_neg (by simpa using hcl'),
      if_neg (fun hh => e _ ⟨hh.2.1, hh.2.2⟩), if_neg (fun hh => e _ ⟨hh.2.1, hh.2.2.2⟩),
      if_neg (fun hh => e _ ⟨hh.2.1, hh.2.2.2⟩), if_neg (fun hh => e _ ⟨hh.2.1, hh.2.2.2.2⟩)]

/-- no look-ahead applies after a match when the pattern has ended or goes on with a lone ']' -/
theorem afterMatch_none {T : Bytes} (st : MState) (hp : PatAt p q T st.pp st.pl) (hcl : 0 < st.cl)
    (h : T = [] ∨ (rd (T ++ qtail q) 0 = 93 ∧ rd (T ++ qtail q) 1 ≠ 58 ∧ rd (T ++ qtail q) 1 ≠ 91)) :
    afterMatch p c hn d rec st = (false, st) := by
  have hcl' : ¬ st.cl = 0 := by omega
  rw [← hp.read 0, ← hp.read 1] at h
  unfold afterMatch
  rcases h with h | ⟨h0, h1, h2⟩
  · simp [show st.pl = 0 by rw [hp.2, h]; rfl, hcl, hcl']
  · simp [show rd p st.pp = 93 from h0, h1, h2, hcl']

/-- no look-ahead applies after a failed match: the pattern does not go on with "]:" or "][" -/
theorem afterNoMatch_none {T : Bytes} (st : MState) (hp : PatAt p q T st.pp st.pl)
    (h : rd (T ++ qtail q) 0 ≠ 93 ∨ (rd (T ++ qtail q) 1 ≠ 58 ∧ rd (T ++ qtail q) 1 ≠ 91)) :
    afterNoMatch p rec st = (false, st) := by
  rw [← hp.read 0, ← hp.read 1] at h
  unfold afterNoMatch
  rcases h with h | ⟨h1, h2⟩
  · simp [show rd p st.pp ≠ 93 from h]
  · simp [h1, h2]

theorem win_last (k : Kw) (q : Bool) :
    closeB k ++ renderRest [] = [] ∨ (rd (closeB k ++ renderRest [] ++ qtail q) 0 = 93 ∧
      rd (closeB k ++ renderRest [] ++ qtail q) 1 ≠ 58 ∧ rd (closeB k ++ renderRest [] ++ qtail q) 1 ≠ 91) := by
  cases hopt : k.optional <;> cases q <;> simp only [closeB, hopt] <;> decide

theorem win_stop (k : Kw) (ks : List Kw) (q : Bool) (h : k.optional = false ∨ ks = []) :
    rd (closeB k ++ renderRest ks ++ qtail q) 0 ≠ 93 ∨
      (rd (closeB k ++ renderRest ks ++ qtail q) 1 ≠ 58 ∧ rd (closeB k ++ renderRest ks ++ qtail q) 1 ≠ 91) := by
  rcases h with h | rfl
  · cases ks with
    | nil => cases q <;> simp only [closeB, h] <;> decide
    | cons k' ks' => cases hopt' : k'.optional <;> simp [closeB, h, renderRest_cons, openB, hopt', rd_cons_zero]
  · exact (win_last k q).elim (fun h => by rw [h]; cases q <;> decide) (fun h => Or.inr h.2)

theorem afterMatch_end (st : MState)
    (hcl : st.cl = 0) : afterMatch p c hn d rec st = tlRes (trailingLoop p hn d (p.length + 2) st) := by
  unfold afterMatch tlRes
  by_cases h0 : st.pl = 0
  · simp [h0, hcl, trailingLoop_zero_pl h0]
  · simp [h0, hcl]

variable {n : Nat} {k : Kw} {ks : List Kw} {m : Bytes} {ms : List Bytes} {st : MState}

theorem step_nomatch (hrec : RecOK p c q cq hn d rec n) (hks : ks.length ≤ n)
    (h : AtKw p c q cq k ks m ms st) (hkm : kwMatch k m = none) :
    Good hn d (afterNoMatch p rec { afterNum hn d k.numeric none st with
      pp := st.pp + (keyText k).length, pl := st.pl - (keyText k).length }) (k :: ks) (m :: ms) st := by
  have hp : PatAt p q (closeB k ++ renderRest ks) _ _ := h.pat.adv
  by_cases hgo : k.optional = false ∨ ks = []
  · rw [afterNoMatch_none _ hp (win_stop k ks q hgo)]
    refine Good.none ?_ rfl rfl
    rcases hgo with hopt | rfl
    · simp [greedy, hkm, hopt]
    · cases k.optional <;> simp [greedy, hkm]
  · obtain ⟨hopt, hne⟩ : k.optional = true ∧ ks ≠ [] := by simpa using hgo
    obtain ⟨k', ks', rfl⟩ := List.exists_cons_of_ne_nil hne
    simp only [closeB, hopt, if_true, renderRest_cons, List.cons_append, List.nil_append] at hp
    rw [afterNoMatch_next k' _ _ hp (by rw [← show brOf k = 1 by simp [brOf, hopt]]; exact h.br)]
    refine Good.cons (hrec k' ks' m ms _ (by simp at hks; omega)
      ⟨fun x hx => h.kws x (by simp [hx]), h.mns, ?_, by exact h.hdr, rfl⟩)
      (by simp [greedy, hkm, hopt]) rfl rfl rfl
    exact PatAt.adv (x := 93 :: openB k') hp

theorem step_match (hrec : RecOK p c q cq hn d rec n) (hks : ks.length ≤ n)
    (h : AtKw p c q cq k ks m ms st) (n' : Option Nat) (hkm : kwMatch k m = some n') :
    Good hn d (afterMatch p c hn d rec { afterNum hn d k.numeric n' st with
      pp := st.pp + (keyText k).length, pl := st.pl - (keyText k).length,
      cp := st.cp + m.length, cl := st.cl - m.length }) (k :: ks) (m :: ms) st := by
  have hp : PatAt p q (closeB k ++ renderRest ks) _ _ := h.pat.adv
  have hh : HdrAt c cq (hdrRest ms) _ _ := h.hdr.adv
  have hg : greedy (k :: ks) (m :: ms) = (greedy ks ms).map (consNum k n') := by simp [greedy, hkm]
  cases ms with
  | nil =>
    rw [afterMatch_end _ hh.2]
    refine Good.cons (tl_after k ks (fun x hx => h.kws x (by simp [hx])) _ _ hp (by exact h.br) ?_)
      hg rfl rfl rfl
    have := congrArg List.length hp.1
    simp at this ⊢; omega
  | cons m' ms' =>
    have hc0 : rd c (st.cp + m.length) = 58 := hh.head
    have hclpos : 0 < st.cl - m.length := by rw [hh.2]; simp [hdrRest]
    cases ks with
    | nil =>
      rw [afterMatch_none _ hp hclpos (win_last k q)]
      exact Good.none (by simp [greedy, hkm]) rfl rfl
    | cons k' ks' =>
      rw [renderRest_cons] at hp
      rw [afterMatch_next k k' _ _ hp (by exact h.br) hc0 hclpos]
      refine Good.cons (hrec k' ks' m' ms' _ (by simp at hks; omega)
        ⟨fun x hx => h.kws x (by simp [hx]), fun x hx => h.mns x (by simp [hx]), ?_,
          HdrAt.adv (x := [58]) hh, rfl⟩) hg rfl rfl rfl
      have := PatAt.adv (x := closeB k ++ openB k') (by rw [List.append_assoc]; exact hp)
      simpa using this

theorem main_step {fuel : Nat} (hrec : RecOK p c q cq hn d (mainLoop p c hn d fuel) n) :
    RecOK p c q cq hn d (mainLoop p c hn d (fuel + 1)) (n + 1) := by
  intro k ks m ms st hks h
  have hk := h.kws k (by simp)
  have hp : PatAt p q (keyText k ++ (closeB k ++ renderRest ks)) st.pp st.pl := h.pat
  obtain ⟨m1, crest, hc1, hcsp, hm1, hcr, hcase⟩ := hdr_split (h.mns m (by simp)) h.hdr
  have hmp := matchPattern_spec p st.pp k _ c st.cp m1 crest
    (if k.numeric = true ∧ hn = true ∧ st.idx < st.numbers.length then some st.idx else none : Option Nat).isSome
    hk (by rw [hp.1, List.append_assoc]) hc1 hm1 hcr
  rw [mainLoop_succ _ _ _ _ _ _ (by rw [hp.2]; omega)]
  simp only [mainIter, psp_clean hp (keyText_clean hk) (after_head k ks), hcsp,
    numStep_eq hn d _ k.numeric (PatAt.isNum hk hp), show (afterNum hn d k.numeric none st).pp = st.pp from rfl,
    show (afterNum hn d k.numeric none st).cp = st.cp from rfl, hmp, mpRes_fst]
  cases hR : kwMatch k m1 with
  | none =>
    have hkm : kwMatch k m = none := by
      rcases hcase with ⟨h1, _⟩ | ⟨h63, _, _⟩
      · rw [← h1]; exact hR
      · exact hk.no_byte m 63 h63 (by decide)
    exact step_nomatch hrec (by omega) h hkm
  | some n' =>
    rw [Option.isSome_some, if_pos rfl, applyNum_eq hn d k.numeric n' st _ Iff.rfl]
    rcases hcase with ⟨rfl, _⟩ | ⟨h63, hq63, hlt⟩
    · exact step_match hrec (by omega) h n' hR
    · -- a '?' inside the mnemonic: nothing can spell it
      rw [afterMatch_q _ hq63 (by show 0 < st.cl - m1.length; omega)]
      exact Good.none (greedy_none_of_unmatchable (k :: ks) (m :: ms) m (by simp)
        (fun k' hk' => (h.kws k' hk').no_byte m 63 h63 (by decide))) rfl rfl

/-- the main loop computes the list-level walker -/
theorem mainLoop_spec (p c : Bytes) (q cq hn : Bool) (d : Int) :
    ∀ fuel, RecOK p c q cq hn d (mainLoop p c hn d fuel) fuel
  | 0 => fun _ _ _ _ _ h => absurd h (Nat.not_lt_zero _)
  | fuel + 1 => main_step (mainLoop_spec p c q cq hn d fuel)

end


end ScpiVerif.Lemmas.Match
