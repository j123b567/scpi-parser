/-
Two byte buffers that agree up to and including an index `P` at which a byte of a class `S` stands: a NUL behind the
pending input (C09, `Isolation.Agree`) or the line terminator that ends a message (C08, `ParseLocalAux.AgreeL`).
The scans of `strtol`/`strtoul`/`strtod` (`Model/Prim.lean`) and of the pattern matcher (`Model/Match.lean`) step over
no NUL, LF or CR (`ctl`) once they have left the leading white space, so they stop at or before `P` and return the
same on both buffers.
-/
import ScpiVerif.Model.Ctx
import ScpiVerif.Lemmas.MatchLocal
import ScpiVerif.Lemmas.Strto


namespace ScpiVerif.Lemmas.UpTo
open ScpiVerif ScpiVerif.Lexer ScpiVerif.Lemmas.Lexer ScpiVerif.Lemmas.Strto

def ctl (b : UInt8) : Bool := b == 0 || b == 10 || b == 13

structure UpTo (S : UInt8 → Bool) (P : Nat) (b1 b2 : Bytes) : Prop where
  len : b1.length = b2.length
  eq : ∀ i, i ≤ P → b1.getD i 0 = b2.getD i 0
  stop : S (b1.getD P 0) = true

section
variable {S : UInt8 → Bool} {P : Nat} {b1 b2 : Bytes}

theorem UpTo.symm (h : UpTo S P b1 b2) : UpTo S P b2 b1 :=
  ⟨h.len.symm, fun i hi => (h.eq i hi).symm, by rw [← h.eq P (Nat.le_refl _)]; exact h.stop⟩

theorem UpTo.mono {S' : UInt8 → Bool} (h : UpTo S P b1 b2) (hS : ∀ b, S b = true → S' b = true) :
    UpTo S' P b1 b2 := ⟨h.len, h.eq, hS _ h.stop⟩

theorem UpTo.prd (h : UpTo S P b1 b2) {i : Nat} (hi : i ≤ P) : Prim.rd b1 i = Prim.rd b2 i := h.eq i hi

theorem UpTo.mrd (h : UpTo S P b1 b2) {i : Nat} (hi : i ≤ P) : Match.rd b1 i = Match.rd b2 i := h.eq i hi

theorem UpTo.lt_of_ne (h : UpTo S P b1 b2) {i : Nat} (hi : i ≤ P) (hne : S (b1.getD i 0) = false) : i < P := by
  rcases Nat.lt_or_ge i P with h1 | h1
  · exact h1
  · have : i = P := by omega
    subst this; rw [h.stop] at hne; cases hne

theorem UpTo.drop (h : UpTo S P b1 b2) (off : Nat) (ho : off ≤ P) : UpTo S (P - off) (b1.drop off) (b2.drop off) := by
  refine ⟨by simp [h.len], fun i hi => ?_, ?_⟩
  · rw [ByteList.getD_drop, ByteList.getD_drop]; exact h.eq _ (by omega)
  · rw [ByteList.getD_drop, show off + (P - off) = P by omega]; exact h.stop

theorem UpTo.window (h : UpTo S P b1 b2) (a n : Nat) (hb : n = 0 ∨ a + n ≤ P + 1) :
    (b1.drop a).take n = (b2.drop a).take n := by
  apply List.ext_getElem?
  intro i
  simp only [List.getElem?_take, List.getElem?_drop]
  split
  · have h1 := h.eq (a + i) (by omega)
    simp only [List.getD_eq_getElem?_getD] at h1
    have hl := h.len
    by_cases hlt : a + i < b1.length
    · have hlt2 : a + i < b2.length := by omega
      rw [List.getElem?_eq_getElem hlt, List.getElem?_eq_getElem hlt2] at h1 ⊢
      simpa using h1
    · rw [List.getElem?_eq_none (by omega), List.getElem?_eq_none (by omega)]
  · rfl

theorem UpTo.take (h : UpTo S P b1 b2) (n : Nat) (hn : n ≤ P + 1) : b1.take n = b2.take n := by
  simpa using h.window 0 n (by omega)

theorem UpTo.of_take (hl : b1.length = b2.length) (ht : b1.take P = b2.take P) (hP : b1.getD P 0 = b2.getD P 0)
    (hs : S (b1.getD P 0) = true) : UpTo S P b1 b2 := by
  refine ⟨hl, fun i hi => ?_, hs⟩
  rcases Nat.lt_or_eq_of_le hi with hlt | rfl
  · have := congrArg (fun l => l.getD i 0) ht
    simpa [List.getD_eq_getElem?_getD, List.getElem?_take, hlt] using this
  · exact hP

theorem UpTo.set (h : UpTo S P b1 b2) (i : Nat) (x : UInt8) (hi : i < P) : UpTo S P (b1.set i x) (b2.set i x) := by
  refine ⟨by simp [h.len], fun j hj => ?_, ?_⟩
  · rw [ByteList.getD_set', ByteList.getD_set', h.len, h.eq j hj]
  · rw [ByteList.getD_set', if_neg (by omega)]; exact h.stop

theorem UpTo.foldl_set {α : Type} (g : α → Nat) (v : α → UInt8) :
    ∀ (l : List α) (b1 b2 : Bytes), UpTo S P b1 b2 → (∀ a ∈ l, g a < P) →
      UpTo S P (l.foldl (fun b a => b.set (g a) (v a)) b1) (l.foldl (fun b a => b.set (g a) (v a)) b2) := by
  intro l
  induction l with
  | nil => intro b1 b2 h _; exact h
  | cons a l ih =>
    intro b1 b2 h hl
    rw [List.foldl_cons, List.foldl_cons]
    exact ih _ _ (h.set _ _ (hl a (List.mem_cons_self))) (fun a' h' => hl a' (List.mem_cons_of_mem _ h'))

/-- memmove / memcpy of the same bytes to `[start, start + src.length)` below `P` -/
theorem UpTo.store (h : UpTo S P b1 b2) (src : Bytes) (start : Nat) (hb : start + src.length ≤ P) :
    UpTo S P ((src.zipIdx).foldl (fun b (x, k) => b.set (start + k) x) b1)
             ((src.zipIdx).foldl (fun b (x, k) => b.set (start + k) x) b2) := by
  apply UpTo.foldl_set (fun (p : UInt8 × Nat) => start + p.2) (fun p => p.1) src.zipIdx b1 b2 h
  intro a ha
  have := List.snd_lt_of_mem_zipIdx ha
  show start + a.2 < P
  omega

end

/-! # strtol / strtoul / strtod

They read the memory only through `rd`.  White space apart, every byte a scan steps over belongs to a
class without NUL, LF and CR, so a scan that has passed the white space at an index `≤ P` stays `≤ P`.
The white-space skip itself would step over a line terminator: the lemmas are for readers started at a
byte that is not white space (as numeric tokens do, `Lemmas/ParseLocalLex.lean`). -/

section
variable {P : Nat} {b1 b2 : Bytes}

theorem not_ctl_of {p : UInt8 → Bool} (hp : p 0 = false ∧ p 10 = false ∧ p 13 = false) {b : UInt8}
    (hb : p b = true) : ctl b = false := by
  cases hs : ctl b with
  | false => rfl
  | true =>
    have : (b = 0 ∨ b = 10) ∨ b = 13 := by simpa [ctl] using hs
    rcases this with (rfl | rfl) | rfl
    · rw [hp.1] at hb; cases hb
    · rw [hp.2.1] at hb; cases hb
    · rw [hp.2.2] at hb; cases hb

theorem UpTo.rd_next_of_eq (h : UpTo ctl P b1 b2) {i : Nat} (hi : i ≤ P) {c : UInt8}
    (hc : Prim.rd b1 i = c) (hc0 : ctl c = false) : i + 1 ≤ P :=
  h.lt_of_ne hi (by rw [← hc] at hc0; exact hc0)

theorem run_agree (h : UpTo ctl P b1 b2) (p : UInt8 → Bool) (hp : p 0 = false ∧ p 10 = false ∧ p 13 = false) :
    ∀ (f i : Nat), i ≤ P →
    Prim.strtodLen.run b1 p f i = Prim.strtodLen.run b2 p f i ∧ Prim.strtodLen.run b1 p f i ≤ P := by
  intro f
  induction f with
  | zero => intro i hi; exact ⟨rfl, hi⟩
  | succ f ih =>
    intro i hi
    simp only [Prim.strtodLen.run]
    rw [← h.prd hi]
    by_cases hs : p (Prim.rd b1 i) = true
    · simp only [hs, if_true]
      exact ih (i + 1) (h.lt_of_ne hi (not_ctl_of hp hs))
    · simp only [hs]
      exact ⟨rfl, hi⟩

/-! The integer conversions through their closed form `Strto.syn` on the text: its scan, once behind the white space at or
before a control byte, stops at or before that byte (`synEnd_le`), and `syn` reads no further (`Strto.syn_take`). -/

theorem stop_hd {s : Bytes} {k : Nat} (hk : ctl (s.getD k 0) = true) {p : UInt8 → Bool}
    (hp : p 0 = false ∧ p 10 = false ∧ p 13 = false) : hd (s.drop k) p = false := by
  cases h : hd (s.drop k) p with
  | false => rfl
  | true =>
    obtain ⟨b, hb, hs⟩ := hd_cons_drop h
    have : s.getD k 0 = b := by rw [List.getD_eq_getElem?_getD, ← List.head?_drop, hs]; rfl
    rw [this, not_ctl_of hp hb] at hk; cases hk

theorem stop_tw {s : Bytes} {k : Nat} (hk : ctl (s.getD k 0) = true) {p : UInt8 → Bool}
    (hp : p 0 = false ∧ p 10 = false ∧ p 13 = false) {j : Nat} (hj : j ≤ k) : j + tw p (s.drop j) ≤ k := by
  refine Nat.le_of_not_lt fun hlt => ?_
  have := hd_drop_of_lt_tw (p := p) (s := s.drop j) (j := k - j) (by omega)
  rw [List.drop_drop, show j + (k - j) = k by omega, stop_hd hk hp] at this
  cases this

theorem stop_next {s : Bytes} {k : Nat} (hk : ctl (s.getD k 0) = true) {p : UInt8 → Bool}
    (hp : p 0 = false ∧ p 10 = false ∧ p 13 = false) {j : Nat} (hj : j ≤ k) (h : hd (s.drop j) p = true) : j + 1 ≤ k := by
  have := stop_tw hk hp hj
  have := tw_pos_iff.2 h
  omega

theorem synEnd_le {base : Nat} {s : Bytes} {k : Nat} (hk : ctl (s.getD k 0) = true) (hw : tw Prim.isSpace s ≤ k) :
    synEnd base s ≤ k := by
  unfold synEnd
  dsimp only
  generalize tw Prim.isSpace s = w at hw ⊢
  have hg : w + sgn (s.drop w) ≤ k := by
    unfold sgn; split
    · exact stop_next hk (p := isPlusMn) (by decide) hw ‹_›
    · exact hw
  have hx : w + sgn (s.drop w) + pfx base ((s.drop w).drop (sgn (s.drop w))) ≤ k := by
    unfold pfx; split
    · rename_i hc
      rw [List.drop_drop, List.drop_drop] at hc
      have h1 := stop_next hk (p := (· == 48)) (by decide) hg hc.2.1
      exact stop_next hk (p := fun b => b == 120 || b == 88) (by decide) h1 hc.2.2.1
    · exact hg
  have := stop_tw hk (p := digitOK base) ⟨rfl, rfl, rfl⟩ hx
  rw [← List.drop_drop, ← List.drop_drop] at this
  exact this

theorem syn_agree {k : Nat} {s1 s2 : Bytes} (h : UpTo ctl k s1 s2) (base : Nat) :
    syn base s1 = syn base s2 ∨ (k < tw Prim.isSpace s1 ∧ k < tw Prim.isSpace s2) := by
  have ht := h.take (k + 1) (Nat.le_refl _)
  have hw : min (tw Prim.isSpace s1) (k + 1) = min (tw Prim.isSpace s2) (k + 1) := by rw [← tw_take, ← tw_take, ht]
  by_cases h1 : tw Prim.isSpace s1 ≤ k
  · left
    rw [← syn_take base s1 (k + 1) (Nat.le_succ_of_le (synEnd_le h.stop h1)),
      ← syn_take base s2 (k + 1) (Nat.le_succ_of_le (synEnd_le h.symm.stop (by omega))), ht]
  · exact .inr ⟨by omega, by omega⟩

theorem strtoSyntax_agree (h : UpTo ctl P b1 b2) (off base : Nat) (ho : off ≤ P)
    (hns : Prim.isSpace (Prim.rd b1 off) = false) :
    Prim.strtoSyntax b1 off base = Prim.strtoSyntax b2 off base := by
  rw [strtoSyntax_list, strtoSyntax_list]
  refine (syn_agree (h.drop off ho) base).resolve_right fun hf => ?_
  have : tw Prim.isSpace (b1.drop off) = 0 :=
    tw_eq_zero_iff.2 (by rw [← rd_hd b1 off Prim.isSpace (by decide)]; exact hns)
  omega

theorem strtoulTo_agree (h : UpTo ctl P b1 b2) (w off base : Nat) (ho : off ≤ P)
    (hns : Prim.isSpace (Prim.rd b1 off) = false) :
    Prim.strtoulTo w b1 off base = Prim.strtoulTo w b2 off base := by
  unfold Prim.strtoulTo
  rw [strtoSyntax_agree h off base ho hns]

theorem strtolTo_agree (h : UpTo ctl P b1 b2) (w off base : Nat) (ho : off ≤ P)
    (hns : Prim.isSpace (Prim.rd b1 off) = false) :
    Prim.strtolTo w b1 off base = Prim.strtolTo w b2 off base := by
  unfold Prim.strtolTo
  rw [strtoSyntax_agree h off base ho hns]

theorem dLower_not_ctl {b c : UInt8} (hc : ctl c = false) (h : (dLower b == c) = true) : ctl b = false := by
  cases hs : ctl b with
  | false => rfl
  | true =>
    have h' : dLower b = c := by simpa using h
    have : (b = 0 ∨ b = 10) ∨ b = 13 := by simpa [ctl] using hs
    rcases this with (rfl | rfl) | rfl <;> (subst h'; exact absurd hc (by decide))

theorem wordAux_agree (h : UpTo ctl P b1 b2) (at_ : Nat) : ∀ (w : List UInt8) (k : Nat),
    (∀ c ∈ w, ctl c = false) → at_ + k ≤ P →
    ((w.zipIdx k).all (fun (c, j) => dLower (Prim.rd b1 (at_ + j)) == c) =
      (w.zipIdx k).all (fun (c, j) => dLower (Prim.rd b2 (at_ + j)) == c)) ∧
    ((w.zipIdx k).all (fun (c, j) => dLower (Prim.rd b1 (at_ + j)) == c) = true →
      at_ + k + w.length ≤ P) := by
  intro w
  induction w with
  | nil => intro k _ hk; simp [hk]
  | cons c t ih =>
    intro k hw hk
    simp only [List.zipIdx_cons, List.all_cons, List.length_cons]
    rw [← h.prd hk]
    by_cases hc : (dLower (Prim.rd b1 (at_ + k)) == c) = true
    · have hne := dLower_not_ctl (hw c (by simp)) hc
      have hk1 : at_ + (k + 1) ≤ P := h.lt_of_ne hk hne
      have := ih (k + 1) (fun c hc => hw c (by simp [hc])) hk1
      rw [hc]
      simp only [Bool.true_and]
      refine ⟨this.1, fun hh => ?_⟩
      have := this.2 hh
      omega
    · simp [hc]

theorem dWord_agree (h : UpTo ctl P b1 b2) (w : List UInt8) (hw : ∀ c ∈ w, ctl c = false) {i : Nat} (hi : i ≤ P) :
    dWord b1 w i = dWord b2 w i ∧ (dWord b1 w i = true → i + w.length ≤ P) :=
  wordAux_agree h i w 0 hw (by omega)

theorem dSign_agree (h : UpTo ctl P b1 b2) {i0 : Nat} (hi : i0 ≤ P) :
    dSign b1 i0 = dSign b2 i0 ∧ dSign b1 i0 ≤ P := by
  unfold dSign
  rw [← h.prd hi]
  by_cases h45 : Prim.rd b1 i0 = 45
  · have := h.rd_next_of_eq hi h45 (by decide)
    simp [h45, this]
  · by_cases h43 : Prim.rd b1 i0 = 43
    · have := h.rd_next_of_eq hi h43 (by decide)
      simp [h43, this]
    · simp [h45, h43, hi]

theorem dFrac_agree (h : UpTo ctl P b1 b2) (p : UInt8 → Bool) (hp : p 0 = false ∧ p 10 = false ∧ p 13 = false)
    (fuel : Nat) {a : Nat} (ha : a ≤ P) : dFrac b1 p fuel a = dFrac b2 p fuel a ∧ dFrac b1 p fuel a ≤ P := by
  unfold dFrac
  rw [← h.prd ha]
  by_cases h46 : Prim.rd b1 a = 46
  · have ha1 := h.rd_next_of_eq ha h46 (by decide)
    simp only [h46, beq_self_eq_true, if_true]
    exact run_agree h p hp fuel (a + 1) ha1
  · simp [h46, ha]

theorem dExp_agree (h : UpTo ctl P b1 b2) (c1 c2 : UInt8) (h1 : ctl c1 = false) (h2 : ctl c2 = false) (fuel : Nat)
    {b : Nat} (hb : b ≤ P) : dExp b1 c1 c2 fuel b = dExp b2 c1 c2 fuel b ∧ dExp b1 c1 c2 fuel b ≤ P := by
  unfold dExp
  rw [← h.prd hb]
  by_cases hc : Prim.rd b1 b = c1 ∨ Prim.rd b1 b = c2
  · have hb1 : b + 1 ≤ P := by
      rcases hc with hc | hc
      · exact h.rd_next_of_eq hb hc h1
      · exact h.rd_next_of_eq hb hc h2
    have hc' : (Prim.rd b1 b == c1) = true ∨ (Prim.rd b1 b == c2) = true := by simpa using hc
    simp only [hc', if_true]
    obtain ⟨hs1, hs⟩ := dSign_agree h hb1
    rw [← hs1]
    generalize dSign b1 (b + 1) = s at hs
    rw [← h.prd hs]
    by_cases hd : isDigit (Prim.rd b1 s) = true
    · simp only [hd, if_true]
      exact run_agree h isDigit (by decide) fuel s hs
    · simp [hd, hb]
  · have hc' : ¬ ((Prim.rd b1 b == c1) = true ∨ (Prim.rd b1 b == c2) = true) := by simpa using hc
    simp only [hc', if_false]
    exact ⟨trivial, hb⟩

theorem dHexCond_agree (h : UpTo ctl P b1 b2) {i1 : Nat} (hi : i1 ≤ P) :
    (dHexCond b1 i1 ↔ dHexCond b2 i1) ∧ (dHexCond b1 i1 → i1 + 2 ≤ P) := by
  unfold dHexCond
  rw [← h.prd hi]
  by_cases h48 : Prim.rd b1 i1 = 48
  · have hi1 := h.rd_next_of_eq hi h48 (by decide)
    rw [← h.prd hi1]
    by_cases hx : Prim.rd b1 (i1 + 1) = 120 ∨ Prim.rd b1 (i1 + 1) = 88
    · have hi2 : i1 + 2 ≤ P := by
        rcases hx with hx | hx
        · exact h.rd_next_of_eq hi1 hx (by decide)
        · exact h.rd_next_of_eq hi1 hx (by decide)
      rw [← h.prd hi2]
      by_cases h46 : Prim.rd b1 (i1 + 2) = 46
      · have hi3 : i1 + 3 ≤ P := h.rd_next_of_eq hi2 h46 (by decide)
        rw [← h.prd hi3]
        exact ⟨Iff.rfl, fun _ => hi2⟩
      · simp [h46, hi2]
    · simp [hx]
  · simp [h48]

theorem dHex_agree (h : UpTo ctl P b1 b2) (off : Nat) (ho : off ≤ P) (fuel : Nat) {i1 : Nat} (hi2 : i1 + 2 ≤ P) :
    dHex b1 off fuel i1 = dHex b2 off fuel i1 ∧ off + dHex b1 off fuel i1 ≤ P := by
  unfold dHex
  have ha := run_agree h Prim.isHexDigit (by decide) fuel (i1 + 2) hi2
  simp only
  rw [← ha.1]
  have hb := dFrac_agree h Prim.isHexDigit (by decide) fuel ha.2
  rw [← hb.1]
  have he := dExp_agree h 112 80 (by decide) (by decide) fuel hb.2
  rw [← he.1]
  exact ⟨rfl, by omega⟩

theorem dDec_agree (h : UpTo ctl P b1 b2) (off : Nat) (ho : off ≤ P) (fuel : Nat) {i1 : Nat} (hi : i1 ≤ P) :
    dDec b1 off fuel i1 = dDec b2 off fuel i1 ∧ off + dDec b1 off fuel i1 ≤ P := by
  unfold dDec
  have ha := run_agree h isDigit (by decide) fuel i1 hi
  simp only
  rw [← ha.1]
  have hb := dFrac_agree h isDigit (by decide) fuel ha.2
  rw [← hb.1, ← h.prd ha.2]
  have he := dExp_agree h 101 69 (by decide) (by decide) fuel hb.2
  rw [← he.1]
  refine ⟨rfl, ?_⟩
  have := he.2
  repeat' split
  all_goals omega

theorem dBody_agree (h : UpTo ctl P b1 b2) (off : Nat) (ho : off ≤ P) {i1 : Nat} (hi : i1 ≤ P) :
    dBody b1 off i1 = dBody b2 off i1 ∧ off + dBody b1 off i1 ≤ P := by
  unfold dBody
  have w3 := dWord_agree h [105, 110, 102] (by decide) hi
  have w8 := dWord_agree h [105, 110, 102, 105, 110, 105, 116, 121] (by decide) hi
  have wn := dWord_agree h [110, 97, 110] (by decide) hi
  have hx := dHexCond_agree h hi
  simp only [← w3.1, ← w8.1, ← wn.1, ← h.len, ← hx.1, List.length_cons, List.length_nil] at w3 w8 wn ⊢
  split
  · have := w3.2 ‹_›
    split
    · have := w8.2 ‹_›
      exact ⟨rfl, by omega⟩
    · exact ⟨rfl, by omega⟩
  · split
    · have := wn.2 ‹_›
      exact ⟨rfl, by omega⟩
    · split
      · exact dHex_agree h off ho _ (hx.2 ‹_›)
      · exact dDec_agree h off ho _ hi

theorem strtodLen_agree (h : UpTo ctl P b1 b2) (off : Nat) (ho : off ≤ P)
    (hns : Prim.isSpace (Prim.rd b1 off) = false) :
    Prim.strtodLen b1 off = Prim.strtodLen b2 off ∧ off + Prim.strtodLen b1 off ≤ P := by
  rw [strtodLen_eq, strtodLen_eq, skipSpaces_of_not_space b1 _ off hns,
    skipSpaces_of_not_space b2 _ off (h.prd ho ▸ hns)]
  have h1 := dSign_agree h ho
  rw [← h1.1]
  exact dBody_agree h off ho h1.2

end

/-! # matchCommand

`Match.matchCommand` on a header window `[0, len)` with `len ≤ Q + 1` of two command buffers that agree
up to `Q` (by `Lemmas.Match.matchCommand_congr`).  Without a numbers array the walk reads the window only.  With
one, `strtol10` reads on behind a keyword: its white-space skip may step over a line terminator, and then either it
stops inside the agreed part, or it leaves it in both buffers (`strtol10_agree`, which is `Lemmas.Match.NumAgree`). -/

section
open ScpiVerif.Match ScpiVerif.Lemmas.Match
variable {Q : Nat} {c1 c2 : Bytes}

theorem strtol10_agree (h : UpTo ctl Q c1 c2) (off : Nat) (ho : off ≤ Q) :
    Match.strtol10 c1 off = Match.strtol10 c2 off ∨
    (((Match.strtol10 c1 off).1 = 0 ∨ Q + 1 < off + (Match.strtol10 c1 off).1) ∧
     ((Match.strtol10 c2 off).1 = 0 ∨ Q + 1 < off + (Match.strtol10 c2 off).1)) := by
  rw [strtol10_eq_strtolTo, strtol10_eq_strtolTo]
  rcases syn_agree (h.drop off ho) 10 with he | ⟨f1, f2⟩
  · left
    unfold Prim.strtolTo
    rw [strtoSyntax_list, strtoSyntax_list, he]
  · right
    rw [strtolTo_fst, strtolTo_fst, strtoSyntax_list, strtoSyntax_list]
    exact ⟨(syn_far 10 (c1.drop off)).imp id (by omega), (syn_far 10 (c2.drop off)).imp id (by omega)⟩

theorem UpTo.reads {S : UInt8 → Bool} (h : UpTo S Q c1 c2) : Agree (Q + 1) c1 c2 := fun _ hi => h.mrd (by omega)

theorem matchCommand_agree (h : UpTo ctl Q c1 c2) (pattern : Bytes) (len : Nat)
    (numbers : Option (List Int)) (dflt : Int) (hlen : len ≤ Q + 1) :
    matchCommand pattern c1 len numbers dflt = matchCommand pattern c2 len numbers dflt :=
  matchCommand_congr pattern numbers dflt h.reads hlen (h.take len hlen).symm
    fun _ off ho => strtol10_agree h off (by omega)

end

end ScpiVerif.Lemmas.UpTo
