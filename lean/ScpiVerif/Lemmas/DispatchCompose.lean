/-
C02 on one message unit (namespace `Dispatch`).  What the dispatcher relies on about the header bytes of a detected unit:
they are of the header alphabet, and no NUL stands before the end of the header (`detect_header_bytes`).  The in-place
composition of compound headers computes the effective header of the statement (`Spec.Message.effective`) from the bytes
of the previous effective header and of the current header, and only overwrites bytes in front of the current header
(`compose_next`).
-/
import ScpiVerif.Lemmas.Bounds
import ScpiVerif.Lemmas.MatchList
import ScpiVerif.Spec.Message

namespace ScpiVerif.Lemmas.Dispatch
open ScpiVerif ScpiVerif.Lexer
open ScpiVerif.Lemmas.Match (hdrAlpha)

section Unit
open ScpiVerif.Parser ScpiVerif.Spec ScpiVerif.Lemmas.Lexer

theorem alpha_of_star (b : UInt8) (h : (b == 42) = true) : hdrAlpha b = true := by
  unfold hdrAlpha; rw [h, Bool.or_true]
theorem alpha_of_colon (b : UInt8) (h : (b == 58) = true) : hdrAlpha b = true := by
  unfold hdrAlpha; rw [h, Bool.or_true, Bool.true_or, Bool.true_or]
theorem alpha_of_q (b : UInt8) (h : (b == 63) = true) : hdrAlpha b = true := by
  unfold hdrAlpha; rw [h, Bool.or_true, Bool.true_or]
theorem alpha_of_alnum (b : UInt8) (h : (isAlnum b || b == 95) = true) : hdrAlpha b = true := by
  unfold hdrAlpha Spec.Pattern.isKwChar
  unfold isAlnum at h
  rw [h]; rfl
theorem alpha_of_alpha (b : UInt8) (h : isAlpha b = true) : hdrAlpha b = true :=
  alpha_of_alnum b (by unfold isAlnum; rw [h]; rfl)
theorem alpha_ne_zero (b : UInt8) (h : hdrAlpha b = true) : b ≠ 0 := by
  rintro rfl; exact absurd h (by decide)
theorem alpha_not_nl (b : UInt8) (h : hdrAlpha b = true) : (b == 13 || b == 10) = false := by
  cases hb : (b == 13 || b == 10)
  · rfl
  · rw [Bool.or_eq_true, beq_iff_eq, beq_iff_eq] at hb
    rcases hb with rfl | rfl <;> exact absurd h (by decide)
theorem mnemonic_alpha : Regex.reAll (fun b => hdrAlpha b = true) mnemonic :=
  ⟨alpha_of_alpha, alpha_of_alnum⟩

theorem headerComplete_alpha : Regex.reAll (fun b => hdrAlpha b = true) headerComplete := by
  simp only [headerComplete, Re.opt, Re.c, Regex.reAll]
  exact ⟨⟨alpha_of_star, mnemonic_alpha, trivial, alpha_of_q⟩,
    ⟨trivial, alpha_of_colon⟩, mnemonic_alpha, ⟨alpha_of_colon, mnemonic_alpha⟩, trivial, alpha_of_q⟩

theorem headerIncC_alpha : Regex.reAll (fun b => hdrAlpha b = true) headerIncompleteCommon := by
  simp only [headerIncompleteCommon, Re.c, Regex.reAll]
  exact alpha_of_star

theorem headerIncP_alpha : Regex.reAll (fun b => hdrAlpha b = true) headerIncompleteCompound := by
  simp only [headerIncompleteCompound, Re.opt, Re.c, Regex.reAll]
  exact ⟨alpha_of_colon, ⟨trivial, alpha_of_colon⟩, mnemonic_alpha, ⟨alpha_of_colon, mnemonic_alpha⟩, alpha_of_colon⟩

theorem header_token_alpha {t : Bytes} {ex : Expect} (h : specToken .header t = some ex) :
    ex.consumed ≤ t.length ∧ ∀ b ∈ t.take ex.consumed, hdrAlpha b = true := by
  rcases (header_sel_cases (header_spec_sel t ▸ h)).alt with hc | hc | hc
  · obtain ⟨⟨h1, h2⟩, -⟩ := longest_some_PM hc
    exact ⟨h1, Regex.matches_all h2 headerComplete_alpha⟩
  · obtain ⟨⟨h1, h2⟩, -⟩ := longest_some_PM hc
    exact ⟨h1, Regex.matches_all h2 headerIncC_alpha⟩
  · obtain ⟨⟨h1, h2⟩, -⟩ := longest_some_PM hc
    exact ⟨h1, Regex.matches_all h2 headerIncP_alpha⟩

theorem detect_header_bytes (s : Bytes) (hinv : (detectUnit s).header.type ≠ .invalid)
    (hpos : 0 < (detectUnit s).header.len) :
    (∀ b ∈ s.take (detectUnit s).header.ptr, b ≠ 0) ∧
    (∀ b ∈ (s.drop (detectUnit s).header.ptr).take (detectUnit s).header.len.toNat, hdrAlpha b = true) := by
  rw [detect_eq] at hinv hpos ⊢
  unfold unitOf mkUnit at *
  dsimp only at hinv hpos ⊢
  split at hinv
  · rw [if_pos ‹_›] at hpos ⊢
    dsimp only at hpos ⊢
    constructor
    · rw [pdata_wsLen_eq_tw]
      intro b hb
      unfold tw at hb
      rw [ByteList.take_length_of_prefix (List.takeWhile_prefix _)] at hb
      exact (ByteClass.ws_excl b (List.all_eq_true.1 List.all_takeWhile b hb)).nul
    · unfold uHdr at hpos ⊢
      cases he : specToken .header (s.drop (wsLen s)) with
      | none => rw [he] at hpos; exact absurd hpos (by decide)
      | some ex => simpa [unit_hdr] using (header_token_alpha he).2
  · exact absurd rfl hinv

end Unit

section Compose
open ScpiVerif.Match ScpiVerif.Spec.Message ScpiVerif.Lemmas.Bounds

theorem map_rd_range (buf : Bytes) (pp i : Nat) (h : pp + i ≤ buf.length) :
    (List.range i).map (fun k => rd buf (pp + k)) = (buf.drop pp).take i := by
  apply List.ext_getElem
  · simp; omega
  · intro n h1 h2
    simp only [List.length_map, List.length_range] at h1
    simp [rd, List.getD_eq_getElem?_getD, List.getElem?_eq_getElem (show pp + n < buf.length by omega)]

/-- length of the path of a header: position after its last ':' (0 if there is none) -/
def pathLen (e : Bytes) : Nat :=
  ((List.range e.length).reverse.find? (fun i => e.getD i 0 == 58)).map (· + 1) |>.getD 0

theorem pathOf_eq (e : Bytes) : pathOf e = e.take (pathLen e) := rfl

/-- the loop variable `prev` against the specification's previous effective header `pe` -/
def PrevOK (buf : Bytes) (B lim : Nat) : Option (Nat × Nat) → Option Bytes → Prop
  | none, none => True
  | some (pp, pl), some e =>
    B ≤ pp ∧ pp + pl ≤ lim ∧ (buf.drop pp).take pl = e ∧ 0 < pl ∧ ∀ b ∈ e, hdrAlpha b = true
  | _, _ => False

theorem head_take_drop (buf : Bytes) (o n : Nat) (hn : 0 < n) (ho : o < buf.length) :
    ((buf.drop o).take n).head? = some (rd buf o) := by
  rw [List.head?_take, if_neg (by omega), List.head?_drop]
  simp [rd, List.getD_eq_getElem?_getD, List.getElem?_eq_getElem ho]

theorem effective_some (e h : Bytes) : effective (some e) h =
    if (h.head? == some 58 ∨ h.head? == some 42) then h else if e.head? == some 42 then h else pathOf e ++ h := rfl

theorem PrevOK.bound {buf : Bytes} {B lim : Nat} {prev : Option (Nat × Nat)} {pe : Option Bytes}
    (h : PrevOK buf B lim prev pe) : ∀ pp pl, prev = some (pp, pl) → B ≤ pp ∧ pp + pl ≤ lim := by
  intro pp pl hp
  subst hp
  match pe, h with
  | some e, ⟨p1, p2, _, _, _⟩ => exact ⟨p1, p2⟩

/-- what composition moves in front of the header is what the statement's rule puts there -/
theorem path_effective (buf : Bytes) (prev : Option (Nat × Nat)) (pe : Option Bytes) (cur : Nat × Nat) (B : Nat)
    (hcur : 0 < cur.2) (hlen : cur.1 + cur.2 ≤ buf.length) (hprev : PrevOK buf B cur.1 prev pe) :
    (composePath buf prev (composeShift buf prev cur.1)).length = composeShift buf prev cur.1 ∧
    composeShift buf prev cur.1 ≤ cur.1 ∧
    effective pe ((buf.drop cur.1).take cur.2) =
      composePath buf prev (composeShift buf prev cur.1) ++ (buf.drop cur.1).take cur.2 ∧
    ∀ x ∈ composePath buf prev (composeShift buf prev cur.1), x ≠ 0 := by
  refine ⟨composePath_length buf prev cur.1, ?_⟩
  match prev, pe, hprev with
  | none, none, _ => exact ⟨Nat.zero_le _, rfl, fun x hx => by cases hx⟩
  | some (pp, pl), some e, ⟨p1, p2, p3, p4, p5⟩ =>
    have hel : e.length = pl := by rw [← p3, List.length_take, List.length_drop]; omega
    have hle := composeShift_le buf cur.1 (prev := some (pp, pl)) rfl
    have hP : composePath buf (some (pp, pl)) (composeShift buf (some (pp, pl)) cur.1) =
        e.take (composeShift buf (some (pp, pl)) cur.1) := by
      show (List.range _).map (fun k => rd buf (pp + k)) = _
      rw [map_rd_range buf pp _ (by omega), ← p3, List.take_take, Nat.min_eq_left hle]
    refine ⟨by omega, ?_, fun x hx => alpha_ne_zero x (p5 x (List.mem_of_mem_take (hP ▸ hx)))⟩
    rw [hP]
    -- the rule of the statement, on the bytes the code looks at
    have hfind : (((List.range pl).reverse.find? (fun k => rd buf (pp + k) == 58)).map (· + 1)).getD 0 = pathLen e := by
      unfold pathLen
      rw [hel]
      congr 2
      apply ByteList.find?_congr
      intro k hk
      rw [List.mem_reverse, List.mem_range] at hk
      rw [← p3]
      simp [rd, List.getD_eq_getElem?_getD, hk]
    have heff : effective (some e) ((buf.drop cur.1).take cur.2) =
        if rd buf cur.1 == 58 ∨ rd buf cur.1 == 42 then (buf.drop cur.1).take cur.2
        else if rd buf pp == 42 then (buf.drop cur.1).take cur.2
        else e.take (pathLen e) ++ (buf.drop cur.1).take cur.2 := by
      rw [effective_some, head_take_drop buf cur.1 cur.2 hcur (by omega), ← p3,
        head_take_drop buf pp pl p4 (by omega), p3]
      simp only [Option.some_beq_some, pathOf_eq]
      rfl
    rw [heff]
    unfold composeShift
    dsimp only
    rw [hfind]
    by_cases hA : (rd buf cur.1 == 42) = true ∨ (rd buf cur.1 == 58) = true
    · rw [if_pos hA, if_pos hA.symm]; rfl
    · rw [if_neg hA, if_neg (fun h : _ ∨ _ => hA h.symm)]
      by_cases hB : (rd buf pp == 42) = true
      · rw [if_pos hB, if_pos hB]; rfl
      · rw [if_neg hB, if_neg hB]

theorem compose_spec (buf : Bytes) (prev : Option (Nat × Nat)) (pe : Option Bytes) (cur : Nat × Nat) (B : Nat)
    (hcur : 0 < cur.2) (hlen : cur.1 + cur.2 ≤ buf.length) (hprev : PrevOK buf B cur.1 prev pe) :
    ((composeCompound buf prev cur).1.drop (composeCompound buf prev cur).2.1.1).take (composeCompound buf prev cur).2.1.2 =
      effective pe ((buf.drop cur.1).take cur.2) ∧
    ∀ b0, b0 ≤ cur.1 → (∀ x ∈ (buf.drop b0).take (cur.1 - b0), x ≠ 0) →
      ∀ x ∈ ((composeCompound buf prev cur).1.drop b0).take (cur.1 - b0), x ≠ 0 := by
  obtain ⟨hPl, hile, heff, hPnz⟩ := path_effective buf prev pe cur B hcur hlen hprev
  rw [composeCompound_eq buf prev cur hcur (fun pp pl h => (hprev.bound pp pl h).2), heff]
  generalize composeShift buf prev cur.1 = i at hPl hile hPnz ⊢
  generalize composePath buf prev i = P at hPl hPnz ⊢
  -- the buffer afterwards: `P` in front of the header
  dsimp only
  rw [poke_eq buf (cur.1 - i) P (by omega), hPl, Nat.sub_add_cancel hile]
  have hAl : (buf.take (cur.1 - i)).length = cur.1 - i := by rw [List.length_take]; omega
  constructor
  · rw [List.append_assoc, List.drop_left' hAl, List.take_append, hPl, List.take_of_length_le (by omega)]
    congr 2
    omega
  · intro b0 hb0 hnz x hx
    have hAP : (buf.take (cur.1 - i) ++ P).length = cur.1 := by rw [List.length_append, hAl, hPl]; omega
    rw [← List.drop_take, List.take_left' hAP, List.drop_append] at hx
    rcases List.mem_append.1 hx with hx | hx
    · rw [List.drop_take, ← Nat.min_eq_left (show cur.1 - i - b0 ≤ cur.1 - b0 by omega), ← List.take_take] at hx
      exact hnz x (List.mem_of_mem_take hx)
    · exact hPnz x (List.mem_of_mem_drop hx)

theorem PrevOK_mono {buf : Bytes} {B lim lim' : Nat} {prev : Option (Nat × Nat)} {pe : Option Bytes}
    (h : PrevOK buf B lim prev pe) (hl : lim ≤ lim') : PrevOK buf B lim' prev pe := by
  match prev, pe, h with
  | none, none, _ => trivial
  | some (pp, pl), some e, ⟨p1, p2, p3, p4, p5⟩ => exact ⟨p1, by omega, p3, p4, p5⟩

theorem PrevOK_alpha {buf : Bytes} {B lim : Nat} {prev : Option (Nat × Nat)} {pe : Option Bytes}
    (h : PrevOK buf B lim prev pe) : ∀ e, pe = some e → ∀ b ∈ e, hdrAlpha b = true := by
  match prev, pe, h with
  | none, none, _ => intro e he; cases he
  | some (pp, pl), some e, ⟨p1, p2, p3, p4, p5⟩ => intro e' he; cases he; exact p5

theorem effective_alpha (pe : Option Bytes) (hdr : Bytes) (h1 : ∀ e, pe = some e → ∀ b ∈ e, hdrAlpha b = true)
    (h2 : ∀ b ∈ hdr, hdrAlpha b = true) : ∀ b ∈ effective pe hdr, hdrAlpha b = true := by
  cases pe with
  | none => exact h2
  | some e =>
    rw [effective_some]
    split
    · exact h2
    · split
      · exact h2
      · intro b hb
        rcases List.mem_append.1 hb with hb | hb
        · rw [pathOf_eq] at hb; exact h1 e rfl b (List.mem_of_mem_take hb)
        · exact h2 b hb

theorem effective_length (pe : Option Bytes) (hdr : Bytes) : hdr.length ≤ (effective pe hdr).length := by
  cases pe with
  | none => exact Nat.le_refl _
  | some e =>
    rw [effective_some]
    split
    · exact Nat.le_refl _
    · split
      · exact Nat.le_refl _
      · simp

/-- composition writes in front of the current header only, introduces no NUL there, and hands the next unit the
effective header of this one -/
theorem compose_next (buf : Bytes) (prev : Option (Nat × Nat)) (pe : Option Bytes) (cur : Nat × Nat) (B : Nat)
    (hcur : 0 < cur.2) (hlen : cur.1 + cur.2 ≤ buf.length) (hB : B ≤ cur.1) (hprev : PrevOK buf B cur.1 prev pe)
    (halpha : ∀ b ∈ (buf.drop cur.1).take cur.2, hdrAlpha b = true) :
    Frame B cur.1 buf (composeCompound buf prev cur).1 ∧
    PrevOK (composeCompound buf prev cur).1 B (cur.1 + cur.2) (some (composeCompound buf prev cur).2.1)
      (some (effective pe ((buf.drop cur.1).take cur.2))) ∧
    ∀ b0, b0 ≤ cur.1 → (∀ x ∈ (buf.drop b0).take (cur.1 - b0), x ≠ 0) →
      ∀ x ∈ ((composeCompound buf prev cur).1.drop b0).take (cur.1 - b0), x ≠ 0 := by
  obtain ⟨-, k2, k3, k4⟩ := compose_inv buf prev cur B hcur hB hprev.bound
  obtain ⟨m1, m2⟩ := compose_spec buf prev pe cur B hcur hlen hprev
  have hl := effective_length pe ((buf.drop cur.1).take cur.2)
  generalize composeCompound buf prev cur = r at k2 k3 k4 m1 m2 ⊢
  obtain ⟨buf', ⟨o', n'⟩, okc⟩ := r
  dsimp only at k2 k3 k4 m1 m2 ⊢
  refine ⟨k2, ⟨k3, by omega, m1, ?_, effective_alpha pe _ (PrevOK_alpha hprev) halpha⟩, m2⟩
  rw [← m1, List.length_take, List.length_take, List.length_drop] at hl
  omega

end Compose

end ScpiVerif.Lemmas.Dispatch
