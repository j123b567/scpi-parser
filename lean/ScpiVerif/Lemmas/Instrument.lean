/-
Whole-instrument lemmas: the library's own command handlers (`Ctx.runBuiltin`) at message level.
An invariant `K` of (status registers, error queue) that is closed under the three ways the context model changes them
(`StatusInv`: error push, a handler of the library, a register write by `*ESE` & co) is preserved by every function of the
context model up to `input`, for every table and every script (`kc_inputs`).  The instance `StatusOK` (`statusOK_inv`):
registers well formed and coherent (C11), queue ring invariant, and the queue count / capacity the status side keeps are
those of the queue.  For one unit whose script is a single library handler, what `processCommand` leaves behind is an
equation (`processCommand_pure`, `processCommand_enable`, `processCommand_enable_missing`); the per-command theorems of
Props/Instrument.lean are read off these.
-/
import ScpiVerif.Lemmas.Builtin
import ScpiVerif.Lemmas.ApiFrame
import ScpiVerif.Spec.Instrument
import ScpiVerif.Spec.ErrorString
import ScpiVerif.Lemmas.Params
import ScpiVerif.Lemmas.Regs
import ScpiVerif.Lemmas.Fifo


namespace ScpiVerif.Lemmas.Instrument
open ScpiVerif ScpiVerif.Ctx ScpiVerif.Lexer ScpiVerif.Result ScpiVerif.Lemmas.Builtin ScpiVerif.Props.Instrument
open ScpiVerif.Lemmas.Regs (regSet_qn regSet_cap get_regSet emitEmpty_qn)

structure StatusInv (K : Regs.St → Fifo.EQ → Prop) : Prop where
  push : ∀ r q w code info n, K r q → K (Regs.errPush r code) (q.push w code info n true).1
  builtin : ∀ r q b, K r q → K (bRegs r b) (bEq q b)
  set : ∀ r q reg v, reg ≠ Regs.STB → K r q → K (Regs.step r (.set reg v)) q

def KC (K : Regs.St → Fifo.EQ → Prop) (c : Ctx) : Prop := K c.regs c.eq

section lift
variable {K : Regs.St → Fifo.EQ → Prop} (hK : StatusInv K)
include hK

/- In the proofs below a goal `KC K x` is closed by a hypothesis about a context with the same registers and queue.
Where `x` is a record update or a pair projection, `unfold KC; dsimp only` (or `kc_same`) first brings both sides to
the same projections: left to itself the unifier compares the two contexts first, and unfolds `parse` and `pushError`
on the way to finding them different. -/

omit hK in
theorem kc_same {c c' : Ctx} (h : KC K c) (h1 : c'.regs = c.regs) (h2 : c'.eq = c.eq) : KC K c' := by
  unfold KC at *; rw [h1, h2]; exact h

omit hK in
theorem kc_ite {α : Type} (f : α → Ctx) {p : Prop} [Decidable p] {a b : α} (ha : KC K (f a)) (hb : KC K (f b)) :
    KC K (f (if p then a else b)) := by
  split <;> assumption

theorem kc_pushError (c : Ctx) (code : Int) (info : Option Bytes) (n : Nat) (h : KC K c) :
    KC K (pushError c code info n) := by
  rw [Lemmas.Isolation.pushError_eq]
  exact hK.push _ _ _ _ _ _ h

theorem kc_inv : Api.ApiInv (fun _ => True) (KC K) where
  emit _ _ h := h
  pushError code info n _ h := kc_pushError hK _ code info n h
  cursor _ _ h := h
  write _ h := h
  status b h := hK.builtin _ _ b h
  set reg v hreg h := hK.set _ _ reg v hreg h

theorem kc_loop : Api.LoopInv (KC K) where
  pushError code info n h := kc_pushError hK _ code info n h
  core _ _ h := h
  unit _ _ _ _ _ h := (kc_inv hK).processCommand (fun _ h => h) (fun _ _ _ _ _ _ _ => trivial)
    (kc_same h (by unfold Stage.enter; split <;> rfl) (by unfold Stage.enter; split <;> rfl))

theorem kc_parse (c : Ctx) (base len : Nat) (h : KC K c) : KC K (parse c base len).1 := by
  have h1 := (kc_loop hK).parseLoop (len + 2) base len none true
    (c := emit { c with out := ParseLocalAux.outReset c.out } (.parseMsg ((c.buf.drop base).take len))) h
  rw [ParseLocalAux.parse_eq]
  generalize parseLoop _ _ _ _ _ _ = x at h1 ⊢
  exact h1

theorem kc_inputLoop : ∀ (fuel : Nat) (c : Ctx) (tot : Nat) (res : Bool),
    KC K c → KC K (inputLoop fuel c tot res).1 := by
  intro fuel
  induction fuel with
  | zero => intro c tot res h; exact h
  | succ fuel ih =>
    intro c tot res h
    rw [Chunking.inputLoop_succ]
    refine kc_ite Prod.fst (ih _ _ _ ?_) (kc_ite Prod.fst ?_ (kc_ite Prod.fst ?_ (ih _ _ _ ?_)))
    · unfold KC Chunking.step; dsimp only
      exact kc_parse hK c 0 _ h
    all_goals exact h

theorem kc_input (c : Ctx) (data : Bytes) (h : KC K c) : KC K (input c data) := by
  unfold input
  refine kc_ite (fun c => c) ?_ (kc_ite (fun c => c) ?_ ?_) <;> unfold KC emit <;> dsimp only
  · exact kc_parse hK { c with buf := c.buf.set c.position 0 } 0 c.position h
  · exact kc_pushError hK _ _ _ _ h
  · exact kc_inputLoop hK _ _ _ _ h

theorem kc_inputs (chunks : List Bytes) : ∀ (c : Ctx), KC K c → KC K (chunks.foldl input c) := by
  induction chunks with
  | nil => intro c h; exact h
  | cons d ds ih => intro c h; exact ih _ (kc_input hK c d h)

end lift

-- `QSync`, `StatusOK` are defined in Spec/Instrument.lean

section StatusOK
variable {r : Regs.St} {q : Fifo.EQ} (h : StatusOK r q)
include h
theorem _root_.ScpiVerif.Props.Instrument.StatusOK.wf : Regs.WF r := h.1
theorem _root_.ScpiVerif.Props.Instrument.StatusOK.coh : Regs.Coherent r := h.2.1
theorem _root_.ScpiVerif.Props.Instrument.StatusOK.inv : Fifo.Inv q.fifo := h.2.2.1
theorem _root_.ScpiVerif.Props.Instrument.StatusOK.qn : r.qn = q.fifo.count := h.2.2.2.1
theorem _root_.ScpiVerif.Props.Instrument.StatusOK.cap : r.cap = q.fifo.size := h.2.2.2.2
end StatusOK

/-- the queue side of SCPI_ErrorPushEx -/
theorem push_sync (q : Fifo.EQ) (w : Bool) (code : Int) (info : Option Bytes) (n : Nat) (hi : Fifo.Inv q.fifo) :
    Fifo.Inv (q.push w code info n true).1.fifo ∧ (q.push w code info n true).1.fifo.size = q.fifo.size ∧
    (q.push w code info n true).1.fifo.count = (if q.fifo.size ≤ q.fifo.count then q.fifo.count else q.fifo.count + 1) := by
  rw [Lemmas.Fifo.push_eq]
  have h1 := hi.1
  have h5 := hi.count_le
  by_cases hf : q.fifo.count = q.fifo.size
  · rw [if_pos hf]
    dsimp only
    refine ⟨Lemmas.Fifo.inv_add _ _ (Lemmas.Fifo.inv_removeLast _ hi), ?_, ?_⟩
    · rw [Lemmas.Fifo.size_add, Lemmas.Fifo.size_removeLast]
    · rw [Lemmas.Fifo.count_add, Lemmas.Fifo.count_removeLast, Lemmas.Fifo.size_removeLast]
      have : ¬ (q.fifo.count - 1 = q.fifo.size) := by omega
      rw [if_neg this, if_pos (by omega)]
      omega
  · rw [if_neg hf]
    dsimp only
    refine ⟨Lemmas.Fifo.inv_add _ _ hi, Lemmas.Fifo.size_add _ _, ?_⟩
    rw [Lemmas.Fifo.count_add, if_neg hf, if_neg (by omega)]

theorem clear_sync (q : Fifo.EQ) (hi : Fifo.Inv q.fifo) :
    Fifo.Inv q.clear.fifo ∧ q.clear.fifo.size = q.fifo.size ∧ q.clear.fifo.count = 0 := by
  obtain ⟨_, a, b, _⟩ := Lemmas.Fifo.step_refines q.fifo.size true q (Fifo.EQ.abs q) .clear ⟨hi, rfl, rfl⟩
  exact ⟨a, b, rfl⟩

theorem sysErrNext_sync (q : Fifo.EQ) (hi : Fifo.Inv q.fifo) :
    Fifo.Inv q.sysErrNext.1.fifo ∧ q.sysErrNext.1.fifo.size = q.fifo.size ∧
    q.sysErrNext.1.fifo.count = q.fifo.count - 1 :=
  ⟨Lemmas.Fifo.inv_remove _ hi, Lemmas.Fifo.size_remove _, Lemmas.Fifo.count_remove _⟩

theorem regSet_sync (r : Regs.St) (n : Nat) (v : Regs.Reg) :
    (Regs.regSet r n v).qn = r.qn ∧ (Regs.regSet r n v).cap = r.cap := ⟨regSet_qn _ _ _, regSet_cap _ _ _⟩

theorem cls_qn (r : Regs.St) : (Regs.cls r).qn = 0 := by
  rw [Lemmas.Regs.cls_eq, regSet_qn, regSet_qn, regSet_qn]
  exact emitEmpty_qn _

theorem errPop_qn (r : Regs.St) : (Regs.errPop r).qn = r.qn - 1 := emitEmpty_qn _

theorem statusOK_step {r : Regs.St} {q q' : Fifo.EQ} (h : StatusOK r q) (op : Regs.Op) (hop : op.ok = true)
    (hi : Fifo.Inv q'.fifo) (hsz : q'.fifo.size = q.fifo.size) (hqn : (Regs.step r op).qn = q'.fifo.count) :
    StatusOK (Regs.step r op) q' :=
  let k := Lemmas.Regs.step_keeps r op h.wf hop
  ⟨k.1, k.2.2 h.coh, hi, hqn, (k.2.1.cap.trans h.cap).trans hsz.symm⟩

theorem statusOK_regSet {r : Regs.St} {q : Fifo.EQ} (h : StatusOK r q) (op : Regs.Op) (hop : op.ok = true)
    (hqn : (Regs.step r op).qn = r.qn) : StatusOK (Regs.step r op) q :=
  statusOK_step h op hop h.inv rfl (hqn.trans h.qn)

theorem statusOK_inv : StatusInv StatusOK := by
  refine ⟨?_, ?_, ?_⟩
  · intro r q w code info n h
    obtain ⟨p1, p2, p3⟩ := push_sync q w code info n h.inv
    refine statusOK_step h (.errPush code) rfl p1 p2 ?_
    rw [p3, ← h.qn, ← h.cap]
    exact (Lemmas.Regs.errPush_spec r code (Lemmas.Regs.wfLen h.wf)).2.1
  · intro r q b h
    cases b
    case cls =>
      obtain ⟨p1, p2, p3⟩ := clear_sync q h.inv
      exact statusOK_step h .cls rfl p1 p2 ((cls_qn r).trans p3.symm)
    case errNextQ =>
      obtain ⟨p1, p2, p3⟩ := sysErrNext_sync q h.inv
      exact statusOK_step h .errPop rfl p1 p2 ((errPop_qn r).trans (h.qn ▸ p3.symm))
    case esrQ => exact statusOK_regSet h .esrQ rfl (regSet_qn _ _ _)
    case quesEvenQ => exact statusOK_regSet h .quesQ rfl (regSet_qn _ _ _)
    case operEvenQ => exact statusOK_regSet h .operQ rfl (regSet_qn _ _ _)
    case pres => exact statusOK_regSet h .preset rfl (regSet_qn _ _ _)
    case opc => exact statusOK_regSet h (.setBits Regs.ESR (Regs.bv Gen.ESR_OPC)) rfl (regSet_qn _ _ _)
    all_goals exact h
  · intro r q reg v hreg h
    exact statusOK_regSet h (.set reg v) (bne_iff_ne.mpr hreg) (regSet_qn _ _ _)

theorem statusOK_init (cmds : List Cmd) (choices : List (List (Bytes × Int))) (bufLen queueCap : Nat) (withInfo : Bool)
    (hcap : 1 ≤ queueCap) :
    KC StatusOK (Ctx.init cmds choices bufLen queueCap withInfo) :=
  ⟨Lemmas.Regs.wf_init queueCap hcap, Lemmas.Regs.coherent_init queueCap, Lemmas.Fifo.inv_init queueCap _ hcap, rfl, rfl⟩

/-- every state reachable by input calls is well formed and coherent, with the queue count in step -/
theorem statusOK_inputs (c : Ctx) (chunks : List Bytes) (h : KC StatusOK c) : KC StatusOK (chunks.foldl input c) :=
  kc_inputs statusOK_inv chunks c h

open ScpiVerif.Lemmas.Isolation (pcReset pcBody pcTail pcOut)
open ScpiVerif.Lemmas.Blocks (sepOf)

theorem runScript_single (c : Ctx) (b : Builtin) : runScript c [.builtin b] = runBuiltin c b := by
  unfold runScript
  simp only [List.foldl, runOp, Bool.false_eq_true, if_false]
  generalize runBuiltin c b = r
  obtain ⟨c', ok⟩ := r
  cases ok <;> rfl

/-- the context in which the handler runs -/
def unitStart (c : Ctx) (cmd : Cmd) : Ctx :=
  emit (pcReset c) (.handler cmd.tag ((c.buf.drop c.rawOff).take c.rawLen))

theorem processCommand_single (c : Ctx) (cmd : Cmd) (b : Builtin) (hcur : c.cur = some cmd)
    (hs : cmd.script = [.builtin b]) :
    processCommand c = pcTail
      (let r := runBuiltin (unitStart c cmd) b
       if !r.2 then ((if !r.1.cmdError then pushError r.1 (-200) none else r.1), false) else (r.1, !r.1.cmdError)) := by
  rw [Lemmas.Isolation.processCommand_eq]
  congr 1
  have hc2 : (pcReset c).cur = some cmd := hcur
  unfold pcBody
  simp only [hc2, hs, runScript_single]
  rfl

/-- a handler that reads no parameter, in a unit without program data left over: the whole effect of the unit -/
theorem processCommand_pure (c : Ctx) (cmd : Cmd) (b : Builtin) (hb : Bound c cmd b) (hp : paramReg b = none) :
    processCommand c =
      ({ c with cmdError := false, inputCount := 0, regs := bRegs c.regs b, eq := bEq c.eq b,
                out := pcOut (bOut c.regs c.eq b (pcReset c).out),
                events := c.events ++ [.handler cmd.tag ((c.buf.drop c.rawOff).take c.rawLen)] ++ bEvs c.regs b }, true) := by
  rw [processCommand_single c cmd b hb.cur hb.script, runBuiltin_pure _ b hp]
  unfold pcTail
  simp only [unitStart, pcReset, emit, Bool.not_true, Bool.false_eq_true, if_false, Bool.not_false, and_true, hb.noData]

theorem pcOut_written (o : Out) : (pcOut o).written = o.written := by
  unfold pcOut endUnit
  split <;> rfl

theorem pcReset_sepOf (c : Ctx) : sepOf (pcReset c).out = unitSep c := by
  unfold sepOf pcReset unitSep
  cases c.out.firstOutput <;> simp

theorem pcReset_written (c : Ctx) : (pcReset c).out.written = c.out.written := rfl

theorem canon_small (n : Nat) (hn : n < 2^31) : IntFmt.canon 32 n 10 true = IntFmt.specDigits 10 n := by
  unfold IntFmt.canon IntFmt.effBase
  have : ¬ n ≥ 2^(32-1) := by omega
  simp [this]

theorem outNat_written (o : Out) (n : Nat) (hn : n < 2^31) :
    (outNat n o).written = o.written ++ sepOf o ++ Spec.Message.decimal n := by
  unfold outNat resultIntBaseSign
  dsimp only
  rw [Lemmas.Framing.toStr_chars 32 (Or.inl rfl) n (by omega) 10 true, canon_small n hn,
    Lemmas.Framing.basePrefix_eq, Lemmas.Framing.writeDelimiter_eq]
  simp [bump, writeData, Spec.Message.decimal, charsToBytes]

theorem outReg_written (r : Regs.St) (reg : Nat) (o : Out) :
    (outReg r reg o).written = o.written ++ sepOf o ++ Spec.Message.decimal (Regs.get r reg).toNat :=
  outNat_written o _ (by have := (Regs.get r reg).isLt; omega)

theorem resultCharacters_written (o : Out) (d : Bytes) :
    (resultCharacters o d).written = o.written ++ sepOf o ++ d ∧ sepOf (resultCharacters o d) = [44] := by
  unfold resultCharacters
  rw [Lemmas.Framing.writeDelimiter_eq]
  simp only [bump, writeData, sepOf]
  refine ⟨by simp, if_pos ?_⟩
  split <;> omega

/-- what a unit bound to a handler without parameter answers, from what the handler's result writer appends; registers and
queue are the handler's -/
theorem pure_answers (c : Ctx) (cmd : Cmd) (b : Builtin) (hb : Bound c cmd b) (hp : paramReg b = none) (item : Bytes)
    (ho : ∀ o, (bOut c.regs c.eq b o).written = o.written ++ sepOf o ++ item) :
    Answered c (processCommand c).1 item ∧ (processCommand c).2 = true ∧
    (processCommand c).1.regs = bRegs c.regs b ∧ (processCommand c).1.eq = bEq c.eq b := by
  rw [processCommand_pure c cmd b hb hp]
  refine ⟨?_, rfl, rfl, rfl⟩
  unfold Answered
  dsimp only
  rw [pcOut_written, ho, pcReset_sepOf]
  rfl

/-- every register query of the library answers the decimal text of its register; queue untouched -/
theorem query_answers (c : Ctx) (cmd : Cmd) (b : Builtin) (reg : Nat) (hb : Bound c cmd b) (hq : queryReg b = some reg) :
    Answered c (processCommand c).1 (Spec.Message.decimal (Regs.get c.regs reg).toNat) ∧
    (processCommand c).2 = true ∧ (processCommand c).1.regs = bRegs c.regs b ∧ (processCommand c).1.eq = c.eq := by
  cases b <;> cases hq <;> exact pure_answers c cmd _ hb rfl _ (outReg_written c.regs _)

/-- a clearing query (`*ESR?`, the OPERation and QUEStionable event queries): answer, then the event register is zero -/
theorem event_query_clears (c : Ctx) (cmd : Cmd) (b : Builtin) (reg : Nat) (hb : Bound c cmd b)
    (hq : queryReg b = some reg) (hclr : bRegs c.regs b = Regs.regSet c.regs reg 0)
    (hreg : (reg < 10 ∧ reg ≠ 6 ∧ reg ≠ 9) ∧ reg ≠ 0) (hs : StatusOK c.regs c.eq) :
    Answered c (processCommand c).1 (Spec.Message.decimal (Regs.get c.regs reg).toNat) ∧
    Regs.get (processCommand c).1.regs reg = 0 ∧
    (∀ m, m ≠ 0 → m ≠ reg → Regs.get (processCommand c).1.regs m = Regs.get c.regs m) ∧
    Regs.Coherent (processCommand c).1.regs ∧ (processCommand c).1.eq = c.eq := by
  obtain ⟨a1, _, a3, a4⟩ := query_answers c cmd b reg hb hq
  have g := fun m => get_regSet c.regs reg 0 m (Lemmas.Regs.wfLen hs.wf) hreg.1
  refine ⟨a1, ?_, ?_, a3 ▸ (statusOK_inv.builtin _ _ b hs).2.1, a4⟩ <;> rw [a3, hclr]
  · rw [g reg hreg.2, if_pos rfl]
  · intro m h0 hm
    rw [g m h0, if_neg hm]

theorem vers_answers (c : Ctx) (cmd : Cmd) (hb : Bound c cmd .versQ) :
    Answered c (processCommand c).1 (bytesOf Gen.STD_VERSION) ∧ (processCommand c).2 = true :=
  let h := pure_answers c cmd .versQ hb rfl _ (fun o => (resultCharacters_written o _).1)
  ⟨h.1, h.2.1⟩

/-- the oldest entry and the rest, as SCPI_ErrorPop delivers them -/
theorem sysErrNext_abs (q : Fifo.EQ) (hi : Fifo.Inv q.fifo) :
    (q.sysErrNext.2.code, q.sysErrNext.2.info.map (·.2)) = (Fifo.EQ.abs q).head?.getD (0, none) ∧
    Fifo.EQ.abs q.sysErrNext.1 = (Fifo.EQ.abs q).tail := by
  obtain ⟨o, _, _, a⟩ := Lemmas.Fifo.step_refines q.fifo.size true q (Fifo.EQ.abs q) .sysErr ⟨hi, rfl, rfl⟩
  simp only [Fifo.EQ.step, Fifo.specStep, Fifo.specPop] at o a
  obtain ⟨h1, h2⟩ := Fifo.Obs.popped.inj o
  exact ⟨by rw [h1, h2], a⟩

theorem no_error_text : Spec.ErrorString.response 0 (errorTranslate 0) none = bytesOf "0,\"No error\"" := by
  decide +kernel

open ScpiVerif.Lemmas.Params (pnext)
open ScpiVerif.Spec.Params (Reader)

theorem parameter_ok {c : Ctx} {m : Bool} (h : (parameter c m).2.1 = true) : (parameter c m).1 = pnext c :=
  (Lemmas.Params.parameter_true_item c m _ _ (Prod.ext rfl (Prod.ext h rfl))).1

theorem runReader_ok {c : Ctx} {r : Reader} {m : Bool} (h : (runReader c r m).2 = true) : (runReader c r m).1 = pnext c := by
  rw [Lemmas.Params.runReader_eq] at h ⊢
  split at h
  next hp =>
    rw [if_pos hp]
    generalize Lemmas.Params.verdict r _ _ = v at h ⊢
    cases v
    · exact parameter_ok hp
    · cases h
  next => cases h

theorem paramInt_missing (c : Ctx) (w : Nat) (s : Bool) (h : c.ppos ≥ c.pbase + c.plen) :
    paramInt c w s true = (pushError c (-109) none, false, 0) := by
  unfold paramInt
  rw [Lemmas.Params.parameter_eq, if_pos h]
  rfl

/-- the four enable commands: each reads its register with SCPI_ParamInt32, none of them writes the status byte, the
standard event register or a condition register, and `qb` reads the register back -/
theorem paramReg_of_enableReg {b : Builtin} {reg : Nat} {qb : Builtin} (h : enableReg b = some (reg, qb)) :
    ∃ strict, paramReg b = some (reg, strict) ∧ queryReg qb = some reg ∧ (reg < 10 ∧ reg ≠ 6 ∧ reg ≠ 9) ∧ reg ≠ 0 ∧ reg ≠ 2 := by
  cases b <;> cases h <;> exact ⟨_, rfl, rfl, by decide, by decide, by decide⟩

theorem paramInt_ok {c : Ctx} {w : Nat} {s m : Bool} {cP : Ctx} {v : Int} (h : paramInt c w s m = (cP, true, v)) :
    cP = pnext c := by
  have e : runReader c (.int w s) m = (cP, true) := by simp only [runReader, h]
  have := runReader_ok (c := c) (r := .int w s) (m := m) (by rw [e])
  rwa [e] at this

/-- `X v`, the reader delivering `v` and leaving no program data: the whole effect of the unit.  The cast to
`scpi_reg_val_t` (`Regs.bv`) keeps the low 16 bits; there is no range check. -/
theorem processCommand_enable (c : Ctx) (cmd : Cmd) (b : Builtin) (reg : Nat) (strict : Bool) (hcur : c.cur = some cmd)
    (hscr : cmd.script = [.builtin b]) (hp : paramReg b = some (reg, strict)) (cP : Ctx) (v : Int)
    (hv : paramInt (unitStart c cmd) 32 true true = (cP, true, v)) (hend : ¬ cP.ppos < cP.pbase + cP.plen) :
    processCommand c = ({ regStep cP (.set reg (Regs.bv v)) with out := pcOut cP.out }, true) := by
  have hce : cP.cmdError = false := by rw [paramInt_ok hv]; rfl
  rw [processCommand_single c cmd b hcur hscr, runBuiltin_param _ b reg strict hp, regFromParam_eq, hv]
  unfold pcTail
  simp only [if_true, Bool.true_or, Bool.not_true, Bool.false_eq_true, if_false, regStep, hce, Bool.not_false, and_true, hend]

/-- `X` without a parameter: the whole effect of the unit — for all four commands (`*ESE` / `*SRE` return an error, the
STATus commands return OK; `processCommand` reports failure in either case) -/
theorem processCommand_enable_missing (c : Ctx) (cmd : Cmd) (b : Builtin) (reg : Nat) (strict : Bool) (hcur : c.cur = some cmd)
    (hscr : cmd.script = [.builtin b]) (hp : paramReg b = some (reg, strict)) (hend : c.ppos ≥ c.pbase + c.plen) :
    processCommand c = ({ pushError (unitStart c cmd) (-109) none with out := pcOut (unitStart c cmd).out }, false) := by
  rw [processCommand_single c cmd b hcur hscr, runBuiltin_param _ b reg strict hp, regFromParam_eq,
    paramInt_missing _ 32 true (show (unitStart c cmd).ppos ≥ (unitStart c cmd).pbase + (unitStart c cmd).plen from hend)]
  unfold pcTail
  rw [Lemmas.Isolation.pushError_eq]
  cases strict <;> simp

end ScpiVerif.Lemmas.Instrument
