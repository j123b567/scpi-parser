/-
C03: `matchCommand` accepts exactly the headers of the pattern's language and leaves in numbers[] the suffixes of the
header's one reading (`match_all`, for ScpiVerif/Props/C03.lean).  The layers below are the modules MatchLocal,
MatchList, MatchKw, MatchTop and MatchSpec; here the stages around the main loop, on a rendered pattern and a header
over the header alphabet, give the run in terms of the walker on the mnemonics the model sees (`hdrRead`).
-/
import ScpiVerif.Lemmas.MatchTop
import ScpiVerif.Lemmas.MatchSpec

namespace ScpiVerif.Lemmas.Match
open ScpiVerif ScpiVerif.Match ScpiVerif.Spec.Pattern
open ScpiVerif.Lexer (Bytes isDigit isLower isUpper isAlpha)

def HdrByte (b : UInt8) : Prop := b ≠ 0 ∧ (isDigit b = false → nonNumStart b = true)

theorem hdrByte_of_alpha (b : UInt8) (h : hdrAlpha b = true) : HdrByte b := by
  -- in numbers: the alphabet is 48-57, 65-90, 97-122 and 95 58 63 42; NUL, white space (9-13, 32) and the signs
  -- (43, 45) are not among them
  simp only [hdrAlpha, isKwChar, isAlpha, isUpper, isLower, isDigit, Bool.or_eq_true, Bool.and_eq_true,
    decide_eq_true_eq, beq_iff_eq, UInt8.le_iff_toNat_le, ← UInt8.toNat_inj] at h
  simp only [HdrByte, nonNumStart, isDigit, Bool.and_eq_true, Bool.not_eq_true', bne_iff_ne, ne_eq,
    Bool.and_eq_false_imp, decide_eq_true_eq, decide_eq_false_iff_not, UInt8.le_iff_toNat_le, ← UInt8.toNat_inj]
  simp at h ⊢
  omega

/-- what `matchCommand` is expected to return when the walker reads `o` -/
def GoodRes (hn : Bool) (d : Int) (E : Bool × List Int × Bool) (o : Option (List (Option Nat)))
    (nums : List Int) : Prop :=
  E.1 = o.isSome ∧ E.2.2 = false ∧ ∀ sol, o = some sol → E.2.1 = fillIf hn nums 0 (wantC sol d)

theorem GoodRes.none {hn : Bool} {d : Int} {nums : List Int} : GoodRes hn d (false, nums, false) none nums :=
  ⟨rfl, rfl, fun _ h => by cases h⟩

theorem run_pieces {pat hdr : Bytes} {q cq hn : Bool} {d : Int} {k : Kw} {ks : List Kw}
    (hkws : ∀ k' ∈ k :: ks, KwW k') {st : MState} {X : Bytes}
    (hpat : PatAt pat q (kwText k ks) st.pp st.pl) (hbr : st.brackets = brOf k)
    (hX : HdrAt hdr cq X st.cp st.cl) (hbytes : ∀ b ∈ X, HdrByte b) (hidx : st.idx = 0) (hoob : st.oob = false)
    (fuel : Nat) (hfuel : ks.length < fuel) :
    GoodRes hn d (runStage pat hdr hn d fuel st.numbers false (some st)) (greedy (k :: ks) (splitColon X))
      st.numbers := by
  obtain ⟨m, ms, h1, h2, h3⟩ := splitColon_spec X
  have hmn : ∀ x ∈ m :: ms, MnOK x := fun x hx b hb => by
    have := hbytes b (by rw [h2]; exact mem_hdr_of_mem_piece m ms x hx b hb)
    exact ⟨this.1, fun h58 => h3 x hx (h58 ▸ hb), this.2⟩
  obtain ⟨g1, g2, g3⟩ := mainLoop_spec pat hdr q cq hn d fuel k ks m ms st hfuel
    ⟨hkws, hmn, hpat, by rw [← h2]; exact hX, hbr⟩
  rw [h1]
  exact ⟨g1, g2.trans hoob, fun sol hs => by rw [← hidx]; exact g3 sol hs⟩

theorem cmdPrelude_eval (hdr body : Bytes) (cq : Bool) (hhdr : hdr = body ++ qtail cq) (st : MState)
    (hcp : st.cp = 0) (hcl : st.cl = body.length) :
    cmdPrelude hdr st =
      if body.headD 0 = 58 ∧ 2 ≤ body.length then
        (if (body.drop 1).headD 0 = 42 then none else some { st with cp := 1, cl := body.length - 1 })
      else some st := by
  subst hhdr
  unfold cmdPrelude
  rw [hcp, hcl]
  match body with
  | [] => cases cq <;> simp [rd, qtail]
  | [b] => by_cases hb : b = 58 <;> simp [rd_cons_zero, hb]
  | b :: b2 :: rest =>
    by_cases hb : b = 58 <;> by_cases hb2 : b2 = 42 <;> simp [rd_cons_zero, rd_cons_succ, hb, hb2]

theorem model_run {pat hdr : Bytes} {q cq hn : Bool} {d : Int} {k : Kw} {ks : List Kw}
    (hkws : ∀ k' ∈ k :: ks, KwW k') {st : MState} {body : Bytes}
    (hpat : PatAt pat q (kwText k ks) st.pp st.pl) (hbr : st.brackets = brOf k) (hcp : st.cp = 0)
    (hcl : st.cl = body.length) (hidx : st.idx = 0) (hoob : st.oob = false) (hhdr : hdr = body ++ qtail cq)
    (hbytes : ∀ b ∈ body, HdrByte b) (fuel : Nat) (hfuel : ks.length < fuel) :
    GoodRes hn d (runStage pat hdr hn d fuel st.numbers false (cmdPrelude hdr st)) (bodyRead (k :: ks) body)
      st.numbers := by
  rw [cmdPrelude_eval hdr body cq hhdr st hcp hcl, bodyRead]
  by_cases hstrip : body.headD 0 = 58 ∧ 2 ≤ body.length
  · rw [if_pos hstrip, if_pos hstrip]
    by_cases h42 : (body.drop 1).headD 0 = 42
    · rw [if_pos h42, if_pos h42]; exact GoodRes.none
    · rw [if_neg h42, if_neg h42]
      obtain ⟨b, rest, rfl⟩ : ∃ b rest, body = 58 :: b :: rest := by
        match body, hstrip with
        | a :: b :: rest, h => exact ⟨b, rest, by simp at h; rw [h]⟩
      exact run_pieces (cq := cq) (st := { st with cp := 1, cl := (58 :: b :: rest).length - 1 }) hkws hpat hbr
        ⟨by simp [hhdr], by simp⟩ (fun x hx => hbytes x (List.mem_cons_of_mem _ hx)) hidx hoob fuel hfuel
  · rw [if_neg hstrip, if_neg hstrip]
    exact run_pieces (cq := cq) hkws hpat hbr ⟨by simp [hhdr, hcp], hcl⟩ hbytes hidx hoob fuel hfuel

theorem patPrelude_eval {pat : Bytes} {k : Kw} {ks : List Kw} {q : Bool} (hk : KwW k)
    (hvar : Rendered pat k ks q) (st : MState) (hpp : st.pp = 0)
    (hpl : st.pl = ((pat.length - (qtail q).length : Nat) : Int)) (hbr : st.brackets = 0) :
    ∃ n : Nat, patPrelude pat st = { st with pp := n, pl := st.pl - n, brackets := brOf k } ∧
      PatAt pat q (kwText k ks) n (st.pl - n) := by
  have hh := keyText_head hk (closeB k ++ renderRest ks ++ qtail q)
  rcases hvar with rfl | ⟨hopt, rfl⟩
  · have e : item k ++ renderRest ks ++ qtail q = openB k ++ (kwText k ks ++ qtail q) := by
      rw [← List.append_assoc, ← renderRest_cons]; rfl
    rw [e] at hpl ⊢
    refine ⟨(openB k).length, ?_, List.drop_left, by rw [hpl]; simp; omega⟩
    cases hopt : k.optional <;> simp [patPrelude, openB, brOf, hopt, rd_cons_zero, rd_cons_succ, hpp, hbr]
    omega
  · refine ⟨0, ?_, by simp [kwText, closeB, hopt], by rw [hpl]; simp [kwText, closeB, hopt]; omega⟩
    simp only [closeB, hopt, Bool.false_eq_true, if_false, List.nil_append] at hh
    have h91 : ¬ rd (keyText k ++ (renderRest ks ++ qtail q)) 0 = 91 := by
      rw [rd_zero]; intro h; rw [h] at hh; exact absurd hh.2 (by decide)
    have h58 : ¬ rd (keyText k ++ (renderRest ks ++ qtail q)) 0 = 58 := by
      rw [rd_zero]; intro h; rw [h] at hh; exact absurd hh.2 (by decide)
    simp [patPrelude, hpp, h91, h58, brOf, hopt]
    rw [← hpp, ← hbr]

theorem rd_getLast (l : Bytes) (h : l ≠ []) : rd l (l.length - 1) = l.getLast h := by
  rw [← rd_last l 0 l [] (by simp) h, Nat.zero_add]

theorem rd_last_iff (l : Bytes) (ch : UInt8) : (l.length > 0 ∧ (rd l (l.length - 1) == ch) = true) ↔ l.getLast? = some ch := by
  cases l with
  | nil => simp
  | cons a l => rw [rd_getLast _ (List.cons_ne_nil a l), List.getLast?_eq_some_getLast (List.cons_ne_nil a l)]; simp

theorem bodyStage_eval {pat : Bytes} {k : Kw} {ks : List Kw} {q : Bool} (hkws : ∀ k' ∈ k :: ks, KwW k')
    (hvar : Rendered pat k ks q) (numbers : Option (List Int)) (d : Int) (hdr body : Bytes) (cq : Bool)
    (hhdr : hdr = body ++ qtail cq) (hbytes : ∀ b ∈ body, HdrByte b) :
    GoodRes numbers.isSome d
      (bodyStage pat hdr numbers d ((pat.length - (qtail q).length : Nat) : Int) body.length)
      (bodyRead (k :: ks) body) (numbers.getD []) := by
  have hk := hkws k (by simp)
  obtain ⟨n, e, hp⟩ := patPrelude_eval (ks := ks) hk hvar
    ⟨0, ((pat.length - (qtail q).length : Nat) : Int), 0, body.length, 0, numbers.getD [], 0, false⟩ rfl rfl rfl
  have hlen := congrArg List.length hp.1
  simp only [List.length_drop, kwText, List.length_append] at hlen
  have hpne : pat.isEmpty = false := by
    have := keyText_pos hk
    cases pat with
    | nil => simp at hlen; omega
    | cons a t => rfl
  unfold bodyStage
  simp only [hpne, Bool.false_eq_true, and_false, decide_false, e]
  exact model_run hkws hp rfl rfl rfl rfl rfl hhdr hbytes _ (by have := renderRest_length ks; omega)

theorem rendered_nz63 {pat : Bytes} {k : Kw} {ks : List Kw} {q : Bool} (hkws : ∀ k' ∈ k :: ks, KwW k')
    (hvar : Rendered pat k ks q) : ∃ B : Bytes, pat = B ++ qtail q ∧ B ≠ [] ∧ ∀ b ∈ B, b ≠ 0 ∧ b ≠ 63 := by
  have hkey : ∀ k' ∈ k :: ks, ∀ b ∈ keyText k', b ≠ 0 ∧ b ≠ 63 := fun k' hk' b hb => by
    have := keyText_clean (hkws k' hk') b hb
    exact ⟨this.1, by rintro rfl; simp at this⟩
  have hitem : ∀ k' ∈ k :: ks, ∀ b ∈ item k', b ≠ 0 ∧ b ≠ 63 := fun k' hk' b hb => by
    cases hopt : k'.optional <;> simp [item, hopt] at hb
    · rcases hb with rfl | hb
      · decide
      · exact hkey k' hk' b hb
    · rcases hb with rfl | rfl | hb | rfl
      · decide
      · decide
      · exact hkey k' hk' b hb
      · decide
  have hrest : ∀ ks', (∀ k' ∈ ks', k' ∈ k :: ks) → ∀ b ∈ renderRest ks', b ≠ 0 ∧ b ≠ 63 := by
    intro ks'
    induction ks' with
    | nil => intro _ b hb; simp [renderRest] at hb
    | cons k' ks' ih =>
      intro hsub b hb
      rcases List.mem_append.1 hb with hb | hb
      · exact hitem k' (hsub k' (by simp)) b hb
      · exact ih (fun x hx => hsub x (by simp [hx])) b hb
  have hpos := keyText_pos (hkws k (by simp))
  rcases hvar with h | ⟨_, h⟩
  · refine ⟨item k ++ renderRest ks, h, by cases hopt : k.optional <;> simp [item, hopt], fun b hb => ?_⟩
    rcases List.mem_append.1 hb with hb | hb
    · exact hitem k (by simp) b hb
    · exact hrest ks (fun x hx => by simp [hx]) b hb
  · refine ⟨keyText k ++ renderRest ks, h, fun h0 => by simp at h0; simp [h0.1] at hpos, fun b hb => ?_⟩
    rcases List.mem_append.1 hb with hb | hb
    · exact hkey k (by simp) b hb
    · exact hrest ks (fun x hx => by simp [hx]) b hb

/-- `matchCommand` on a pattern `B ++ qtail q` whose body `B` has neither NUL nor '?', cut as `hdrRead` cuts the header:
a query pattern wants a header that ends in '?' -/
theorem matchCommand_q {pat B : Bytes} {q : Bool} (hB : pat = B ++ qtail q) (hne : B ≠ []) (hBb : ∀ b ∈ B, b ≠ 0 ∧ b ≠ 63)
    (hdr : Bytes) (hhz : ∀ b ∈ hdr, b ≠ 0) (numbers : Option (List Int)) (d : Int) :
    matchCommand pat hdr hdr.length numbers d =
      if q then
        (if hdr.getLast? = some 63 then
          bodyStage pat hdr numbers d ((pat.length - (qtail q).length : Nat) : Int) hdr.dropLast.length
         else (false, numbers.getD [], false))
      else bodyStage pat hdr numbers d ((pat.length - (qtail q).length : Nat) : Int) hdr.length := by
  have hpz : ∀ b ∈ pat, b ≠ 0 := by
    intro b hb; rw [hB] at hb
    rcases List.mem_append.1 hb with hb | hb
    · exact (hBb b hb).1
    · cases q <;> simp [qtail] at hb
      subst hb; decide
  have hplen : 0 < pat.length := by rw [hB]; simp; have := List.length_pos_iff.2 hne; omega
  have hF3 : (rd pat (pat.length - 1) == 63) = q := by
    rw [rd_getLast pat (List.length_pos_iff.1 hplen)]
    cases q with
    | true => simp [hB, qtail]
    | false =>
      have hpB : pat = B := by rw [hB]; simp [qtail]
      subst hpB
      simpa using (hBb _ (List.getLast_mem hne)).2
  rw [matchCommand_stages]
  unfold qStage
  rw [ByteList.takeWhile_nz pat hpz, ByteList.takeWhile_nz hdr hhz]
  dsimp only
  rw [Int.toNat_natCast, Nat.min_self, hF3]
  cases q with
  | false => simp [qtail]
  | true =>
    simp only [if_true]
    by_cases hl : hdr.getLast? = some 63
    · have hlen : ((pat.length - 1 : Nat) : Int) = (pat.length : Int) - 1 := by omega
      rw [if_pos ((rd_last_iff hdr 63).2 hl), if_pos hl]
      simp [qtail, hlen]
    · rw [if_neg (mt (rd_last_iff hdr 63).1 hl), if_neg hl]
      have : ((pat.length : Int) == 0) = false := beq_eq_false_iff_ne.2 (by omega)
      rw [this]

theorem match_flow {pat : Bytes} {k : Kw} {ks : List Kw} {q : Bool} (hkws : ∀ k' ∈ k :: ks, KwW k')
    (hvar : Rendered pat k ks q) (hdr : Bytes) (hh : hdr.all hdrAlpha = true)
    (numbers : Option (List Int)) (d : Int) :
    GoodRes numbers.isSome d (matchCommand pat hdr hdr.length numbers d) (hdrRead (k :: ks) q hdr)
      (numbers.getD []) := by
  obtain ⟨B, hB, hBne, hBb⟩ := rendered_nz63 hkws hvar
  have hhb : ∀ b ∈ hdr, HdrByte b := fun b hb => hdrByte_of_alpha b (List.all_eq_true.1 hh b hb)
  rw [matchCommand_q hB hBne hBb hdr (fun b hb => (hhb b hb).1), hdrRead]
  cases q with
  | false => exact bodyStage_eval hkws hvar numbers d hdr hdr false (by simp [qtail]) hhb
  | true =>
    rw [if_pos rfl, if_pos rfl]
    split
    · rename_i hl
      obtain ⟨body, rfl⟩ := List.getLast?_eq_some_iff.1 hl
      rw [List.dropLast_concat]
      exact bodyStage_eval hkws hvar numbers d (body ++ [63]) body true rfl (fun b hb => hhb b (List.mem_append_left _ hb))
    · exact GoodRes.none

/-- every pattern of the grammar, on every header over the header alphabet: `matchCommand` accepts iff
the walker finds the one reading of the language, reads nothing outside the strings, and fills
numbers[] with the suffixes as `strtol` returns them -/
theorem match_all (pat : Bytes) (p : Pat) (hp : parsePattern pat = some p) (hwf : wellFormed p.kws = true)
    (hdr : Bytes) (hh : hdr.all hdrAlpha = true) (numbers : Option (List Int)) (d : Int) :
    ∃ o, accepts p hdr = o.toList ∧
      GoodRes numbers.isSome d (matchCommand pat hdr hdr.length numbers d) o (numbers.getD []) := by
  rcases parsePattern_cases pat p hp with ⟨name, hpe, hW, hpat⟩ | ⟨hc, k, ks, hkeq, hok, hvar⟩
  · refine ⟨_, by rw [hpe]; exact accepts_common p.query name hW hdr, ?_⟩
    exact match_flow (ks := []) (by simpa using hW) (Or.inr ⟨rfl, by simpa [renderRest] using hpat⟩) hdr hh
      numbers d
  · refine ⟨_, accepts_core p hc hwf hok hdr, ?_⟩
    rw [hkeq]
    exact match_flow (fun k' hk' => (hok k' (hkeq ▸ hk')).toW) hvar hdr hh numbers d

/-- C03, acceptance (restated as `Props.C03.match_iff_language`) -/
theorem match_iff_language (pat : Bytes) (p : Pat) (hp : parsePattern pat = some p)
    (hwf : wellFormed p.kws = true) (hdr : Bytes) (hh : hdr.all hdrAlpha = true) :
    (matchCommand pat hdr hdr.length none 0).1 = !(accepts p hdr).isEmpty ∧
    (matchCommand pat hdr hdr.length none 0).2.2 = false := by
  obtain ⟨o, ho, h1, h2, -⟩ := match_all pat p hp hwf hdr hh none 0
  rw [ho, h1]
  exact ⟨by cases o <;> rfl, h2⟩

/-- C03, numeric suffixes (restated as `Props.C03.numbers_spec`); `E` stands for the closed form
`Props.C03.expectedNumbers` of the expected array, which is defined there -/
theorem numbers_spec (pat : Bytes) (p : Pat) (hp : parsePattern pat = some p)
    (hwf : wellFormed p.kws = true) (hdr : Bytes) (hh : hdr.all hdrAlpha = true)
    (nums : List Int) (dflt : Int)
    (hsmall : ∀ sol ∈ accepts p hdr, ∀ o ∈ sol, ∀ v, o = some v → v < 2^31)
    (E : List Int → List (Option Nat) → Int → List Int)
    (hE : ∀ nums sol d, E nums sol d = fill nums 0 (want sol d)) :
    (matchCommand pat hdr hdr.length (some nums) dflt).1 = !(accepts p hdr).isEmpty ∧
    ((matchCommand pat hdr hdr.length (some nums) dflt).1 = true →
      ∃ sol ∈ accepts p hdr, (matchCommand pat hdr hdr.length (some nums) dflt).2.1 = E nums sol dflt) ∧
    (matchCommand pat hdr hdr.length (some nums) dflt).2.2 = false := by
  obtain ⟨o, ho, h1, h2, h3⟩ := match_all pat p hp hwf hdr hh (some nums) dflt
  rw [ho] at hsmall ⊢
  rw [h1]
  cases o with
  | none => exact ⟨rfl, fun h => by simp at h, h2⟩
  | some sol =>
    refine ⟨rfl, fun _ => ⟨sol, by simp, ?_⟩, h2⟩
    rw [h3 sol rfl, hE, wantC_eq_want sol dflt (hsmall sol (by simp))]; rfl

end ScpiVerif.Lemmas.Match
