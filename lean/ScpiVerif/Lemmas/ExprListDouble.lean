/-
Lemmas for C19, double-valued variant of the numeric list walker (SCPI_ExprNumericListEntryDouble): the text the model
hands to strtod for the tokens of entry i (`Expr.tokDoubleText`) against the numbers the list grammar of
Spec/ExprList.lean delimits.  The tokens returned for entry i are the decimal tokens of the entry's numbers
(`Lemmas.ExprList.numLoop_spec`; `IsNum`: position p, length `decimalTotal (body.drop p)`); at such a position the
token specification delimits exactly that number (`isNum_literal`), so C04's `conversion_sees_literal_partial` applies.
Its hexadecimal-constant side condition (a literal "0" must not be followed by x / X) is discharged from the list being
well formed: every byte of a well-formed numeric list is a byte of a decimal literal, ',' or ':' (`numList_chars`).
-/
import ScpiVerif.Model.Expr
import ScpiVerif.Spec.ExprList
import ScpiVerif.Spec.Float
import ScpiVerif.Lemmas.ExprList
import ScpiVerif.Lemmas.Numeric

namespace ScpiVerif.Lemmas.ExprListDouble
open ScpiVerif ScpiVerif.Lexer ScpiVerif.Expr ScpiVerif.Spec ScpiVerif.Spec.ExprList
open ScpiVerif.Lemmas.Lexer
open ScpiVerif.Lemmas.ExprList (D IsNum D_le D_pos_facts numEntry_eq sepList sepList_some numList_eq numLoop_spec numericListEntry_eq)

/-- same as `Props.C04.literalAt` -/
def literalAt (s : Bytes) : Option Bytes := (specToken .decimal s).map (fun e => s.take e.consumed)

/-- same as `Props.C19.noInnerWs`: no blank or tab in the text -/
def noInnerWs (t : Bytes) : Bool := t.all (fun b => b != 32 && b != 9)

/-- the bytes a decimal literal is made of: sign, digit, point, blank / tab, e / E -/
def numCh (b : UInt8) : Bool := isPlusMn b || isDigit b || b == 46 || isWs b || isE b

/-- the bytes a well-formed numeric list is made of: those of its numbers, ',' and ':' -/
def listCh (b : UInt8) : Bool := numCh b || b == 44 || b == 58

theorem decimal_chars : Regex.reAll (fun b => numCh b = true) Spec.decimal := by
  simp only [Spec.decimal, Spec.mantissa, Spec.exponent, Spec.digits, Re.opt, Re.plus, Re.c, Regex.reAll, true_and]
  refine ⟨⟨?_, ⟨⟨?_, ?_⟩, ?_, ?_⟩, ?_, ?_, ?_⟩, ?_, ?_, ?_, ?_, ?_, ?_⟩ <;> intro b hb <;> simp [numCh, hb]

theorem listCh_no_x (b : UInt8) (h : listCh b = true) : b ≠ 120 ∧ b ≠ 88 := by
  constructor <;> (rintro rfl; exact absurd h (by decide))

theorem numCh_listCh {b : UInt8} (h : numCh b = true) : listCh b = true := by
  simp [listCh, h]

theorem literal_chars {s : Bytes} (h : 0 < D s) : ∀ b ∈ s.take (D s), numCh b = true :=
  Regex.matches_all (decimal_total_mem h).2 decimal_chars

theorem numEntry_chars {s : Bytes} {e : Spec.ExprList.NumEntry} {n : Nat} (h : numEntry s = some (e, n)) :
    ∀ b ∈ s.take n, listCh b = true := by
  rw [numEntry_eq] at h
  by_cases h1 : 0 < D s
  · simp only [h1, if_true] at h
    by_cases hc : hd (s.drop (D s)) (· == 58) = true
    · simp only [hc, if_true] at h
      by_cases h2 : 0 < D (s.drop (D s + 1))
      · simp only [h2, if_true, Option.some.injEq, Prod.mk.injEq] at h
        obtain ⟨_, rfl⟩ := h
        intro b hb
        rw [List.take_add, List.take_add] at hb
        rcases List.mem_append.1 hb with hb | hb
        · rcases List.mem_append.1 hb with hb | hb
          · exact numCh_listCh (literal_chars h1 b hb)
          · rw [hd_eq_cons hc] at hb
            simp only [List.take_succ_cons, List.take_zero, List.mem_singleton] at hb
            subst hb; rfl
        · exact numCh_listCh (literal_chars h2 b hb)
      · simp only [h2, if_false] at h
        cases h
    · simp only [hc, Bool.false_eq_true, if_false, Option.some.injEq, Prod.mk.injEq] at h
      obtain ⟨_, rfl⟩ := h
      intro b hb
      exact numCh_listCh (literal_chars h1 b hb)
  · simp only [h1, if_false] at h
    cases h

theorem numList_chars : ∀ (fuel : Nat) (s : Bytes) (es : List Spec.ExprList.NumEntry),
    sepList numEntry fuel s [] = some es → ∀ b ∈ s, listCh b = true := by
  intro fuel
  induction fuel with
  | zero => intro s es h; cases h
  | succ fuel ih =>
    intro s es h b hb
    obtain ⟨e, n, tl, hne, -, htl⟩ := sepList_some h
    rw [← List.take_append_drop n s] at hb
    rcases List.mem_append.1 hb with hb | hb
    · exact numEntry_chars hne b hb
    · rcases htl with ⟨he, -⟩ | ⟨hc, htl⟩
      · rw [he] at hb; cases hb
      · rw [hd_eq_cons hc] at hb
        rcases List.mem_cons.1 hb with rfl | hb
        · rfl
        · exact ih _ tl (by rw [List.drop_drop]; exact htl) b hb

theorem body_no_x {body : Bytes} {l : List Spec.ExprList.NumEntry} (h : parseNumList body = some l) :
    ∀ b ∈ body, b ≠ 120 ∧ b ≠ 88 :=
  fun b hb => listCh_no_x b (numList_chars _ body l ((numList_eq _ _ _).symm.trans h) b hb)

theorem isNum_literal {win : Bytes} {tok : Token} {text : Bytes} (h : IsNum win tok text) :
    literalAt (win.drop tok.ptr) = some text := by
  obtain ⟨p, rfl, h0, rfl⟩ := h
  rw [literalAt, specToken_decimal, if_pos h0, Option.map_some]

theorem isNum_head {win : Bytes} {tok : Token} {text : Bytes} (h : IsNum win tok text) :
    hd text (fun b => isPlusMn b || isDigit b || b == 46) = true := by
  obtain ⟨p, rfl, h0, rfl⟩ := h
  rw [hd_take fun _ => h0]
  exact (D_pos_facts h0).2

theorem noInnerWs_iff {t : Bytes} : noInnerWs t = true ↔ ∀ b ∈ t, b ≠ 32 ∧ b ≠ 9 := by
  simp [noInnerWs]

/-- the text handed to strtod for the token of a number without inner white space is that number, provided the
window contains no 'x' / 'X' (strtod's hexadecimal constants) -/
theorem isNum_double {win : Bytes} {tok : Token} {text : Bytes} (h : IsNum win tok text)
    (hx : ∀ b ∈ win, b ≠ 120 ∧ b ≠ 88) (hws : noInnerWs text = true) : tokDoubleText win tok = text := by
  have hlit := isNum_literal h
  obtain ⟨p, rfl, h0, rfl⟩ := h
  have hlen : ((win.drop p).take (D (win.drop p))).length = D (win.drop p) := by
    rw [List.length_take]; exact Nat.min_eq_left (D_le _)
  have hconv := Lemmas.Numeric.conversion_sees_literal_partial win p _ hlit (noInnerWs_iff.1 hws) (by
    intro _ b hb
    exact hx b (List.mem_of_mem_drop (List.mem_of_mem_head? hb)))
  unfold tokDoubleText
  simp only
  rw [hconv, hlen]

theorem numeric_entry_isNum (body : Bytes) (l : List Spec.ExprList.NumEntry) (h : parseNumList body = some l) (i : Nat)
    (e : Spec.ExprList.NumEntry) (he : l[i]? = some e) :
    IsNum body (numericListEntry body i).from_ e.from_ ∧
    ∀ t, e.to_ = some t → IsNum body (numericListEntry body i).to_ t := by
  have hs := numLoop_spec body i (body.length + 1) l 0 0 i (i + 2) none ⟨.unknown, 0, 0⟩ ⟨.unknown, 0, 0⟩
    ((numList_eq _ _ _).symm.trans h) (Nat.zero_add _).symm (by omega)
  rw [numericListEntry_eq]
  obtain ⟨_, _, h3, h4⟩ := hs.1 e he
  exact ⟨h3, h4⟩

theorem numeric_entry_double (body : Bytes) (l : List Spec.ExprList.NumEntry) (h : parseNumList body = some l) (i : Nat)
    (e : Spec.ExprList.NumEntry) (he : l[i]? = some e) :
    let r := numericListEntry body i
    (literalAt (body.drop r.from_.ptr) = some e.from_ ∧ (Spec.Float.litValue e.from_).isSome = true ∧
      (noInnerWs e.from_ = true → tokDoubleText body r.from_ = e.from_)) ∧
    (∀ t, e.to_ = some t →
      literalAt (body.drop r.to_.ptr) = some t ∧ (Spec.Float.litValue t).isSome = true ∧
      (noInnerWs t = true → tokDoubleText body r.to_ = t)) := by
  intro r
  obtain ⟨hf, ht⟩ := numeric_entry_isNum body l h i e he
  have hx := body_no_x h
  refine ⟨⟨isNum_literal hf, Lemmas.Numeric.literal_has_value _ _ (isNum_literal hf), isNum_double hf hx⟩, ?_⟩
  intro t het
  have := ht t het
  exact ⟨isNum_literal this, Lemmas.Numeric.literal_has_value _ _ (isNum_literal this), isNum_double this hx⟩

theorem numeric_entry_head (body : Bytes) (l : List Spec.ExprList.NumEntry) (h : parseNumList body = some l) (i : Nat)
    (e : Spec.ExprList.NumEntry) (he : l[i]? = some e) :
    (∃ b, e.from_.head? = some b ∧ (isPlusMn b || isDigit b || b == 46) = true) ∧
    ∀ t, e.to_ = some t → ∃ b, t.head? = some b ∧ (isPlusMn b || isDigit b || b == 46) = true := by
  obtain ⟨hf, ht⟩ := numeric_entry_isNum body l h i e he
  exact ⟨hd_exists (isNum_head hf), fun t het => hd_exists (isNum_head (ht t het))⟩

end ScpiVerif.Lemmas.ExprListDouble
