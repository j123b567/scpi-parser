/-
The calculus of the token layer, over `s = buf.drop pos`: `PM r s i`, the prefix of length `i` of `s` is in `r`, and `Greedy r q s n`,
`n` is the longest such prefix and a shorter one is followed by a byte of `q` (it passes through `seq`, `opt`, `star` when what
follows cannot start, `First`, with a byte of `q`).  A recogniser is closed as `lexX buf pos = found pos (specToken k (buf.drop pos))`
by naming the length `n` its scans compute and showing `PM re s m → m ≤ n`, `0 < n → PM re s n` (`found_plain`); `specToken_some` is
what the specification promises of any token it finds.  The namespace is `Lemmas.Lexer`, as in all the token modules.
-/
import ScpiVerif.Lemmas.Regex
import ScpiVerif.Lemmas.ByteScan

namespace ScpiVerif.Lemmas.Lexer
open ScpiVerif ScpiVerif.Lexer ScpiVerif.Spec ScpiVerif.Lemmas.Regex
open ScpiVerif.Spec.Re (opt plus nullable deriv longest)

theorem peekP_eq (buf : Bytes) (pos : Nat) (p : UInt8 → Bool) : peekP buf pos p = hd (buf.drop pos) p := by
  unfold peekP
  rw [← List.head?_drop]
  cases buf.drop pos <;> rfl

theorem getElem?_eq_head_drop (buf : Bytes) (pos : Nat) : buf[pos]? = (buf.drop pos).head? := by
  rw [List.head?_drop]

theorem skipWhile_eq (buf : Bytes) (p : UInt8 → Bool) (fuel pos : Nat) (h : buf.length - pos ≤ fuel) :
    skipWhile buf p fuel pos = pos + tw p (buf.drop pos) := by
  induction fuel generalizing pos with
  | zero =>
    have : buf.drop pos = [] := by simp; omega
    simp [skipWhile, this]
  | succ fuel ih =>
    rw [skipWhile, peekP_eq]
    by_cases hh : hd (buf.drop pos) p = true
    · rw [if_pos hh, ih (pos + 1) (by omega), tw_succ hh, drop_add]; omega
    · rw [if_neg hh]
      have : tw p (buf.drop pos) = 0 := tw_eq_zero_iff.2 (by simpa using hh)
      omega

theorem skipMany_eq (buf : Bytes) (pos : Nat) (p : UInt8 → Bool) :
    skipMany buf pos p = pos + tw p (buf.drop pos) := skipWhile_eq buf p _ pos (Nat.le_refl _)

theorem skipOne_eq (buf : Bytes) (pos : Nat) (p : UInt8 → Bool) :
    skipOne buf pos p = pos + (if hd (buf.drop pos) p = true then 1 else 0) := by
  unfold skipOne; rw [peekP_eq]; split <;> rfl

theorem skipChr_eq (buf : Bytes) (pos : Nat) (ch : UInt8) :
    skipChr buf pos ch = pos + (if hd (buf.drop pos) (· == ch) = true then 1 else 0) := skipOne_eq _ _ _

syntax "lex_rel" ("[" Lean.Parser.Tactic.simpLemma,* "]")? : tactic
macro_rules
  | `(tactic| lex_rel) => `(tactic| simp only [peekP_eq, skipMany_eq, skipOne_eq, skipChr_eq, skipWs, skipNumbers,
      skipAlpha, drop_add, mkTok])
  | `(tactic| lex_rel [$ts,*]) => `(tactic| simp only [peekP_eq, skipMany_eq, skipOne_eq, skipChr_eq, skipWs, skipNumbers,
      skipAlpha, drop_add, mkTok, $ts,*])

theorem iseos_eq (buf : Bytes) (pos : Nat) : iseos buf pos = decide ((buf.drop pos).length = 0) := by
  unfold iseos; simp; omega

theorem iseos_iff (w : Bytes) (p : Nat) : iseos w p = true ↔ w.drop p = [] := by
  rw [iseos_eq, decide_eq_true_iff, List.length_eq_zero_iff]

def PM (r : Re) (s : Bytes) (i : Nat) : Prop := i ≤ s.length ∧ Matches r (s.take i)

theorem PM_le {r : Re} {s : Bytes} {i : Nat} (h : PM r s i) : i ≤ s.length := h.1

theorem PM_empty {s : Bytes} {i : Nat} : PM .empty s i ↔ False := by
  simp [PM, matches_empty]

theorem PM_eps {s : Bytes} {i : Nat} : PM .eps s i ↔ i = 0 := by
  simp only [PM, matches_eps]
  constructor
  · rintro ⟨h1, h2⟩
    cases i with
    | zero => rfl
    | succ i => cases s <;> simp at h1 h2
  · rintro rfl; simp

theorem PM_zero {r : Re} {s : Bytes} : PM r s 0 ↔ r.nullable = true := by
  simp [PM, nullable_iff]

theorem PM_chr {p : UInt8 → Bool} {s : Bytes} {i : Nat} : PM (.chr p) s i ↔ i = 1 ∧ hd s p = true := by
  simp only [PM, matches_chr]
  constructor
  · rintro ⟨h1, b, h2, hb⟩
    cases s with
    | nil => simp at h2
    | cons d s =>
      cases i with
      | zero => simp at h2
      | succ i =>
        simp at h2
        obtain ⟨rfl, h3⟩ := h2
        refine ⟨?_, hb⟩
        cases i with
        | zero => rfl
        | succ i => cases s <;> simp at h3 h1
  · rintro ⟨rfl, h⟩
    obtain ⟨b, hb, hs⟩ := hd_cons_drop h
    rw [hs]
    exact ⟨by simp, b, by simp, hb⟩

theorem take_eq_append {s u t : Bytes} {m : Nat} (hm : m ≤ s.length) (h : s.take m = u ++ t) :
    u.length ≤ m ∧ u = s.take u.length ∧ t = (s.drop u.length).take (m - u.length) := by
  have hl : u.length + t.length = m := by
    have := congrArg List.length h
    simp at this; omega
  refine ⟨by omega, ?_, ?_⟩
  · have := congrArg (List.take u.length) h
    simp [List.take_take] at this
    rw [Nat.min_eq_left (by omega)] at this
    exact this.symm
  · have := congrArg (List.drop u.length) h
    simp [List.drop_take] at this
    exact this.symm

theorem PM_seq {a b : Re} {s : Bytes} {m : Nat} :
    PM (.seq a b) s m ↔ ∃ i j, m = i + j ∧ PM a s i ∧ PM b (s.drop i) j := by
  simp only [PM, matches_seq]
  constructor
  · rintro ⟨hm, u, t, h, h1, h2⟩
    obtain ⟨hu, e1, e2⟩ := take_eq_append hm h
    refine ⟨u.length, m - u.length, by omega, ⟨by omega, e1 ▸ h1⟩, by simp; omega, e2 ▸ h2⟩
  · rintro ⟨i, j, rfl, ⟨hi, h1⟩, ⟨hj, h2⟩⟩
    simp at hj
    exact ⟨by omega, _, _, List.take_add, h1, h2⟩

theorem PM_chr_seq {p : UInt8 → Bool} {b : Re} {s : Bytes} {m : Nat} :
    PM (.seq (.chr p) b) s m ↔ hd s p = true ∧ ∃ j, m = 1 + j ∧ PM b (s.drop 1) j := by
  rw [PM_seq]
  constructor
  · rintro ⟨i, j, rfl, hi, hj⟩
    obtain ⟨rfl, h⟩ := PM_chr.1 hi
    exact ⟨h, j, rfl, hj⟩
  · rintro ⟨h, j, rfl, hj⟩
    exact ⟨1, j, rfl, PM_chr.2 ⟨rfl, h⟩, hj⟩

theorem PM_alt {a b : Re} {s : Bytes} {m : Nat} : PM (.alt a b) s m ↔ PM a s m ∨ PM b s m := by
  simp only [PM, matches_alt]
  constructor
  · rintro ⟨h, h1 | h1⟩
    · exact .inl ⟨h, h1⟩
    · exact .inr ⟨h, h1⟩
  · rintro (⟨h, h1⟩ | ⟨h, h1⟩)
    · exact ⟨h, .inl h1⟩
    · exact ⟨h, .inr h1⟩

theorem PM_opt {a : Re} {s : Bytes} {m : Nat} : PM (opt a) s m ↔ m = 0 ∨ PM a s m := by
  unfold opt; rw [PM_alt, PM_eps]

theorem PM_star {a : Re} {s : Bytes} {m : Nat} :
    PM (.star a) s m ↔ m = 0 ∨ ∃ i j, m = i + j ∧ 0 < i ∧ PM a s i ∧ PM (.star a) (s.drop i) j := by
  constructor
  · rintro ⟨hm, h⟩
    rcases matches_star.1 h with h0 | ⟨u, t, h, hne, h1, h2⟩
    · left
      cases m with
      | zero => rfl
      | succ m => cases s <;> simp at hm h0
    · right
      obtain ⟨hu, e1, e2⟩ := take_eq_append hm h
      refine ⟨u.length, m - u.length, by omega, ?_, ⟨by omega, e1 ▸ h1⟩, by simp; omega, e2 ▸ h2⟩
      cases u with
      | nil => exact absurd rfl hne
      | cons => simp
  · rintro (rfl | ⟨i, j, rfl, _, ⟨hi, h1⟩, ⟨hj, h2⟩⟩)
    · exact ⟨by simp, by simpa using Matches.starNil⟩
    · simp at hj
      refine ⟨by omega, ?_⟩
      rw [List.take_add]
      exact .starCons h1 h2

theorem matches_star_chr {p : UInt8 → Bool} {u : Bytes} : Matches (.star (.chr p)) u ↔ u.all p = true := by
  induction u with
  | nil => simp; exact .starNil
  | cons c u ih =>
    constructor
    · intro h
      obtain ⟨s, t, rfl, h1, h2⟩ := matches_star_cons h
      obtain ⟨b, hb, hp⟩ := matches_chr.1 h1
      simp at hb
      obtain ⟨rfl, rfl⟩ := hb
      have h3 := ih.1 h2
      simp only [List.nil_append] at h3 ⊢
      simp only [List.all_cons, hp, h3]; rfl
    · intro h
      simp at h
      have h2 := ih.2 (by simpa using h.2)
      exact Matches.starCons (s := [c]) (.chr p c h.1) h2

theorem PM_star_chr {p : UInt8 → Bool} {s : Bytes} {i : Nat} : PM (.star (.chr p)) s i ↔ i ≤ tw p s := by
  simp only [PM, matches_star_chr]; exact all_take_iff

theorem PM_plus_chr {p : UInt8 → Bool} {s : Bytes} {i : Nat} :
    PM (plus (.chr p)) s i ↔ 1 ≤ i ∧ i ≤ tw p s := by
  unfold plus
  rw [PM_seq]
  constructor
  · rintro ⟨a, b, rfl, h1, h2⟩
    rw [PM_chr] at h1
    rw [PM_star_chr] at h2
    obtain ⟨rfl, hh⟩ := h1
    rw [tw_succ hh]; omega
  · rintro ⟨h1, h2⟩
    have hh : hd s p = true := tw_pos_iff.1 (by omega)
    refine ⟨1, i - 1, by omega, PM_chr.2 ⟨rfl, hh⟩, PM_star_chr.2 ?_⟩
    rw [tw_succ hh] at h2; omega

/-- inside a match every byte is of the expression's alphabet -/
theorem PM_inside {c : UInt8 → Bool} {r : Re} {s : Bytes} {n m : Nat} (h : PM r s n) (hr : reAll (c · = true) r)
    (hm : m < n) : hd (s.drop m) c = true := by
  have hlt : m < s.length := by have := h.1; omega
  have := matches_all h.2 hr s[m] (List.mem_take_iff_getElem.2 ⟨m, by omega, rfl⟩)
  rw [List.drop_eq_getElem_cons hlt]; exact this

theorem PM_last {c : UInt8 → Bool} {r : Re} {s : Bytes} {n : Nat} (h : PM r s n) (hr : reAll (c · = true) r)
    (hn : 0 < n) : hd (s.drop (n - 1)) c = true :=
  PM_inside h hr (Nat.sub_lt hn Nat.one_pos)

def First (r : Re) (f : UInt8 → Bool) : Prop := ∀ t j, PM r t j → 0 < j → hd t f = true

namespace First
variable {a b : Re} {p f f' : UInt8 → Bool}

theorem mono (hf : ∀ c, f c = true → f' c = true) (h : First a f) : First a f' :=
  fun t j hj hpos => hd_imp hf (h t j hj hpos)

theorem chr : First (.chr p) p := fun _ _ hj _ => (PM_chr.1 hj).2

theorem chr_seq : First (.seq (.chr p) b) p := fun _ _ hj _ => by
  obtain ⟨i, _, _, hi, _⟩ := PM_seq.1 hj
  exact (PM_chr.1 hi).2

theorem plus_chr_seq : First (.seq (plus (.chr p)) b) p := fun _ _ hj _ => by
  obtain ⟨i, _, _, hi, _⟩ := PM_seq.1 hj
  exact tw_pos_iff.1 (by have := PM_plus_chr.1 hi; omega)

theorem seq (ha : First a f) (hb : First b f) : First (.seq a b) f := fun t j hj hpos => by
  obtain ⟨i, k, rfl, hi, hk⟩ := PM_seq.1 hj
  rcases Nat.eq_zero_or_pos i with rfl | h
  · exact hb _ _ hk (by omega)
  · exact ha _ _ hi h

theorem seq_left (hn : a.nullable = false) (ha : First a f) : First (.seq a b) f := fun t j hj _ => by
  obtain ⟨i, _, _, hi, _⟩ := PM_seq.1 hj
  exact ha _ _ hi (Nat.pos_of_ne_zero fun h0 => by subst h0; rw [PM_zero.1 hi] at hn; cases hn)

theorem alt (ha : First a f) (hb : First b f) : First (.alt a b) f := fun t j hj hpos =>
  (PM_alt.1 hj).elim (fun h => ha t j h hpos) (fun h => hb t j h hpos)

theorem opt (ha : First a f) : First (Re.opt a) f := fun t j hj hpos => by
  rcases PM_opt.1 hj with rfl | h
  · omega
  · exact ha _ _ h hpos

theorem star (ha : First a f) : First (.star a) f := fun t j hj hpos => by
  rcases PM_star.1 hj with rfl | ⟨i, _, _, hi, h, _⟩
  · omega
  · exact ha _ _ h hi

theorem eq_zero (h : First a f) {t : Bytes} {j : Nat} (ht : hd t f = false) (hj : PM a t j) : j = 0 := by
  rcases Nat.eq_zero_or_pos j with h0 | h0
  · exact h0
  · rw [h _ _ hj h0] at ht; cases ht

theorem hd (h : First a f) (hn : a.nullable = false) (t : Bytes) (j : Nat) (hj : PM a t j) : Lexer.hd t f = true :=
  h t j hj (Nat.pos_of_ne_zero fun h0 => by subst h0; rw [PM_zero.1 hj] at hn; cases hn)
end First

/-- `stop`: a shorter match is followed by a byte of `q`, which is what makes greedy right when what follows `r` cannot start
with one -/
structure Greedy (r : Re) (q : UInt8 → Bool) (s : Bytes) (n : Nat) : Prop where
  mem : PM r s n
  stop : ∀ m, PM r s m → m ≤ n ∧ (m < n → hd (s.drop m) q = true)

namespace Greedy
variable {r a b : Re} {p q q' f : UInt8 → Bool} {s : Bytes} {n L : Nat}

theorem le (h : Greedy r q s n) {m : Nat} (hm : PM r s m) : m ≤ n := (h.stop m hm).1

theorem mono (hq : ∀ c, q c = true → q' c = true) (h : Greedy r q s n) : Greedy r q' s n :=
  ⟨h.mem, fun m hm => ⟨h.le hm, fun hlt => hd_imp hq ((h.stop m hm).2 hlt)⟩⟩

theorem star_chr : Greedy (.star (.chr p)) p s (tw p s) :=
  ⟨PM_star_chr.2 (Nat.le_refl _), fun _ hm => ⟨PM_star_chr.1 hm, hd_drop_of_lt_tw⟩⟩

theorem plus_chr (h : hd s p = true) : Greedy (plus (.chr p)) p s (tw p s) :=
  ⟨PM_plus_chr.2 ⟨tw_pos_iff.2 h, Nat.le_refl _⟩, fun _ hm => ⟨(PM_plus_chr.1 hm).2, hd_drop_of_lt_tw⟩⟩

theorem opt_none (h : ∀ j, PM a s j → j = 0) : Greedy (Re.opt a) q s 0 :=
  ⟨PM_opt.2 (.inl rfl), fun m hm => by
    have : m = 0 := (PM_opt.1 hm).elim id (h m)
    omega⟩

theorem opt (h : Greedy a q s n) (h0 : 0 < n → hd s q = true) : Greedy (Re.opt a) q s n :=
  ⟨PM_opt.2 (.inr h.mem), fun m hm => by
    rcases PM_opt.1 hm with rfl | hm
    · exact ⟨Nat.zero_le _, h0⟩
    · exact h.stop m hm⟩

theorem opt_chr : Greedy (Re.opt (.chr p)) p s (if hd s p = true then 1 else 0) := by
  split
  · rename_i h
    exact opt ⟨PM_chr.2 ⟨rfl, h⟩, fun m hm => by simp [(PM_chr.1 hm).1]⟩ (fun _ => h)
  · exact opt_none fun j hj => absurd (PM_chr.1 hj).2 ‹_›

/-- `b` cannot start where `a` stops early: the greedy lengths add up -/
theorem seq (ha : Greedy a q s n) (hb : Greedy b q' (s.drop n) L) (hf : First b f)
    (hqf : ∀ c, q c = true → f c = false) (hqq : ∀ c, q c = true → q' c = true) :
    Greedy (.seq a b) q' s (n + L) := by
  refine ⟨PM_seq.2 ⟨n, L, rfl, ha.mem, hb.mem⟩, fun m hm => ?_⟩
  obtain ⟨i, j, rfl, hi, hj⟩ := PM_seq.1 hm
  obtain ⟨h1, h2⟩ := ha.stop i hi
  rcases Nat.lt_or_ge i n with hlt | hge
  · obtain rfl := hf.eq_zero (hd_disj hqf (h2 hlt)) hj
    exact ⟨by omega, fun _ => hd_imp hqq (h2 hlt)⟩
  · obtain rfl : i = n := by omega
    obtain ⟨h3, h4⟩ := hb.stop j hj
    refine ⟨by omega, fun hlt => ?_⟩
    have := h4 (by omega)
    rwa [List.drop_drop] at this

theorem chr_seq (h : hd s p = true) (hb : Greedy b q (s.drop 1) L) : Greedy (.seq (.chr p) b) q s (1 + L) := by
  refine ⟨PM_seq.2 ⟨1, L, rfl, PM_chr.2 ⟨rfl, h⟩, hb.mem⟩, fun m hm => ?_⟩
  obtain ⟨i, j, rfl, hi, hj⟩ := PM_seq.1 hm
  obtain ⟨rfl, _⟩ := PM_chr.1 hi
  obtain ⟨h3, h4⟩ := hb.stop j hj
  refine ⟨by omega, fun hlt => ?_⟩
  have := h4 (by omega)
  rwa [List.drop_drop] at this

theorem seq_iff (ha : Greedy a q s n) (hb : ∀ t j, PM b t j → hd t f = true)
    (hqf : ∀ c, q c = true → f c = false) {m : Nat} :
    PM (.seq a b) s m ↔ ∃ j, m = n + j ∧ PM b (s.drop n) j := by
  refine ⟨fun h => ?_, fun ⟨j, e, h⟩ => PM_seq.2 ⟨n, j, e, ha.mem, h⟩⟩
  obtain ⟨i, j, rfl, hi, hj⟩ := PM_seq.1 h
  obtain ⟨h1, h2⟩ := ha.stop i hi
  rcases Nat.lt_or_ge i n with hlt | hge
  · have := hb _ _ hj
    rw [hd_disj hqf (h2 hlt)] at this; cases this
  · obtain rfl : i = n := by omega
    exact ⟨j, rfl, hj⟩

theorem star_nil (h : ∀ j, PM a s j → j = 0) : Greedy (.star a) q s 0 :=
  ⟨PM_star.2 (.inl rfl), fun m hm => by
    rcases PM_star.1 hm with rfl | ⟨i, j, rfl, hi, h1, _⟩
    · omega
    · have := h i h1; omega⟩

/-- one round of a loop; `hfq`: the empty word is followed by the item's first byte -/
theorem star_cons (ha : Greedy a q s n) (hn : 0 < n) (hL : Greedy (.star a) q' (s.drop n) L) (hf : First a f)
    (hqf : ∀ c, q c = true → f c = false) (hqq : ∀ c, q c = true → q' c = true)
    (hfq : ∀ c, f c = true → q' c = true) : Greedy (.star a) q' s (n + L) := by
  refine ⟨PM_star.2 (.inr ⟨n, L, rfl, hn, ha.mem, hL.mem⟩), fun m hm => ?_⟩
  rcases PM_star.1 hm with rfl | ⟨i, j, rfl, hi, h1, h2⟩
  · exact ⟨Nat.zero_le _, fun _ => hd_imp hfq (hf _ _ ha.mem hn)⟩
  · exact (seq ha hL hf.star hqf hqq).stop _ (PM_seq.2 ⟨i, j, rfl, h1, h2⟩)

end Greedy

theorem longest_eq_some {r : Re} {s : Bytes} {n : Nat} (h1 : PM r s n) (h2 : ∀ m, PM r s m → m ≤ n) :
    r.longest s = some n := by
  rw [longest_is_longest]
  refine ⟨h1.1, h1.2, ?_⟩
  intro m hm hm2 hM
  have := h2 m ⟨hm2, hM⟩
  omega

theorem longest_eq_none {r : Re} {s : Bytes} (h : ∀ m, ¬ PM r s m) : r.longest s = none := by
  rw [longest_none]
  intro m hm hM
  exact h m ⟨hm, hM⟩

theorem longest_some_PM {r : Re} {s : Bytes} {n : Nat} (h : r.longest s = some n) :
    PM r s n ∧ ∀ m, PM r s m → m ≤ n := by
  rw [longest_is_longest] at h
  refine ⟨⟨h.1, h.2.1⟩, ?_⟩
  intro m hm
  apply Nat.le_of_not_lt
  intro hlt
  exact h.2.2 m hlt hm.1 hm.2

theorem longest_le_of_bound {r : Re} {s : Bytes} {n : Nat} (h : ∀ m, PM r s m → m ≤ n) :
    ∀ k, r.longest s = some k → k ≤ n := fun k hk => h k (longest_some_PM hk).1

theorem longest_none_PM {r : Re} {s : Bytes} (h : r.longest s = none) (m : Nat) : ¬ PM r s m := by
  rw [longest_none] at h
  intro hm
  exact h m hm.1 hm.2

theorem longest_no_pos {r : Re} {s : Bytes} (h : ∀ m, 0 < m → ¬ PM r s m) :
    r.longest s = none ∨ r.longest s = some 0 := by
  cases hl : r.longest s with
  | none => exact .inl rfl
  | some k =>
    right
    have := (longest_some_PM hl).1
    cases k with
    | zero => rfl
    | succ k => exact absurd this (h _ (by omega))

theorem longest_le {r : Re} {s : Bytes} {n : Nat} (h : r.longest s = some n) : n ≤ s.length :=
  PM_le (longest_some_PM h).1

/-- the local `plain` of `specToken` -/
def plainSpec (r : Re) (ty : TokType) (s : Bytes) : Option Expect :=
  match r.longest s with
  | some n => if n > 0 then some (Expect.mk n ty 0 n) else none
  | none => none

theorem plainSpec_some {r : Re} {ty : TokType} {s : Bytes} {n : Nat} (hn : 0 < n) (h1 : PM r s n)
    (h2 : ∀ m, PM r s m → m ≤ n) : plainSpec r ty s = some ⟨n, ty, 0, n⟩ := by
  unfold plainSpec; rw [longest_eq_some h1 h2]; simp [hn]

theorem plainSpec_none {r : Re} {ty : TokType} {s : Bytes} (h : ∀ m, 0 < m → ¬ PM r s m) :
    plainSpec r ty s = none := by
  unfold plainSpec
  rcases longest_no_pos h with h | h <;> rw [h] <;> simp

theorem plainSpec_eq {r : Re} {ty : TokType} {s : Bytes} (n : Nat) (hmax : ∀ m, PM r s m → m ≤ n)
    (hmem : 0 < n → PM r s n) : plainSpec r ty s = if 0 < n then some ⟨n, ty, 0, n⟩ else none := by
  split
  · exact plainSpec_some ‹_› (hmem ‹_›) hmax
  · exact plainSpec_none fun m hm hP => by have := hmax m hP; omega

theorem plainSpec_cases {r : Re} {ty : TokType} {s : Bytes} {e : Expect} (h : plainSpec r ty s = some e) :
    ∃ n, e = ⟨n, ty, 0, n⟩ ∧ 0 < n ∧ PM r s n ∧ ∀ m, PM r s m → m ≤ n := by
  unfold plainSpec at h
  split at h
  · split at h
    · cases h; exact ⟨_, rfl, ‹_›, longest_some_PM ‹_›⟩
    · cases h
  · cases h

theorem plainSpec_PM {r : Re} {ty : TokType} {s : Bytes} {n : Nat} (h : plainSpec r ty s = some ⟨n, ty, 0, n⟩) :
    0 < n ∧ PM r s n ∧ ∀ m, PM r s m → m ≤ n := by
  obtain ⟨_, ⟨⟩, h⟩ := plainSpec_cases h
  exact h

theorem pdata_orElse_some {α : Type} {a : Option α} {f : _root_.Unit → Option α} {e : α}
    (h : a.orElse f = some e) : a = some e ∨ f () = some e := by
  cases a with
  | none => exact .inr h
  | some x => exact .inl h

theorem pdata_longestString_pos {q : UInt8} {s : Bytes} {n : Nat} (h : longestString q s = some n) : 0 < n := by
  unfold longestString at h
  have hm := List.mem_of_getLast? h
  simp only [List.mem_filter, Bool.and_eq_true] at hm
  have hacc := (accepts_iff_matches _ _).1 hm.2.1
  unfold quoted at hacc
  rw [matches_seq] at hacc
  obtain ⟨u, t, hut, hu, _⟩ := hacc
  obtain ⟨b, rfl, _⟩ := matches_chr.1 hu
  cases n with
  | zero => simp at hut
  | succ n => omega

/- The verdicts of the block, the header's choice among its three languages and one radix of the nondecimal number are analysed
here, not in LexBlock, LexHeader and LexPlain, which use them: `specToken_some` needs them. -/

theorem block_digit_le (d : UInt8) (h : isDigit d = true) : d.toNat - 48 ≤ 9 := by
  have := ByteClass.isDigit_toNat h
  omega

theorem block_digit_pos (d : UInt8) (h : isDigit d = true) (h2 : (d != 48) = true) : 1 ≤ d.toNat - 48 := by
  have := ByteClass.isDigit_toNat h
  have : d.toNat ≠ 48 := fun e => bne_iff_ne.1 h2 (UInt8.toNat_inj.1 e)
  omega


theorem block_foldl_bound (ds : Bytes) (acc : Nat) (h : ds.all isDigit = true) :
    ds.foldl (fun a b => a * 10 + (b.toNat - 48)) acc + 1 ≤ (acc + 1) * 10 ^ ds.length := by
  induction ds generalizing acc with
  | nil => simp
  | cons b t ih =>
    simp at h
    have hb := block_digit_le b h.1
    have := ih (acc * 10 + (b.toNat - 48)) (by simpa using h.2)
    simp only [List.foldl_cons, List.length_cons]
    calc _ ≤ (acc*10 + (b.toNat-48) + 1) * 10^t.length := this
      _ ≤ ((acc+1) * 10) * 10^t.length := Nat.mul_le_mul_right _ (by omega)
      _ = _ := by rw [Nat.pow_succ, Nat.mul_assoc, Nat.mul_comm 10]

theorem block_specBlock_nohash {s : Bytes} (h : hd s (· == 35) = false) : specBlock s = .invalid := by
  unfold specBlock
  split
  · simp at h
  · rfl

theorem block_specBlock_hash (d : UInt8) (rest2 : Bytes) :
    specBlock (35 :: d :: rest2) =
      if (isDigit d && d != 48) = true then
        if d.toNat - 48 ≤ tw isDigit rest2 then
          if natOfDigits (rest2.take (d.toNat - 48)) + (d.toNat - 48) ≤ rest2.length
          then .valid (2 + (d.toNat - 48)) (natOfDigits (rest2.take (d.toNat - 48))) else .incomplete
        else if rest2.length ≤ tw isDigit rest2 then .incomplete else .invalid
      else .invalid := by
  -- the two tests on the length digits compare `min (d.toNat - 48) rest2.length` with the digit run and with `d.toNat - 48`
  simp only [specBlock, all_take_min_iff, List.length_take]
  have htw := tw_le_length isDigit rest2
  split
  · by_cases h1 : d.toNat - 48 ≤ tw isDigit rest2
    · rw [if_pos (by omega), if_pos (by omega), if_pos h1]
      exact ite_congr (propext (by omega)) (fun _ => rfl) fun _ => rfl
    · rw [if_neg h1]
      by_cases h2 : rest2.length ≤ tw isDigit rest2
      · rw [if_pos (by omega), if_neg (by omega), if_pos h2]
      · rw [if_neg (by omega), if_neg h2]
  · rfl


/-- 999 999 999: at most nine length digits -/
theorem block_valid {s : Bytes} {hl n : Nat} (h : specBlock s = .valid hl n) :
    2 ≤ hl ∧ hl + n ≤ s.length ∧ n ≤ 999999999 := by
  match s with
  | [] => cases h
  | [b] => by_cases hb : b = 35 <;> simp [specBlock, hb] at h
  | b :: d :: rest2 =>
    by_cases hb : b = 35
    · subst hb
      rw [block_specBlock_hash] at h
      split at h
      · rename_i hdig
        split at h
        · rename_i hk
          split at h
          · cases h
            have hb := block_foldl_bound _ 0 (all_take_iff.2 hk).2
            have hl : (rest2.take (d.toNat - 48)).length ≤ 9 := by
              have := block_digit_le d (by simp at hdig; exact hdig.1)
              rw [List.length_take]; omega
            have := Nat.pow_le_pow_right (n := 10) (by omega) hl
            refine ⟨by omega, by simp only [List.length_cons]; omega, ?_⟩
            unfold natOfDigits; omega
          · cases h
        · split at h <;> cases h
      · cases h
    · rw [block_specBlock_nohash (by simp [hb])] at h; cases h

def header_sel (s : Bytes) (comp incC incP : Option Nat) : Option Expect :=
  let best := [comp, incC, incP].filterMap id |>.foldl max 0
  if best = 0 then none
  else if comp == some best then
    let isCommon := s.head? == some 42
    let isQuery := s[best - 1]? == some 63
    some ⟨best, if isCommon then (if isQuery then .commonQueryHeader else .commonHeader)
                else (if isQuery then .compoundQueryHeader else .compoundHeader), 0, best⟩
  else if incC == some best then some ⟨best, .incompleteCommonHeader, 0, best⟩
  else some ⟨best, .incompleteCompoundHeader, 0, best⟩

theorem header_spec_sel (s : Bytes) :
    specToken .header s = header_sel s (headerComplete.longest s) (headerIncompleteCommon.longest s)
      (headerIncompleteCompound.longest s) := rfl

structure TokenOk (s : Bytes) (e : Expect) : Prop where
  pos : 0 < e.consumed
  known : e.type ≠ .unknown
  valid : e.type ≠ .invalid
  payload : e.payloadOff + e.payloadLen ≤ e.consumed
  inside : e.consumed ≤ s.length

theorem plainSpec_ok {re : Re} {ty : TokType} {s : Bytes} {e : Expect} (h1 : ty ≠ .unknown) (h2 : ty ≠ .invalid)
    (h : plainSpec re ty s = some e) : TokenOk s e := by
  obtain ⟨n, rfl, h0, hP, -⟩ := plainSpec_cases h
  exact ⟨h0, h1, h2, Nat.le_of_eq (Nat.zero_add _), hP.1⟩

theorem single_ok {s : Bytes} {ch : UInt8} {ty : TokType} {e : Expect} (h1 : ty ≠ .unknown) (h2 : ty ≠ .invalid)
    (h : single s ch ty = some e) : TokenOk s e := by
  unfold single at h
  split at h
  · cases h
    exact ⟨Nat.one_pos, h1, h2, Nat.le_refl _, hd_length (hd_eq_iff_head?.2 (eq_of_beq ‹_›))⟩
  · cases h

/-- one radix of the nondecimal number -/
def numRe (pc pd : UInt8 → Bool) : Re := .seq (Re.c 35) (.seq (.chr pc) (plus (.chr pd)))

theorem PM_numRe {pc pd : UInt8 → Bool} {s : Bytes} {m : Nat} :
    PM (numRe pc pd) s m ↔ hd s (· == 35) = true ∧ hd (s.drop 1) pc = true ∧
      3 ≤ m ∧ m ≤ 2 + tw pd ((s.drop 1).drop 1) := by
  unfold numRe Re.c
  simp only [PM_chr_seq, PM_plus_chr]
  constructor
  · rintro ⟨h1, _, rfl, h2, _, rfl, h3⟩; exact ⟨h1, h2, by omega, by omega⟩
  · rintro ⟨h1, h2, h3, h4⟩; exact ⟨h1, m - 1, by omega, h2, m - 2, by omega, by omega, by omega⟩

structure Picked (pd : UInt8 → Bool) (ty : TokType) (s : Bytes) (e : Expect) : Prop where
  type : e.type = ty
  off : e.payloadOff = 2
  len : 0 < e.payloadLen
  consumed : e.consumed = 2 + e.payloadLen
  digit : hd (s.drop 2) pd = true
  inside : e.consumed ≤ s.length

/-- the hypothesis is the local `pick` of `specToken .nondecimal` at one radix -/
theorem pick_some {pc pd : UInt8 → Bool} {ty : TokType} {s : Bytes} {e : Expect}
    (h : (match (numRe pc pd).longest s with
      | some n => some (Expect.mk n ty 2 (n - 2))
      | none => none) = some e) : Picked pd ty s e := by
  split at h
  · rename_i n hn
    cases h
    obtain ⟨-, -, h3, h4⟩ := PM_numRe.1 (longest_some_PM hn).1
    rw [List.drop_drop] at h4
    exact ⟨rfl, rfl, by simp only; omega, by simp only; omega, tw_pos_iff.1 (show 0 < tw pd (s.drop (1 + 1)) by omega),
      longest_le hn⟩
  · cases h

theorem pick_ok {pc pd : UInt8 → Bool} {ty : TokType} {s : Bytes} {e : Expect} (h1 : ty ≠ .unknown) (h2 : ty ≠ .invalid)
    (h : (match (numRe pc pd).longest s with
      | some n => some (Expect.mk n ty 2 (n - 2))
      | none => none) = some e) : TokenOk s e := by
  have p := pick_some h
  have := p.off
  have := p.len
  have := p.consumed
  exact ⟨by omega, p.type ▸ h1, p.type ▸ h2, by omega, p.inside⟩

theorem longestString_ok {q : UInt8} {s : Bytes} {n : Nat} {ty : TokType} (h1 : ty ≠ .unknown) (h2 : ty ≠ .invalid)
    (h : longestString q s = some n) : TokenOk s ⟨n, ty, 0, n⟩ := by
  refine ⟨pdata_longestString_pos h, h1, h2, Nat.le_of_eq (Nat.zero_add _), ?_⟩
  have hm := List.mem_of_getLast? h
  simp only [List.mem_filter, List.mem_range] at hm
  simp only; omega

theorem block_ok {s : Bytes} {hl n : Nat} (h : specBlock s = .valid hl n) : TokenOk s ⟨hl + n, .block, hl, n⟩ := by
  have := block_valid h
  exact ⟨by simp only; omega, by simp, by simp, Nat.le_refl _, this.2.1⟩

structure HeaderSel (comp incC incP : Option Nat) (e : Expect) : Prop where
  pos : 0 < e.consumed
  known : e.type ≠ .unknown
  valid : e.type ≠ .invalid
  off : e.payloadOff = 0
  len : e.payloadLen = e.consumed
  alt : comp = some e.consumed ∨ incC = some e.consumed ∨ incP = some e.consumed

/-- the largest of some candidates, as `header_sel` takes it, is one of them unless it is 0 -/
theorem best_mem (l : List (Option Nat)) :
    List.foldl max 0 (l.filterMap id) = 0 ∨ some (List.foldl max 0 (l.filterMap id)) ∈ l := by
  rw [List.foldl_max, Nat.zero_max]
  cases h : (l.filterMap id).max? with
  | none => exact .inl rfl
  | some m =>
    obtain ⟨o, ho, rfl⟩ := List.mem_filterMap.1 (List.max?_mem h)
    exact .inr ho

theorem header_sel_cases {s : Bytes} {comp incC incP : Option Nat} {e : Expect}
    (h : header_sel s comp incC incP = some e) : HeaderSel comp incC incP e := by
  unfold header_sel at h
  have hb := best_mem [comp, incC, incP]
  generalize List.foldl max 0 _ = best at h hb
  dsimp only at h
  by_cases h0 : best = 0
  · rw [if_pos h0] at h; cases h
  rw [if_neg h0] at h
  -- the token has the length `best` whichever language supplied it; the cascade only chooses the type
  have halt : comp = some best ∨ incC = some best ∨ incP = some best := by
    simpa [eq_comm] using hb.resolve_left h0
  have hpos : 0 < best := Nat.pos_of_ne_zero h0
  by_cases h1 : (comp == some best) = true
  · rw [if_pos h1] at h; cases h
    refine ⟨hpos, ?_, ?_, rfl, rfl, halt⟩ <;> simp only <;> split <;> split <;> simp
  · rw [if_neg h1] at h
    split at h <;> cases h <;> exact ⟨hpos, by simp, by simp, rfl, rfl, halt⟩

theorem specToken_some {k : Kind} {s : Bytes} {e : Expect} (h : specToken k s = some e) : TokenOk s e := by
  cases k with
  | ws => exact plainSpec_ok (re := wsRe) (by decide) (by decide) h
  | chr => exact plainSpec_ok (re := mnemonic) (by decide) (by decide) h
  | decimal => exact plainSpec_ok (re := decimal) (by decide) (by decide) h
  | suffix => exact plainSpec_ok (re := suffix) (by decide) (by decide) h
  | expression => exact plainSpec_ok (re := expression) (by decide) (by decide) h
  | nl => exact plainSpec_ok (re := newline) (by decide) (by decide) h
  | comma => exact single_ok (by decide) (by decide) h
  | semicolon => exact single_ok (by decide) (by decide) h
  | colon => exact single_ok (by decide) (by decide) h
  | specific ch => exact single_ok (by decide) (by decide) h
  | nondecimal =>
    simp only [specToken] at h
    rcases pdata_orElse_some h with h | h
    · exact pick_ok (by decide) (by decide) h
    rcases pdata_orElse_some h with h | h <;> exact pick_ok (by decide) (by decide) h
  | string =>
    simp only [specToken] at h
    split at h
    · cases h; exact longestString_ok (by decide) (by decide) ‹_›
    · split at h
      · cases h; exact longestString_ok (by decide) (by decide) ‹_›
      · cases h
  | block =>
    simp only [specToken] at h
    split at h
    · cases h; exact block_ok ‹_›
    · cases h
  | header =>
    rw [header_spec_sel] at h
    have hs := header_sel_cases h
    exact ⟨hs.pos, hs.known, hs.valid, by have := hs.off; have := hs.len; omega,
      by rcases hs.alt with g | g | g <;> exact longest_le g⟩

/-- what a recogniser returns at `pos` when the specification finds `o` there (all but the block, which may swallow the input) -/
def found (pos : Nat) : Option Expect → Nat × Token × Int
  | some e => (pos + e.consumed, ⟨e.type, pos + e.payloadOff, e.payloadLen⟩, (e.consumed : Int))
  | none => (pos, ⟨.unknown, pos, 0⟩, 0)

theorem agrees_found {k : Kind} (buf : Bytes) (pos : Nat) (hk : k ≠ .block) :
    Agrees k buf pos (found pos (specToken k (buf.drop pos))) := by
  unfold Agrees
  cases he : specToken k (buf.drop pos) with
  | none => rw [if_neg (fun h => hk h.1)]; exact ⟨rfl, rfl, rfl, rfl⟩
  | some e =>
    have hp := (specToken_some he).pos
    have hi := (specToken_some he).inside
    simp only [List.length_drop] at hi
    exact ⟨rfl, rfl, rfl, by omega⟩

theorem pdata_agrees_some {k : Kind} {buf : Bytes} {pos : Nat} {r : Nat × Token × Int} {e : Expect}
    (h : Agrees k buf pos r) (he : specToken k (buf.drop pos) = some e) :
    r.1 = pos + e.consumed ∧ r.2.2 = e.consumed ∧ r.2.1 = ⟨e.type, pos + e.payloadOff, e.payloadLen⟩ ∧
      pos + e.consumed ≤ buf.length := by
  unfold Agrees at h
  rw [he] at h
  exact h

theorem pdata_agrees_none {k : Kind} {buf : Bytes} {pos : Nat} {r : Nat × Token × Int}
    (h : Agrees k buf pos r) (he : specToken k (buf.drop pos) = none) :
    r.2.2 = 0 ∧ r.2.1.type = .unknown ∧ r.2.1.len = 0 ∧
      r.1 = (if k = .block ∧ specBlock (buf.drop pos) = .incomplete then buf.length else pos) := by
  unfold Agrees at h
  rw [he] at h
  exact h

theorem lexOneChar_eq (buf : Bytes) (pos : Nat) (ch : UInt8) (ty : TokType) :
    lexOneChar buf pos ch ty =
      if hd (buf.drop pos) (· == ch) = true then (pos + 1, ⟨ty, pos, 1⟩, 1) else (pos, ⟨.unknown, pos, 0⟩, 0) := by
  unfold lexOneChar; rw [peekP_eq]; rfl

theorem oneChar_eq (k : Kind) (buf : Bytes) (pos : Nat) (ch : UInt8) (ty : TokType)
    (hk : specToken k (buf.drop pos) = single (buf.drop pos) ch ty) :
    lexOneChar buf pos ch ty = found pos (specToken k (buf.drop pos)) := by
  rw [hk, lexOneChar_eq]
  unfold single
  by_cases hh : hd (buf.drop pos) (· == ch) = true
  · rw [if_pos hh, if_pos (beq_iff_eq.2 (hd_eq_iff_head?.1 hh))]; rfl
  · rw [if_neg hh, if_neg (fun h => hh (hd_eq_iff_head?.2 (eq_of_beq h)))]; rfl

theorem comma_eq (buf : Bytes) (pos : Nat) : lexComma buf pos = found pos (specToken .comma (buf.drop pos)) :=
  oneChar_eq _ _ _ _ _ rfl
theorem semicolon_eq (buf : Bytes) (pos : Nat) : lexSemicolon buf pos = found pos (specToken .semicolon (buf.drop pos)) :=
  oneChar_eq _ _ _ _ _ rfl
theorem colon_eq (buf : Bytes) (pos : Nat) : lexColon buf pos = found pos (specToken .colon (buf.drop pos)) :=
  oneChar_eq _ _ _ _ _ rfl
theorem specific_eq (buf : Bytes) (pos : Nat) (ch : UInt8) :
    lexSpecific buf pos ch = found pos (specToken (.specific ch) (buf.drop pos)) := oneChar_eq _ _ _ _ _ rfl

theorem found_closed (pos n : Nat) (ty : TokType) :
    found pos (if 0 < n then some ⟨n, ty, 0, n⟩ else none) =
      (pos + n, Token.mk (if n > 0 then ty else .unknown) pos n, (n : Int)) := by
  by_cases hn : 0 < n
  · simp [found, hn]
  · obtain rfl : n = 0 := by omega
    rfl

theorem found_plain {k : Kind} {re : Re} {ty : TokType} {s : Bytes} (hk : specToken k s = plainSpec re ty s)
    (n : Nat) (hmax : ∀ m, PM re s m → m ≤ n) (hmem : 0 < n → PM re s n) (pos : Nat) :
    found pos (specToken k s) = (pos + n, Token.mk (if n > 0 then ty else .unknown) pos n, (n : Int)) := by
  rw [hk, plainSpec_eq n hmax hmem, found_closed]

theorem plain_result_eq {pos p n : Nat} {ty : TokType} (hp : p = pos + n) :
    (p, Token.mk (if ((p : Int) - pos) > 0 then ty else .unknown) pos ((p : Int) - pos), (p : Int) - pos) =
      (pos + n, Token.mk (if n > 0 then ty else .unknown) pos n, (n : Int)) := by
  subst hp
  have e : ((pos + n : Nat) : Int) - pos = n := by omega
  rw [e]; simp

/-- `plain_result_eq` for a recogniser that resets its cursor when it has found nothing -/
theorem plain_result_eq2 {pos p n : Nat} {ty : TokType} (hp : p = pos + n) :
    (if ((p : Int) - pos) > 0 then (p, Token.mk ty pos ((p : Int) - pos), (p : Int) - pos)
      else (pos, Token.mk .unknown pos 0, (0 : Int))) =
      (pos + n, Token.mk (if n > 0 then ty else .unknown) pos n, (n : Int)) := by
  subst hp
  have e : ((pos + n : Nat) : Int) - pos = n := by omega
  rw [e]
  by_cases hn : 0 < n
  · simp [hn]
  · have : n = 0 := by omega
    subst this; simp

theorem specToken_ws (s : Bytes) :
    specToken .ws s = if 0 < tw isWs s then some ⟨tw isWs s, .ws, 0, tw isWs s⟩ else none :=
  plainSpec_eq (r := wsRe) _ (fun _ hm => (PM_plus_chr.1 hm).2) fun hn => PM_plus_chr.2 ⟨hn, Nat.le_refl _⟩

theorem whiteSpace_eq (buf : Bytes) (pos : Nat) : lexWhiteSpace buf pos = found pos (specToken .ws (buf.drop pos)) := by
  rw [specToken_ws, found_closed]
  unfold lexWhiteSpace
  lex_rel
  exact plain_result_eq rfl

theorem PM_mnemonic {s : Bytes} {m : Nat} :
    PM mnemonic s m ↔ hd s isAlpha = true ∧ 1 ≤ m ∧ m ≤ 1 + tw (fun b => isAlnum b || b == 95) (s.drop 1) := by
  unfold mnemonic
  simp only [PM_chr_seq, PM_star_chr]
  constructor
  · rintro ⟨h, j, rfl, hj⟩; exact ⟨h, by omega, by omega⟩
  · rintro ⟨h1, h2, h3⟩; exact ⟨h1, m - 1, by omega, by omega⟩

end ScpiVerif.Lemmas.Lexer
