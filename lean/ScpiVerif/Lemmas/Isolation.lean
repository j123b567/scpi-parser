/-
Lemmas for Props/C09.lean (isolation of messages and units).  Two contexts that agree on what is meant to persist
(tables, registers up to their logs, the abstract error queue, the pending input up to a NUL) make the same
observations (events, output bytes, flushes) and stay related: `input_noninterference`, `stream_noninterference`.
The relations of C09 are a frame (`frame`) of the two-run simulation of `Lemmas/TwoRun.lean`, which gives the unit
loop; on top of it stand `parse`, the loop of `SCPI_Input`, `SCPI_Input` itself and streams of calls.
-/
import ScpiVerif.Spec.Isolation
import ScpiVerif.Lemmas.Fifo
import ScpiVerif.Lemmas.Bounds
import ScpiVerif.Lemmas.TwoRun


namespace ScpiVerif.Lemmas.Isolation
open ScpiVerif ScpiVerif.Lexer ScpiVerif.Lemmas.UpTo

structure Agree (P : Nat) (b1 b2 : Bytes) : Prop where
  len : b1.length = b2.length
  eq : ∀ i, i ≤ P → b1.getD i 0 = b2.getD i 0
  nul : b1.getD P 0 = 0

theorem Agree.upTo {P : Nat} {b1 b2 : Bytes} (h : Agree P b1 b2) : UpTo (· == 0) P b1 b2 :=
  ⟨h.len, h.eq, by rw [h.nul]; rfl⟩

theorem Agree.of_upTo {P : Nat} {b1 b2 : Bytes} (h : UpTo (· == 0) P b1 b2) : Agree P b1 b2 :=
  ⟨h.len, h.eq, eq_of_beq h.stop⟩

theorem Agree.symm {P : Nat} {b1 b2 : Bytes} (h : Agree P b1 b2) : Agree P b2 b1 :=
  .of_upTo h.upTo.symm

theorem Agree.refl' {P : Nat} {b : Bytes} (h : b.getD P 0 = 0) : Agree P b b := ⟨rfl, fun _ _ => rfl, h⟩

end ScpiVerif.Lemmas.Isolation

namespace ScpiVerif.Lemmas.Isolation
open ScpiVerif ScpiVerif.Props.C09

/-! ### status-register side

Every operation reads only `regs`, `qn`, `cap`; the logs `srq`, `errcb` are only appended to (`Lemmas.Regs.step_frame`).  So
each operation maps `SameRegs` states, which are states with the same `Lemmas.Regs.core`, to `SameRegs` states. -/

theorem sameRegs_get (s1 s2 : Regs.St) (h : SameRegs s1 s2) (n : Nat) : Regs.get s1 n = Regs.get s2 n := by
  simp [Regs.get, h.1]

theorem sameRegs_core {s1 s2 : Regs.St} (h : SameRegs s1 s2) : Lemmas.Regs.core s1 = Lemmas.Regs.core s2 := by
  obtain ⟨h1, h2, h3⟩ := h
  simp only [Lemmas.Regs.core, h1, h2, h3]

theorem sameRegs_step (s1 s2 : Regs.St) (h : SameRegs s1 s2) (op : Regs.Op) :
    SameRegs (Regs.step s1 op) (Regs.step s2 op) := by
  rw [Lemmas.Regs.step_frame s1, Lemmas.Regs.step_frame s2, sameRegs_core h]
  exact ⟨rfl, rfl, rfl⟩

theorem errPush_sameRegs (r1 r2 : Regs.St) (h : SameRegs r1 r2) (code : Int) :
    SameRegs (Regs.errPush r1 code) (Regs.errPush r2 code) := sameRegs_step r1 r2 h (.errPush code)

theorem sameQueue_step (q1 q2 : Fifo.EQ) (h : SameQueue q1 q2) (w : Bool) (op : Fifo.Op) :
    (Fifo.EQ.step w q1 op).2 = (Fifo.EQ.step w q2 op).2 ∧
    SameQueue (Fifo.EQ.step w q1 op).1 (Fifo.EQ.step w q2 op).1 := by
  obtain ⟨hi1, hi2, hsz, habs⟩ := h
  obtain ⟨o1, j1, s1, a1⟩ := Lemmas.Fifo.step_refines q1.fifo.size w q1 (Fifo.EQ.abs q1) op ⟨hi1, rfl, rfl⟩
  obtain ⟨o2, j2, s2, a2⟩ := Lemmas.Fifo.step_refines q1.fifo.size w q2 (Fifo.EQ.abs q1) op ⟨hi2, hsz.symm, habs.symm⟩
  exact ⟨o1.trans o2.symm, j1, j2, s1.trans s2.symm, a1.trans a2.symm⟩

theorem push_sameQueue (q1 q2 : Fifo.EQ) (h : SameQueue q1 q2) (w : Bool) (code : Int) (info : Option (List UInt8))
    (infoLen : Nat) (ok : Bool) :
    (q1.push w code info infoLen ok).2 = (q2.push w code info infoLen ok).2 ∧
    SameQueue (q1.push w code info infoLen ok).1 (q2.push w code info infoLen ok).1 := by
  have h := sameQueue_step q1 q2 h w (.push code info infoLen ok)
  simp only [Fifo.EQ.step] at h
  exact ⟨Fifo.Obs.pushed.inj h.1, h.2⟩

end ScpiVerif.Lemmas.Isolation

namespace ScpiVerif.Lemmas.Isolation
open ScpiVerif ScpiVerif.Lexer ScpiVerif.Ctx ScpiVerif.Props.C09 ScpiVerif.Result ScpiVerif.Lemmas.UpTo
open ScpiVerif.Lemmas.TwoRun (Frame pureBuiltin)
open ScpiVerif.Lemmas.ParseLocalAux (outReset parseFin parse_eq)

theorem Equi.ite {f g : Out → Out} (c : Out → Prop) [∀ o, Decidable (c o)]
    (hc : ∀ o w p k, c (shift o w p k) ↔ c o) (hf : Equi f) (hg : Equi g) :
    Equi (fun o => if c o then f o else g o) := by
  intro o w p k
  by_cases h : c o
  · have := (hc o w p k).2 h; simp only [this, h, if_true]; exact hf o w p k
  · have : ¬ c (shift o w p k) := fun h' => h ((hc o w p k).1 h')
    simp only [this, h, if_false]; exact hg o w p k

def Ext (c c' : Ctx) (e : List Ev) (w : Bytes) (k : Nat) : Prop :=
  c'.events = c.events ++ e ∧ c'.out.written = c.out.written ++ w ∧ c'.out.flushes = c.out.flushes + k

def Step (c1 c2 c1' c2' : Ctx) : Prop := ∃ e w k, Ext c1 c1' e w k ∧ Ext c2 c2' e w k

theorem Step.of_eq {c1 c2 c1' c2' : Ctx} (h1 : c1'.events = c1.events) (h2 : c1'.out = c1.out)
    (h3 : c2'.events = c2.events) (h4 : c2'.out = c2.out) : Step c1 c2 c1' c2' :=
  ⟨[], [], 0, ⟨by simp [h1], by simp [h2], by rw [h2]; rfl⟩, ⟨by simp [h3], by simp [h4], by rw [h4]; rfl⟩⟩

theorem Step.refl (c1 c2 : Ctx) : Step c1 c2 c1 c2 := Step.of_eq rfl rfl rfl rfl

theorem Step.trans {c1 c2 d1 d2 e1 e2 : Ctx} (h : Step c1 c2 d1 d2) (h' : Step d1 d2 e1 e2) : Step c1 c2 e1 e2 := by
  obtain ⟨e, w, k, ⟨a1, a2, a3⟩, ⟨b1, b2, b3⟩⟩ := h
  obtain ⟨e', w', k', ⟨a1', a2', a3'⟩, ⟨b1', b2', b3'⟩⟩ := h'
  refine ⟨e ++ e', w ++ w', k + k', ⟨?_, ?_, ?_⟩, ⟨?_, ?_, ?_⟩⟩
  · rw [a1', a1, List.append_assoc]
  · rw [a2', a2, List.append_assoc]
  · rw [a3', a3, Nat.add_assoc]
  · rw [b1', b1, List.append_assoc]
  · rw [b2', b2, List.append_assoc]
  · rw [b3', b3, Nat.add_assoc]

theorem Step.events {c1 c2 c1' c2' : Ctx} (ev : List Ev) (h1 : c1'.events = c1.events ++ ev) (h2 : c1'.out = c1.out)
    (h3 : c2'.events = c2.events ++ ev) (h4 : c2'.out = c2.out) : Step c1 c2 c1' c2' :=
  ⟨ev, [], 0, ⟨h1, by simp [h2], by rw [h2]; rfl⟩, ⟨h3, by simp [h4], by rw [h4]; rfl⟩⟩

theorem Step.emit (c1 c2 : Ctx) (e : Ev) : Step c1 c2 (emit c1 e) (emit c2 e) :=
  Step.events [e] rfl rfl rfl rfl

theorem Step.out {c1 c2 c1' c2' : Ctx} (h1 : c1'.events = c1.events) (h3 : c2'.events = c2.events)
    (ho : OutStep c1.out c2.out c1'.out c2'.out) : Step c1 c2 c1' c2' := by
  obtain ⟨w, p, k, a, b, _, _, e, f⟩ := ho.ext
  exact ⟨[], w, k, ⟨by simp [h1], a, e⟩, ⟨by simp [h3], b, f⟩⟩

theorem Step.newObs {c1 c2 c1' c2' : Ctx} (h : Step c1 c2 c1' c2') : newObs c1 c1' = newObs c2 c2' := by
  obtain ⟨e, w, k, ⟨a1, a2, a3⟩, ⟨b1, b2, b3⟩⟩ := h
  unfold Props.C09.newObs
  rw [a1, a2, a3, b1, b2, b3]
  simp

/-- what persists between units and messages -/
structure SimW (P : Nat) (c1 c2 : Ctx) : Prop where
  cmds : c2.cmds = c1.cmds
  choices : c2.choices = c1.choices
  withInfo : c2.withInfo = c1.withInfo
  bufLen : c2.bufLen = c1.bufLen
  position : c2.position = c1.position
  buf : Agree P c1.buf c2.buf
  inb : P < c1.buf.length
  blen : c1.buf.length = c1.bufLen
  pos : c1.position ≤ P
  regs : SameRegs c1.regs c2.regs
  eq : SameQueue c1.eq c2.eq

/-- what is live while one unit is being processed -/
structure Live (P : Nat) (c1 c2 : Ctx) : Prop where
  cmdError : c2.cmdError = c1.cmdError
  inputCount : c2.inputCount = c1.inputCount
  pbase : c2.pbase = c1.pbase
  plen : c2.plen = c1.plen
  ppos : c2.ppos = c1.ppos
  cur : c2.cur = c1.cur
  rawOff : c2.rawOff = c1.rawOff
  rawLen : c2.rawLen = c1.rawLen
  out : OutSim c1.out c2.out
  win : c1.pbase + c1.plen ≤ P
  raw : c1.rawOff + c1.rawLen ≤ P

structure Sim (P : Nat) (c1 c2 : Ctx) : Prop where
  w : SimW P c1 c2
  l : Live P c1 c2

/-! `{ h with f := .. }` states `h` about updated contexts: the fields not named hold as they are, the updates unfolded. -/

theorem pushError_simW {P : Nat} {c1 c2 : Ctx} (h : SimW P c1 c2) (code : Int) (info : Option Bytes) (n : Nat) :
    SimW P (pushError c1 code info n) (pushError c2 code info n) := by
  rw [pushError_eq, pushError_eq]
  exact { h with
    regs := errPush_sameRegs _ _ h.regs code
    eq := by
      show SameQueue _ (c2.eq.push c2.withInfo code info n true).1
      rw [h.withInfo]; exact (push_sameQueue c1.eq c2.eq h.eq c1.withInfo code info n true).2 }

theorem pushError_step {P : Nat} {c1 c2 : Ctx} (h : SimW P c1 c2) (code : Int) (info : Option Bytes) (n : Nat) :
    Step c1 c2 (pushError c1 code info n) (pushError c2 code info n) := by
  rw [pushError_eq, pushError_eq]
  have hq := push_sameQueue c1.eq c2.eq h.eq c1.withInfo code info n true
  unfold Params.pushEvents
  rw [h.withInfo, ← hq.1]
  exact Step.events _ rfl rfl rfl rfl


def RR {α : Type} (P : Nat) (c1 c2 : Ctx) (x1 x2 : Ctx × α) : Prop :=
  Sim P x1.1 x2.1 ∧ Step c1 c2 x1.1 x2.1 ∧ x1.2 = x2.2

theorem RR.mk' {α : Type} {P : Nat} {c1 c2 d1 d2 : Ctx} (hs : Sim P d1 d2) (hst : Step c1 c2 d1 d2) (v : α) :
    RR P c1 c2 (d1, v) (d2, v) := ⟨hs, hst, rfl⟩

structure HS (P : Nat) (h1 h2 : HState) : Prop where
  sim : Sim P h1.c h2.c
  stopOnFail : h2.stopOnFail = h1.stopOnFail
  result : h2.result = h1.result
  done : h2.done = h1.done


theorem sameRegs_bRegs (r1 r2 : Regs.St) (h : SameRegs r1 r2) (b : Builtin) :
    SameRegs (Lemmas.Builtin.bRegs r1 b) (Lemmas.Builtin.bRegs r2 b) := by
  unfold Lemmas.Builtin.bRegs
  cases Lemmas.Builtin.regOp b with
  | none => exact h
  | some op => exact sameRegs_step _ _ h op

theorem sameQueue_bEq (q1 q2 : Fifo.EQ) (h : SameQueue q1 q2) (b : Builtin) :
    SameQueue (Lemmas.Builtin.bEq q1 b) (Lemmas.Builtin.bEq q2 b) := by
  cases b
  case cls => exact (sameQueue_step q1 q2 h true .clear).2
  case errNextQ => exact (sameQueue_step q1 q2 h true .sysErr).2
  all_goals exact h

theorem bEvs_congr (r1 r2 : Regs.St) (h : SameRegs r1 r2) (b : Builtin) :
    Lemmas.Builtin.bEvs r2 b = Lemmas.Builtin.bEvs r1 b := by
  rw [Lemmas.Builtin.bEvs_core r1, Lemmas.Builtin.bEvs_core r2, sameRegs_core h]

theorem bOut_congr (r1 r2 : Regs.St) (q1 q2 : Fifo.EQ) (hr : SameRegs r1 r2) (hq : SameQueue q1 q2) (b : Builtin) :
    Lemmas.Builtin.bOut r2 q2 b = Lemmas.Builtin.bOut r1 q1 b := by
  cases b
  case errNextQ =>
    have h := (sameQueue_step q1 q2 hq true .sysErr).1
    simp only [Fifo.EQ.step] at h
    obtain ⟨hc, ht⟩ := Fifo.Obs.popped.inj h
    simp only [Lemmas.Builtin.bOut, hc, ht]
  case errCountQ =>
    have h := (sameQueue_step q1 q2 hq true .count).1
    simp only [Fifo.EQ.step] at h
    simp only [Lemmas.Builtin.bOut, Fifo.Obs.counted.inj h]
  case eseQ | esrQ | sreQ | stbQ | quesCondQ | quesEvenQ | quesEnabQ | operCondQ | operEvenQ | operEnabQ =>
    funext o
    simp only [Lemmas.Builtin.bOut, Lemmas.Builtin.outReg, sameRegs_get r1 r2 hr]
  all_goals rfl

theorem Sim.pureBuiltin {P : Nat} {c1 c2 : Ctx} (h : Sim P c1 c2) (b : Builtin) :
    Sim P (pureBuiltin b c1) (pureBuiltin b c2) ∧ Step c1 c2 (pureBuiltin b c1) (pureBuiltin b c2) := by
  unfold TwoRun.pureBuiltin
  rw [bOut_congr c1.regs c2.regs c1.eq c2.eq h.w.regs h.w.eq b, bEvs_congr c1.regs c2.regs h.w.regs b]
  have hos := (equi_closed.writer (.builtin c1.regs c1.eq b)).step h.l.out
  refine ⟨⟨{ h.w with regs := sameRegs_bRegs _ _ h.w.regs b, eq := sameQueue_bEq _ _ h.w.eq b },
    { h.l with out := hos.sim }⟩, ?_⟩
  obtain ⟨w, p, k, a, b', _, _, e, f⟩ := hos.ext
  exact ⟨Lemmas.Builtin.bEvs c1.regs b, w, k, ⟨rfl, a, e⟩, ⟨rfl, b', f⟩⟩

/-- equal up to the logs and the two per-unit fields that `processCommand` resets -/
def OutSimU (o1 o2 : Out) : Prop :=
  OutSim { o1 with outputCount := 0, arbRemaining := 0 } { o2 with outputCount := 0, arbRemaining := 0 }

theorem OutSim.toU {o1 o2 : Out} (h : OutSim o1 o2) : OutSimU o1 o2 :=
  (congrArg (fun o : Out => ({ o with outputCount := 0, arbRemaining := 0 } : Out)) h :)

theorem OutSimU.reset {o1 o2 : Out} (h : OutSimU o1 o2) :
    OutSim { o1 with outputCount := if o1.firstOutput then 0 else -1, arbRemaining := 0 }
           { o2 with outputCount := if o2.firstOutput then 0 else -1, arbRemaining := 0 } :=
  (congrArg (fun o : Out => ({ o with outputCount := if o.firstOutput then 0 else -1 } : Out)) h :)

theorem Step.fields {c1 c2 c1' c2' : Ctx} (h1 : c1'.events = c1.events) (h2 : c1'.out.written = c1.out.written)
    (h3 : c1'.out.flushes = c1.out.flushes) (h4 : c2'.events = c2.events) (h5 : c2'.out.written = c2.out.written)
    (h6 : c2'.out.flushes = c2.out.flushes) : Step c1 c2 c1' c2' :=
  ⟨[], [], 0, ⟨by simp [h1], by simp [h2], by rw [h3]; rfl⟩, ⟨by simp [h4], by simp [h5], by rw [h6]; rfl⟩⟩



theorem unit_reset (c : Ctx) :
    let c' := { c with cmdError := true, inputCount := 7, out := { c.out with outputCount := 5, arbRemaining := 9 } }
    newObs c (processCommand c).1 = newObs c' (processCommand c').1 ∧
    (processCommand c).2 = (processCommand c').2 := by
  intro c'
  have e : processCommand c' = processCommand c := by
    rw [processCommand_eq, processCommand_eq]; rfl
  rw [e]
  exact ⟨rfl, rfl⟩

/-- what is carried from one unit to the next -/
structure SimU (P : Nat) (c1 c2 : Ctx) : Prop where
  w : SimW P c1 c2
  out : OutSimU c1.out c2.out

theorem SimU.unit {P : Nat} {c1 c2 : Ctx} (h : SimU P c1 c2) (base dptr dlen : Nat) (cmd : Cmd) (cur : Nat × Nat)
    (hd : base + dptr + dlen ≤ P) (hc : cur.1 + cur.2 ≤ P) :
    Sim P (pcReset (setUnit base dptr dlen cmd cur c1)) (pcReset (setUnit base dptr dlen cmd cur c2)) ∧
    Step c1 c2 (pcReset (setUnit base dptr dlen cmd cur c1)) (pcReset (setUnit base dptr dlen cmd cur c2)) :=
  ⟨⟨{ h.w with }, ⟨rfl, rfl, rfl, rfl, rfl, rfl, rfl, rfl, h.out.reset, hd, hc⟩⟩, Step.fields rfl rfl rfl rfl rfl rfl⟩

/-- a NUL at `P`, nothing read behind it (`e := 0`) -/
def frame (P : Nat) : Frame P where
  Sc := (· == 0)
  e := 0
  W := SimU P
  S := Sim P
  T := Step
  sc_ctl := fun b hb => by rw [eq_of_beq hb]; rfl
  e_le := Nat.zero_le _
  t_refl := Step.refl
  t_trans := Step.trans
  w_buf := fun h => h.w.buf.upTo
  w_inb := fun h => h.w.inb
  w_cmds := fun h => h.w.cmds
  w_err := fun code info n _ _ h =>
    ⟨⟨pushError_simW h.w code info n, by simp only [Params.pushError_out]; exact h.out⟩,
      pushError_step h.w code info n⟩
  w_oob := fun _ _ h => ⟨⟨{ h.w with }, h.out⟩, Step.of_eq rfl rfl rfl rfl⟩
  w_setBuf := fun h ha hl _ =>
    ⟨⟨{ h.w with buf := .of_upTo ha, inb := by rw [hl]; exact h.w.inb, blen := hl.trans h.w.blen }, h.out⟩,
      Step.of_eq rfl rfl rfl rfl⟩
  w_unit := fun h base dptr dlen cmd cur hd _ hc => h.unit base dptr dlen cmd cur hd hc
  s_w := fun h => ⟨h.w, h.l.out.toU⟩
  s_win := fun h => ⟨h.w.choices, h.l.cmdError, h.l.inputCount, h.l.pbase, h.l.plen, h.l.ppos, h.l.cur, h.l.rawOff,
    h.l.rawLen, h.l.win, Nat.le_trans (Nat.le_add_right _ _) h.l.raw, h.l.raw⟩
  s_err := fun code info n _ _ h =>
    ⟨⟨pushError_simW h.w code info n, by simp only [pushError_eq]; exact { h.l with cmdError := rfl }⟩,
      pushError_step h.w code info n⟩
  s_param := fun h _ _ _ _ hn hp => ⟨⟨{ h.w with }, { h.l with inputCount := hn, ppos := hp }⟩, Step.of_eq rfl rfl rfl rfl⟩
  s_emit := fun ev _ _ h => ⟨⟨{ h.w with }, { h.l with }⟩, Step.emit _ _ ev⟩
  s_out := fun _ hf _ _ h =>
    ⟨⟨{ h.w with }, { h.l with out := (hf.step h.l.out).sim }⟩, Step.out rfl rfl (hf.step h.l.out)⟩
  s_pushed := fun h _ hf => by
    obtain ⟨w, p, k, _, _, p1, p2, _, _⟩ := (hf.step h.l.out).ext
    rw [p1, p2]; simp
  s_regStep := fun op _ _ h =>
    ⟨⟨{ h.w with regs := sameRegs_step _ _ h.w.regs op }, { h.l with }⟩, Step.of_eq rfl rfl rfl rfl⟩
  s_builtin := fun b _ _ h => h.pureBuiltin b

theorem writeNewLine_step {o1 o2 : Out} (h : OutSimU o1 o2) :
    ∃ w k, (writeNewLine o1).written = o1.written ++ w ∧ (writeNewLine o2).written = o2.written ++ w ∧
      (writeNewLine o1).flushes = o1.flushes + k ∧ (writeNewLine o2).flushes = o2.flushes + k := by
  have hf : o2.firstOutput = o1.firstOutput := (congrArg Out.firstOutput h).symm
  unfold writeNewLine
  rw [hf]
  split
  · exact ⟨_, 1, rfl, rfl, rfl, rfl⟩
  · exact ⟨[], 0, by simp, by simp, rfl, rfl⟩

theorem parse_sim {P : Nat} {c1 c2 : Ctx} (h : SimW P c1 c2) (base len : Nat) (hbl : base + len ≤ P) :
    SimW P (parse c1 base len).1 (parse c2 base len).1 ∧
    Step c1 c2 (parse c1 base len).1 (parse c2 base len).1 ∧
    (parse c1 base len).2 = (parse c2 base len).2 := by
  rw [parse_eq, parse_eq, ← h.buf.upTo.window _ _ (by omega)]
  have h0 : SimU P (emit { c1 with out := outReset c1.out } (.parseMsg ((c1.buf.drop base).take len)))
      (emit { c2 with out := outReset c2.out } (.parseMsg ((c1.buf.drop base).take len))) := ⟨{ h with }, rfl⟩
  have hst0 : Step c1 c2 (emit { c1 with out := outReset c1.out } (.parseMsg ((c1.buf.drop base).take len)))
      (emit { c2 with out := outReset c2.out } (.parseMsg ((c1.buf.drop base).take len))) :=
    ⟨[.parseMsg ((c1.buf.drop base).take len)], [], 0, ⟨rfl, by simp [emit, outReset], rfl⟩,
      ⟨rfl, by simp [emit, outReset], rfl⟩⟩
  obtain ⟨⟨a1, a2⟩, a3⟩ := (frame P).parseLoop_sim (len + 2) _ _ base len none true (a1 := c1) (a2 := c2) ⟨h0, hst0⟩ hbl
    (by intro pp pl hh; cases hh)
  generalize parseLoop (len + 2) (emit { c1 with out := _ } _) base len none true = x1 at a1 a2 a3 ⊢
  generalize parseLoop (len + 2) (emit { c2 with out := _ } _) base len none true = x2 at a1 a2 a3 ⊢
  obtain ⟨w, k, e1, e2, e3, e4⟩ := writeNewLine_step a1.out
  exact ⟨{ a1.w with }, a2.trans ⟨[], w, k, ⟨by simp [parseFin], e1, e3⟩, ⟨by simp [parseFin], e2, e4⟩⟩, a3⟩

theorem step_sim {P : Nat} {c1 c2 : Ctx} (h : SimW P c1 c2) (k : Nat) (hk : k ≤ c1.position) :
    SimW P (Chunking.step c1 k) (Chunking.step c2 k) ∧ Step c1 c2 (Chunking.step c1 k) (Chunking.step c2 k) ∧
    (parse c1 0 k).2 = (parse c2 0 k).2 := by
  have hpos := h.pos
  obtain ⟨a1, a2, a3⟩ := parse_sim h 0 k (by omega)
  unfold Chunking.step
  generalize parse c1 0 k = x1 at a1 a2 a3 ⊢
  generalize parse c2 0 k = x2 at a1 a2 a3 ⊢
  dsimp only
  have hp := a1.pos
  have hrl : ((x1.1.buf.drop k).take (x1.1.position - k)).length ≤ x1.1.position - k := List.length_take_le _ _
  rw [a1.position, ← a1.buf.upTo.window k (x1.1.position - k) (by omega)]
  exact ⟨{ a1 with
      position := rfl
      buf := .of_upTo (a1.buf.upTo.store _ 0 (by omega))
      inb := by show P < (poke _ _ _).length; rw [Bounds.poke_length]; exact a1.inb
      blen := by show (poke _ _ _).length = _; rw [Bounds.poke_length]; exact a1.blen
      pos := by show x1.1.position - k ≤ P; omega },
    a2.trans (Step.of_eq rfl rfl rfl rfl), a3⟩

theorem inputLoop_sim {P : Nat} : ∀ (fuel : Nat) (c1 c2 : Ctx) (tot : Nat) (res : Bool),
    SimW P c1 c2 → tot ≤ c1.position →
    SimW P (inputLoop fuel c1 tot res).1 (inputLoop fuel c2 tot res).1 ∧
    Step c1 c2 (inputLoop fuel c1 tot res).1 (inputLoop fuel c2 tot res).1 ∧
    (inputLoop fuel c1 tot res).2 = (inputLoop fuel c2 tot res).2 := by
  intro fuel
  induction fuel with
  | zero => intro c1 c2 tot res h _; exact ⟨h, Step.refl _ _, rfl⟩
  | succ fuel ih =>
    intro c1 c2 tot res h htot
    have hpos := h.pos
    have hcons := Bounds.window_consumed_le c1.buf tot (c1.position - tot)
    rw [Chunking.inputLoop_succ, Chunking.inputLoop_succ, h.position, ← h.buf.upTo.window tot (c1.position - tot) (by omega)]
    generalize Parser.detectUnit ((c1.buf.drop tot).take (c1.position - tot)) = u at hcons ⊢
    split
    · obtain ⟨a1, a2, a3⟩ := step_sim h (tot + u.consumed) (by omega)
      obtain ⟨b1, b2, b3⟩ := ih _ _ 0 (parse c1 0 _).2 a1 (Nat.zero_le _)
      rw [← a3]
      exact ⟨b1, a2.trans b2, b3⟩
    · split
      · exact ⟨h, Step.refl _ _, rfl⟩
      · split
        · exact ⟨h, Step.refl _ _, rfl⟩
        · exact ih _ _ _ res h (by omega)

/-- the pending input with `data` and a NUL appended, in two buffers with the same pending input -/
theorem agree_input {b1 b2 : Bytes} (hl : b1.length = b2.length) (p : Nat) (ht : b1.take p = b2.take p)
    (data : Bytes) (hb : p + data.length < b1.length) :
    Agree (p + data.length) ((poke b1 p data).set (p + data.length) 0) ((poke b2 p data).set (p + data.length) 0) := by
  have key : ∀ b : Bytes, p + data.length < b.length →
      ((poke b p data).set (p + data.length) 0).take (p + data.length) = b.take p ++ data ∧
      ((poke b p data).set (p + data.length) 0).getD (p + data.length) 0 = 0 := by
    intro b hb
    exact ⟨Bounds.poke_take b p data hb, by rw [ByteList.getD_set', if_pos ⟨rfl, by rw [Bounds.poke_length]; exact hb⟩]⟩
  obtain ⟨t1, z1⟩ := key b1 hb
  obtain ⟨t2, z2⟩ := key b2 (hl ▸ hb)
  exact .of_upTo (.of_take (by simp [Bounds.poke_length, hl]) (by rw [t1, t2, ht]) (by rw [z1, z2]) (by rw [z1]; rfl))

theorem rel_of_simW {P : Nat} {d1 d2 : Ctx} (h : SimW P d1 d2) : Rel d1 d2 := by
  have h1 := h.inb
  have h2 := h.blen
  have h3 := h.pos
  refine ⟨h.cmds.symm, h.choices.symm, h.withInfo.symm, h.bufLen.symm, h.blen, ?_, h.position.symm, by omega, ?_, h.regs, h.eq⟩
  · rw [← h.buf.len, h.bufLen]; exact h.blen
  · rw [h.position]; exact h.buf.upTo.take _ (by omega)

theorem simW_of_rel {c1 c2 : Ctx} (h : Rel c1 c2) (data : Bytes) (hb : c1.position + data.length < c1.bufLen) :
    SimW (c1.position + data.length)
      { c1 with buf := (poke c1.buf c1.position data).set (c1.position + data.length) 0, position := c1.position + data.length }
      { c2 with buf := (poke c2.buf c1.position data).set (c1.position + data.length) 0, position := c1.position + data.length } := by
  obtain ⟨r1, r2, r3, r4, r5, r6, r7, r8, r9, r10, r11⟩ := h
  have hl : c1.buf.length = c2.buf.length := by rw [r5, r6, r4]
  have ha := agree_input hl c1.position (by rw [r9, r7]) data (by omega)
  refine ⟨r1.symm, r2.symm, r3.symm, r4.symm, rfl, ha, ?_, ?_, Nat.le_refl _, r10, r11⟩
  · show _ < ((poke _ _ _).set _ _).length
    rw [List.length_set, Bounds.poke_length]; omega
  · show ((poke _ _ _).set _ _).length = _
    rw [List.length_set, Bounds.poke_length]; exact r5

theorem SimW.emit {P : Nat} {c1 c2 : Ctx} (h : SimW P c1 c2) (e1 e2 : Ev) : SimW P (emit c1 e1) (emit c2 e2) :=
  { h with }

theorem finish_data {P : Nat} {c1 c2 : Ctx} {x1 x2 : Ctx × Bool} (hs : SimW P x1.1 x2.1) (hst : Step c1 c2 x1.1 x2.1)
    (hv : x1.2 = x2.2) :
    Step c1 c2 (emit x1.1 (.input x1.2)) (emit x2.1 (.input x2.2)) ∧
    Rel (emit x1.1 (.input x1.2)) (emit x2.1 (.input x2.2)) := by
  rw [hv]
  exact ⟨hst.trans (Step.emit _ _ _), rel_of_simW (hs.emit _ _)⟩

theorem finish_empty {P : Nat} {c1 c2 : Ctx} {x1 x2 : Ctx × Bool} (hs : SimW P x1.1 x2.1) (hst : Step c1 c2 x1.1 x2.1)
    (hv : x1.2 = x2.2) :
    Step c1 c2 (emit { x1.1 with position := 0 } (.input x1.2)) (emit { x2.1 with position := 0 } (.input x2.2)) ∧
    Rel (emit { x1.1 with position := 0 } (.input x1.2)) (emit { x2.1 with position := 0 } (.input x2.2)) :=
  finish_data (x1 := ({ x1.1 with position := 0 }, x1.2)) (x2 := ({ x2.1 with position := 0 }, x2.2))
    { hs with position := rfl, pos := Nat.zero_le _ }
    (hst.trans (Step.of_eq rfl rfl rfl rfl)) hv

theorem input_step (c1 c2 : Ctx) (h : Rel c1 c2) (data : Bytes) :
    Step c1 c2 (input c1 data) (input c2 data) ∧ Rel (input c1 data) (input c2 data) := by
  have hh := h
  obtain ⟨r1, r2, r3, r4, r5, r6, r7, r8, r9, r10, r11⟩ := hh
  by_cases hd : data = []
  · subst hd
    rw [Chunking.input_nil, Chunking.input_nil, ← r7]
    have hw : SimW c1.position { c1 with buf := c1.buf.set c1.position 0 }
        { c2 with buf := c2.buf.set c1.position 0, position := c1.position } := simW_of_rel h [] r8
    have hp := parse_sim hw 0 c1.position (by omega)
    exact finish_empty hp.1 ((Step.of_eq rfl rfl rfl rfl).trans hp.2.1) hp.2.2
  · by_cases ho : data.length + 1 > c1.bufLen - c1.position
    · rw [Chunking.input_overrun hd ho, Chunking.input_overrun hd (r4 ▸ r7 ▸ ho)]
      have hw0 : SimW 0 { c1 with position := 0, buf := c1.buf.set 0 0 } { c2 with position := 0, buf := c2.buf.set 0 0 } :=
        simW_of_rel (c1 := { c1 with position := 0 }) (c2 := { c2 with position := 0 })
          ⟨r1, r2, r3, r4, r5, r6, rfl, by show 0 < c1.bufLen; omega, rfl, r10, r11⟩ [] (by show 0 + 0 < c1.bufLen; omega)
      have hs := pushError_simW hw0 (-363) none 0
      have hst := pushError_step hw0 (-363) none 0
      exact ⟨((Step.of_eq rfl rfl rfl rfl).trans hst).trans (Step.emit _ _ _), rel_of_simW (hs.emit _ _)⟩
    · rw [Chunking.input_fits hd ho, Chunking.input_fits hd (r4 ▸ r7 ▸ ho)]
      unfold Chunking.store
      rw [← r7]
      have hp := inputLoop_sim (c1.position + data.length + 2) _ _ 0 true (simW_of_rel h data (by omega)) (Nat.zero_le _)
      exact finish_data hp.1 ((Step.of_eq rfl rfl rfl rfl).trans hp.2.1) hp.2.2

theorem input_noninterference (c1 c2 : Ctx) (h : Rel c1 c2) (data : Bytes) :
    newObs c1 (input c1 data) = newObs c2 (input c2 data) ∧ Rel (input c1 data) (input c2 data) :=
  ⟨(input_step c1 c2 h data).1.newObs, (input_step c1 c2 h data).2⟩

theorem stream_step (chunks : List Bytes) : ∀ (c1 c2 : Ctx), Rel c1 c2 →
    Step c1 c2 (chunks.foldl input c1) (chunks.foldl input c2) ∧ Rel (chunks.foldl input c1) (chunks.foldl input c2) := by
  induction chunks with
  | nil => intro c1 c2 h; exact ⟨Step.refl _ _, h⟩
  | cons d ds ih =>
    intro c1 c2 h
    rw [List.foldl_cons, List.foldl_cons]
    obtain ⟨a, b⟩ := input_step c1 c2 h d
    obtain ⟨a', b'⟩ := ih _ _ b
    exact ⟨a.trans a', b'⟩

theorem stream_noninterference (c1 c2 : Ctx) (h : Rel c1 c2) (chunks : List Bytes) :
    newObs c1 (chunks.foldl input c1) = newObs c2 (chunks.foldl input c2) ∧
    Rel (chunks.foldl input c1) (chunks.foldl input c2) :=
  ⟨(stream_step chunks c1 c2 h).1.newObs, (stream_step chunks c1 c2 h).2⟩

end ScpiVerif.Lemmas.Isolation

