/-
Refinement of the hand model ScpiVerif.Heap (Model/Heap.lean) by the definitions GENERATED from the C text of
libscpi/src/utils.c (scpiheap_init, scpiheap_strndup, scpiheap_get_parts, scpiheap_free; Gen/HeapC.lean).  Every theorem also
shows that the undefined-behaviour flag of the generated function is false: no load, store, memcpy, memset, strnlen or pointer
computation leaves the heap buffer or the source string.  size_t arithmetic is modular in the generated text (`szadd`, `szsub`,
mod 2^64): the theorems assume `size < 2^64` (and a source object shorter than 2^64 bytes) and PROVE that under the heap's
well-formedness no operation wraps, except the pair `wr += size; wr -= rb` of the rollback, whose intermediate value may exceed
2^64 - 1 while the final one is exact.
-/
import ScpiVerif.Gen.HeapC
import ScpiVerif.Lemmas.Heap

namespace ScpiVerif.Lemmas.HeapC
open ScpiVerif ScpiVerif.Heap ScpiVerif.Gen.HeapC
open ScpiVerif.Fifo (Bytes)

/- The simp sets also name what only other spellings of the same C text need. -/
set_option linter.unusedSimpArgs false

/-- the generated structure as a state of the hand model (no out-of-bounds access recorded) -/
def toModel (c : CHeap) : Heap := { wr := c.wr, count := c.count, size := c.size, data := c.data }

def ofModel (h : Heap) : CHeap := { wr := h.wr, count := h.count, size := h.size, data := h.data }

@[simp] theorem toModel_ofModel (h : Heap) (ho : h.oob = false) : toModel (ofModel h) = h := by
  cases h; simp_all [toModel, ofModel]

@[simp] theorem ofModel_toModel (c : CHeap) : ofModel (toModel c) = c := rfl

theorem rd_def (a : List UInt8) (i : Nat) : a.getD i 0 = rd a i := rfl
theorem toModel_data (c : CHeap) : (toModel c).data = c.data := rfl
theorem toModel_size (c : CHeap) : (toModel c).size = c.size := rfl
theorem toModel_wr (c : CHeap) : (toModel c).wr = c.wr := rfl
theorem toModel_count (c : CHeap) : (toModel c).count = c.count := rfl
theorem toModel_oob (c : CHeap) : (toModel c).oob = false := rfl

/-- well-formedness the refinement theorems need; implied by the hand model's invariant `HInv` (`cwf_of_hinv`) -/
def CWF (c : CHeap) : Prop :=
  c.data.length = c.size ∧ c.size < 18446744073709551616 ∧ c.count ≤ c.size ∧ (c.wr < c.size ∨ c.size = 0)

/-- the source string handed to scpiheap_strndup: shorter than 2^64 bytes, and either NUL-terminated or longer than `n`
(the function reads `strnlen(s, n) + 1` bytes) -/
def SrcOK (src : Bytes) (n : Nat) : Prop :=
  src.length < 18446744073709551616 ∧ ((cstr src).take n).length < src.length

theorem szadd_eq (a b : Nat) (h : a + b < 18446744073709551616) : szadd a b = a + b := by
  unfold szadd; omega

theorem szsub_eq (a b : Nat) (h1 : b ≤ a) (h2 : a < 18446744073709551616) : szsub a b = a - b := by
  unfold szsub; omega

theorem szsub_zero (a : Nat) (h2 : a < 18446744073709551616) : szsub a 0 = a := by
  unfold szsub; omega

/-- the wrap of `wr += size` is undone by `wr -= rb` -/
theorem szsub_szadd (a b r : Nat) (h1 : r ≤ a + b) (h2 : a + b - r < 18446744073709551616) (h3 : r < 18446744073709551616) :
    szsub (szadd a b) r = a + b - r := by
  unfold szsub szadd; omega

/-- the rollback `if (rb > wr) wr += size; wr -= rb;` in exact arithmetic -/
theorem szsub_rollback (wr size rb : Nat) (h1 : wr < size) (h2 : size < 18446744073709551616) (h3 : rb ≤ size) :
    szsub (if rb > wr then szadd wr size else wr) rb = (if rb > wr then wr + size else wr) - rb := by
  split
  · exact szsub_szadd _ _ _ (by omega) (by omega) (by omega)
  · exact szsub_eq _ _ (by omega) (by omega)

theorem memset_eq (dst : List UInt8) (off n : Nat) (b : UInt8) (h : off + n ≤ dst.length) :
    memset dst off b n = (Lemmas.Heap.splice dst off (List.replicate n b), false) := by
  rw [memset, if_pos h, Lemmas.Heap.splice, List.length_replicate]

theorem strnlen_src (src : Bytes) (n : Nat) : (strnlen src 0 n).1 = ((cstr src).take n).length := by
  simp [strnlen, cstr, List.take_takeWhile]

theorem strnlen_heap (c : CHeap) (off max : Nat) : (strnlen c.data off max).1 = strnlenAt (toModel c) off max := rfl

theorem strnlenAt_le (h : Heap) (off mx : Nat) :
    strnlenAt h off mx ≤ mx ∧ off + strnlenAt h off mx ≤ Nat.max off h.data.length := by
  unfold strnlenAt
  have h1 := (List.takeWhile_prefix (fun (x : UInt8) => decide (x ≠ 0)) (l := (h.data.drop off).take mx)).length_le
  simp only [List.length_take, List.length_drop] at h1
  simp only [Nat.max_def]
  split <;> omega

theorem strnlenAt_pos (h : Heap) (off max : Nat) (h0 : h.data.getD off 0 ≠ 0) (hm : 1 ≤ max) : 1 ≤ strnlenAt h off max := by
  unfold strnlenAt
  cases hd : h.data.drop off with
  | nil =>
    have : h.data.length ≤ off := by simpa using hd
    simp [List.getD, List.getElem?_eq_none this] at h0
  | cons a l =>
    have ha : h.data[off]? = some a := by
      have := congrArg (fun l => l[0]?) hd
      simpa using this
    have : a ≠ 0 := by simpa [List.getD, ha] using h0
    cases max with
    | zero => omega
    | succ m => simp [List.take_succ_cons, this]

theorem strnlen_ub (src : List UInt8) (off max : Nat) :
    (strnlen src off max).2 = decide (src.length < off + (if (strnlen src off max).1 < max then (strnlen src off max).1 + 1 else (strnlen src off max).1)) := rfl

theorem init_refines (c : CHeap) (buf : List UInt8) (n : Nat) (hbuf : buf.length = n) :
    scpiheap_init c buf n = (ofModel (Heap.init n), false) := by
  subst hbuf
  simp [scpiheap_init, memset, ofModel, Heap.init]

theorem cwf_init (n : Nat) (hn : n < 18446744073709551616) : CWF (ofModel (Heap.init n)) := by
  simp [CWF, ofModel, Heap.init]; omega

theorem cwf_of_hinv {c : CHeap} {st : Nat} {ts : List Bytes} (hsz : c.size < 18446744073709551616)
    (hi : Lemmas.Heap.HInv (toModel c) st ts) : CWF c := by
  refine ⟨hi.len, hsz, ?_, ?_⟩
  · have := hi.cnt; simp only [toModel_count, toModel_size] at this; omega
  · by_cases h0 : c.size = 0
    · exact Or.inr h0
    · exact Or.inl (Lemmas.Heap.hinv_wr_lt hi h0)

/-- `ofModel` forgets the out-of-bounds flag of the hand model; the invariant says it is clear -/
theorem hinv_ofModel {h : Heap} {st : Nat} {ts : List Bytes} (hi : Lemmas.Heap.HInv h st ts) :
    Lemmas.Heap.HInv (toModel (ofModel h)) st ts := by
  rw [toModel_ofModel _ hi.oob]; exact hi

/-- what the generated get_parts delivers for a hand-model result: the three cells and the return value -/
def partsResult (a : Nat) (p : Option Nat) (b : Nat) : Option (Nat × Bool × Nat) → Option Nat × Option (Option Nat) × Option Nat × Bool
  | none => (some a, some p, some b, false)
  | some (l1, two, l2) => (some l1, some (if two then some 0 else none), some l2, true)

theorem get_parts_refines (c : CHeap) (s a b : Nat) (p : Option Nat) (hlen : c.data.length = c.size)
    (hsz : c.size < 18446744073709551616) (hs : s < c.size) :
    scpiheap_get_parts (some c) (some s) (some a) (some p) (some b) =
      ((partsResult a p b (getParts (toModel c) s)).1, (partsResult a p b (getParts (toModel c) s)).2.1,
       (partsResult a p b (getParts (toModel c) s)).2.2.1, (partsResult a p b (getParts (toModel c) s)).2.2.2, false) := by
  have hl : strnlenAt (toModel c) s (c.size - s) ≤ c.size - s := (strnlenAt_le (toModel c) s (c.size - s)).1
  have hl2 : strnlenAt (toModel c) 0 c.size ≤ c.size := (strnlenAt_le (toModel c) 0 c.size).1
  have hp : rd c.data s ≠ 0 → 1 ≤ strnlenAt (toModel c) s (c.size - s) :=
    fun h0 => strnlenAt_pos (toModel c) s (c.size - s) h0 (by omega)
  simp only [scpiheap_get_parts, getParts, partsResult, toModel_data, toModel_size, rd_def, strnlen_ub, strnlen_heap,
    szsub_zero s (by omega), szsub_eq c.size s (by omega) hsz, szsub_eq c.size 1 (by omega) hsz]
  obtain ⟨l1, hl1⟩ : ∃ l1, strnlenAt (toModel c) s (c.size - s) = l1 := ⟨_, rfl⟩
  obtain ⟨l2, hl2'⟩ : ∃ l2, strnlenAt (toModel c) 0 c.size = l2 := ⟨_, rfl⟩
  simp only [hl1, hl2'] at hl hl2 hp ⊢
  have hub1 : s + (if l1 < c.size - s then l1 + 1 else l1) ≤ c.size := by split <;> omega
  have hub2 : (if l2 < c.size then l2 + 1 else l2) ≤ c.size := by split <;> omega
  by_cases h0 : rd c.data s = 0
  · simp [h0]; omega
  · have hp := hp h0
    rw [szsub_eq l1 1 hp (by omega)]
    by_cases h1 : s + l1 = c.size
    · have : (s + (l1 - 1) == c.size - 1) = true := by simp; omega
      simp [h0, h1, this]
      omega
    · have : (s + (l1 - 1) == c.size - 1) = false := by simp; omega
      simp [h0, h1, this]
      omega

/-- scpiheap_free against the hand model for ANY pointer into the buffer.  The one semantic hypothesis: the bytes that
get_parts delimits there, and their NUL, were counted as used; it keeps `count += len` from wrapping and the memset of the
second part inside the buffer (without it a buffer holding no NUL at all makes that memset one byte too long). -/
theorem free_refines_counted (c : CHeap) (s : Nat) (rb : Bool) (hlen : c.data.length = c.size)
    (hsz : c.size < 18446744073709551616) (hs : s < c.size) (hwr : c.wr < c.size)
    (hcnt : ∀ l0 two l1, getParts (toModel c) s = some (l0, two, l1) → c.count + (l0 + l1 + 1) ≤ c.size) :
    scpiheap_free c (some s) rb = (ofModel (free (toModel c) (some s) rb), false) := by
  have hlen' : (toModel c).data.length = (toModel c).size := hlen
  cases hgp : getParts (toModel c) s with
  | none => simp [scpiheap_free, get_parts_refines c s 0 0 none hlen hsz hs, Heap.free, hgp, partsResult]
  | some r =>
    obtain ⟨l0, two, l1⟩ := r
    have hc := hcnt l0 two l1 hgp
    -- the first part ends inside the buffer, and before its last byte unless there is a second part
    have hb : s + l0 ≤ c.size ∧ (two = false → s + l0 < c.size) := by
      simp only [getParts] at hgp
      split at hgp
      · cases hgp
      · have := (strnlenAt_le (toModel c) s ((toModel c).size - s)).1
        rw [toModel_size] at this hgp
        split at hgp <;> cases hgp <;> exact ⟨by omega, fun h => by cases h <;> omega⟩
    cases two with
    | false =>
      have hlt := hb.2 rfl
      have hz := Lemmas.Heap.zero_eq (toModel c) s (l0 + 1) hlen' (by rw [toModel_size]; omega)
      simp only [scpiheap_free, Heap.free, get_parts_refines c s 0 0 none hlen hsz hs, hgp, partsResult, hz,
        Option.getD_some, Bool.false_eq_true, if_false, if_true, Bool.not_true, Bool.or_false, Bool.false_or,
        toModel_size, toModel_count, toModel_wr, toModel_data, toModel_oob,
        apply_ite Prod.fst, apply_ite Prod.snd, ite_self, beq_iff_eq, decide_eq_true_eq]
      clear hz hgp hlen' hcnt hb
      simp (disch := omega) only [szadd_eq, szsub_rollback, memset_eq, Bool.or_false]
      repeat' split
      all_goals first | rfl | simp (disch := omega) only [ofModel, szadd_eq, szsub_eq, szsub_szadd]
    | true =>
      have hle := hb.1
      have hz := Lemmas.Heap.zero_eq (toModel c) 0 (l1 + 1) hlen' (by rw [toModel_size]; omega)
      have hl : (Lemmas.Heap.splice c.data 0 (List.replicate (l1 + 1) 0)).length = c.size := by
        rw [Lemmas.Heap.length_splice (by simp; omega), hlen]
      simp only [scpiheap_free, Heap.free, get_parts_refines c s 0 0 none hlen hsz hs, hgp, partsResult, hz,
        Option.getD_some, Bool.false_eq_true, if_false, if_true, Bool.not_true, Bool.or_false, Bool.false_or,
        toModel_size, toModel_count, toModel_wr, toModel_data, toModel_oob,
        apply_ite Prod.fst, apply_ite Prod.snd, ite_self, beq_iff_eq, decide_eq_true_eq]
      rw [Lemmas.Heap.zero_eq _ s _ hl (by simp only; omega)]
      clear hz hgp hlen' hcnt hb
      simp (disch := omega) only [szadd_eq, szsub_rollback, memset_eq, Bool.or_false]
      repeat' split
      all_goals first | rfl | simp (disch := omega) only [ofModel, szadd_eq, szsub_eq, szsub_szadd]

/-- the case the error queue needs: a pointer to a stored text `t` (the precondition of the hand model's `free_eq`), whose
`t.length + 1` bytes were counted as used -/
theorem free_refines (c : CHeap) (s : Nat) (t : Bytes) (rb : Bool) (hlen : c.data.length = c.size)
    (hsz : c.size < 18446744073709551616) (hs : s < c.size) (hfit : t.length + 1 ≤ c.size) (hg : Lemmas.Heap.Good t)
    (hh : Lemmas.Heap.Holds (toModel c) s t) (hcnt : c.count + (t.length + 1) ≤ c.size) (hwr : c.wr < c.size) :
    scpiheap_free c (some s) rb = (ofModel (free (toModel c) (some s) rb), false) := by
  refine free_refines_counted c s rb hlen hsz hs hwr fun l0 two l1 h => ?_
  rw [(Lemmas.Heap.getParts_of_holds (toModel c) s t hlen hs hfit hg hh).1, toModel_size] at h
  split at h <;> cases h <;> omega

/-- the same for any live text of a heap that satisfies the hand model's invariant -/
theorem free_of_hinv (c : CHeap) (st : Nat) (ts1 ts2 : List Bytes) (t : Bytes) (rb : Bool)
    (hsz : c.size < 18446744073709551616) (hi : Lemmas.Heap.HInv (toModel c) st (ts1 ++ t :: ts2)) :
    scpiheap_free c (some ((st + (Lemmas.Heap.enc ts1).length) % c.size)) rb =
      (ofModel (free (toModel c) (some ((st + (Lemmas.Heap.enc ts1).length) % c.size)) rb), false) := by
  obtain ⟨hh, hoff, hfit, hg⟩ := Lemmas.Heap.hinv_holds hi
  have hcnt := hi.cnt
  rw [Lemmas.Heap.enc_append] at hcnt
  simp only [Lemmas.Heap.enc, List.length_append, List.length_cons, toModel_size, toModel_count] at hcnt hfit
  exact free_refines c _ t rb hi.len hsz hoff hfit hg hh (by omega) (Lemmas.Heap.hinv_wr_lt hi (by rw [toModel_size]; omega))

theorem free_null (c : CHeap) (rb : Bool) : scpiheap_free c none rb = (ofModel (free (toModel c) none rb), false) := by
  simp [scpiheap_free, Heap.free]

/-- a pointer to a NUL byte (an entry already released): nothing happens, as in the hand model -/
theorem free_at_nul (c : CHeap) (s : Nat) (rb : Bool) (hlen : c.data.length = c.size)
    (hsz : c.size < 18446744073709551616) (hs : s < c.size) (h0 : c.data.getD s 0 = 0) :
    scpiheap_free c (some s) rb = (ofModel (free (toModel c) (some s) rb), false) := by
  have hgp : getParts (toModel c) s = none := by simp only [getParts, toModel_data, h0, if_true]
  simp [scpiheap_free, get_parts_refines c s 0 0 none hlen hsz hs, Heap.free, hgp, partsResult]

theorem get_parts_null (c : Option CHeap) (s : Option Nat) (a b : Option Nat) (p : Option (Option Nat))
    (h : c = none ∨ s = none ∨ a = none ∨ p = none ∨ b = none) :
    scpiheap_get_parts c s a p b = (a, p, b, false, false) := by
  unfold scpiheap_get_parts
  repeat' split
  all_goals simp_all

theorem cstr_take_prefix (src : Bytes) (n : Nat) : src.take ((cstr src).take n).length = (cstr src).take n :=
  ByteList.take_length_of_prefix ((List.take_prefix n _).trans (List.takeWhile_prefix _))

/-- the bytes the generated memcpy reads: the text and the byte after it -/
theorem src_take_succ (src : Bytes) (n : Nat) (h : ((cstr src).take n).length < src.length) :
    src.take (((cstr src).take n).length + 1) = (cstr src).take n ++ [src.getD ((cstr src).take n).length 0] := by
  generalize hL : ((cstr src).take n).length = L at h
  rw [List.take_add_one, ← hL, cstr_take_prefix, hL]
  simp [List.getD, List.getElem?_eq_getElem h]

theorem cstr_isEmpty_iff (src : Bytes) (h : 0 < src.length) : ((cstr src).isEmpty = true) ↔ rd src 0 = 0 := by
  cases src with
  | nil => simp at h
  | cons a l =>
    simp only [cstr, rd, List.getD, List.getElem?_cons_zero, Option.getD_some, List.takeWhile_cons]
    by_cases ha : a = 0 <;> simp [ha]

theorem strnlen_src_ub (src : Bytes) (n : Nat) (h : ((cstr src).take n).length < src.length) :
    (strnlen src 0 n).2 = false := by
  rw [strnlen_ub, strnlen_src]
  simp only [Nat.zero_add, decide_eq_false_iff_not, Nat.not_lt]
  split <;> omega

theorem set_mid (pre T rest : List UInt8) (a x : UInt8) (i : Nat) (hi : i = pre.length + T.length) :
    (pre ++ (T ++ a :: rest)).set i x = pre ++ (T ++ x :: rest) := by
  subst hi
  rw [← List.append_assoc, show pre.length + T.length = (pre ++ T).length by simp, List.set_append_right _ _ (Nat.le_refl _)]
  simp

theorem set_mid0 (T rest : List UInt8) (a x : UInt8) (i : Nat) (hi : i = T.length) :
    (T ++ a :: rest).set i x = T ++ x :: rest := by
  have := set_mid [] T rest a x i (by simpa using hi)
  simpa using this

theorem cheap_eta (c : CHeap) : ({ wr := c.wr, count := c.count, size := c.size, data := c.data } : CHeap) = c := rfl

theorem strndup_null_src (c : Option CHeap) (n : Nat) : scpiheap_strndup c none n = (c, none, false) := by
  simp [scpiheap_strndup]

theorem strndup_null_heap (s : Option (List UInt8)) (n : Nat) : scpiheap_strndup none s n = (none, none, false) := by
  cases s <;> simp [scpiheap_strndup]

theorem strndup_size_zero (c : CHeap) (src : Bytes) (n : Nat) (h : c.size = 0) :
    scpiheap_strndup (some c) (some src) n = (some c, none, false) := by
  cases c; simp_all [scpiheap_strndup]

theorem strndup_refines (c : CHeap) (src : Bytes) (n : Nat) (hc : CWF c) (hs : SrcOK src n) :
    scpiheap_strndup (some c) (some src) n =
      (some (ofModel (strndup (toModel c) src n).1), (strndup (toModel c) src n).2, false) := by
  obtain ⟨hlen, hsz, hcnt, hwr⟩ := hc
  obtain ⟨hsl, hsrc⟩ := hs
  by_cases h0 : c.size = 0
  · rw [strndup_size_zero c src n h0, Lemmas.Heap.strndup_none (h := toModel c) (.inl h0)]
    rfl
  have hwr : c.wr < c.size := by omega
  have hpos : 0 < src.length := by omega
  have e1 := strnlen_src src n
  have e2 := strnlen_src_ub src n hsrc
  have e3 := cstr_isEmpty_iff src hpos
  have e4 := src_take_succ src n hsrc
  generalize hT : (cstr src).take n = T at *
  have hne : src ≠ [] := by intro h; simp [h] at hpos
  have hb : (rd src 0 == 0) = (cstr src).isEmpty := by
    rw [Bool.eq_iff_iff]; simp only [beq_iff_eq]; exact e3.symm
  -- the hand model's result gets a name before the C text is unfolded: rewriting inside the unfolded goal is slow to check
  generalize hm : strndup (toModel c) src n = m
  simp only [scpiheap_strndup, rd_def, hb, e1, e2, szadd_eq T.length 1 (by omega), szsub_zero c.wr (by omega),
    szsub_eq c.size c.wr (by omega) hsz]
  -- `if (heap->data[heap->wr] != '\0') return NULL;`: the heap is full
  by_cases h1 : ¬ rd c.data c.wr = 0
  · rw [Lemmas.Heap.strndup_none (h := toModel c) (.inr (.inl h1))] at hm
    subst hm
    simp [h0, h1, hlen, hwr, hne, ofModel_toModel]
  replace h1 : rd c.data c.wr = 0 := by simpa using h1
  -- `if (*s == '\0') return NULL;`
  by_cases h2 : (cstr src).isEmpty = true
  · rw [Lemmas.Heap.strndup_none (.inr (.inr (.inl h2)))] at hm
    subst hm
    simp [h0, h1, hlen, h2, hwr, hne, ofModel_toModel]
  -- `if (len > heap->count) return NULL;`
  by_cases h3 : T.length + 1 > c.count
  · rw [Lemmas.Heap.strndup_none (.inr (.inr (.inr (hT ▸ h3))))] at hm
    subst hm
    simp [h0, h1, hlen, h2, h3, hwr, hne, ofModel_toModel]
  have h2' : (cstr src).isEmpty = false := by simpa using h2
  -- the text is copied; the hand model writes `T ++ [0]` circularly from `wr` (`cw`), the C text `T ++ [b]` and then the NUL
  rw [Lemmas.Heap.strndup_eq (toModel c) src n hlen hwr h1 (by simpa using h2) (by rw [hT]; exact Nat.le_of_not_lt h3) hcnt,
    hT] at hm
  subst hm
  simp only [toModel_size, toModel_data, toModel_wr, toModel_count, Lemmas.Heap.cw, Lemmas.Heap.splice, hlen]
  /- `len < rem`: only the second memcpy runs, `wr` stays positive.  The simp brings the C side to the data with `T ++ [b]`
  spliced in at `wr` and the byte at `wr + |T|` set to 0, which is the `T ++ [0]` of `cw` (`set_mid`); left of `ub = false`
  is `wr ≤ size`. -/
  by_cases hA : T.length + 1 < c.size - c.wr
  · simp [h0, h1, hlen, h2', h3, hA, hwr, hne, show ¬ (c.size - c.wr ≤ T.length + 1) by omega,
      memcpy, e4, szadd_eq c.wr (T.length + 1) (by omega), szsub_eq c.count (T.length + 1) (by omega) (by omega),
      szsub_eq (c.wr + (T.length + 1)) 1 (by omega) (by omega),
      show c.wr + (T.length + 1) ≤ c.size by omega, show T.length + 1 ≤ src.length by omega, ofModel,
      Nat.min_eq_left (Nat.le_of_lt hwr), set_mid, show 0 < c.wr + (T.length + 1) by omega,
      Nat.mod_eq_of_lt (show c.wr + (T.length + 1) < c.size by omega)]
    omega
  have hB : c.size - c.wr ≤ T.length + 1 := by omega
  generalize hbb : src.getD T.length 0 = b at e4
  have f1 : src.take (c.size - c.wr) = (T ++ [b]).take (c.size - c.wr) := by
    rw [← e4, List.take_take, Nat.min_eq_left hB]
  have f2 : (src.drop (c.size - c.wr)).take (T.length + 1 - (c.size - c.wr)) = (T ++ [b]).drop (c.size - c.wr) := by
    rw [← e4, List.drop_take]
  /- `len == rem`: the first memcpy fills the heap to its end, the second copies nothing, `wr` becomes 0 and the NUL goes
  to `data[size - 1]`, which is `wr + |T|`; closed like the case before. -/
  by_cases hC : c.size - c.wr = T.length + 1
  · have ht : ∀ x : UInt8, List.take (T.length + 1) (T ++ [x]) = T ++ [x] := fun x => List.take_of_length_le (by simp)
    simp only [hC] at f1 f2 ⊢
    simp [h0, h1, hlen, h2', h3, hwr, hne, memcpy, f1, f2, show c.wr + (T.length + 1) ≤ c.size by omega,
      show T.length + 1 ≤ src.length by omega,
      show szsub (T.length + 1) (T.length + 1) = 0 by unfold szsub; omega,
      show szadd 0 0 = 0 by unfold szadd; omega,
      szsub_eq c.count (T.length + 1) (by omega) (by omega),
      szsub_zero (c.count - (T.length + 1)) (by omega), szsub_eq c.size 1 (by omega) hsz, ht,
      ofModel, Nat.min_eq_left (Nat.le_of_lt hwr), set_mid,
      show c.size - 1 = c.wr + T.length by omega,
      show (c.wr + (T.length + 1)) % c.size = 0 by rw [show c.wr + (T.length + 1) = c.size by omega, Nat.mod_self]]
    omega
  /- `len > rem`: the first memcpy writes the first `rem` bytes of the text (all of them bytes of `T`) up to the end of the
  heap, the second the rest from offset 0, where the forced NUL goes too (`set_mid0`).  The first simp does the size_t
  arithmetic and the two memcpy, the second (which normalises `len - rem`) the NUL and the new `wr`, `(wr + len) % size` in
  the hand model; left are `wr ≤ size` and two equations between differences. -/
  · have hB' : c.size - c.wr ≤ T.length := by omega
    have g1 : c.wr + (c.size - c.wr) = c.size := by omega
    have g2 : List.drop c.size c.data = [] := by simp [← hlen]
    simp [h0, h1, hlen, h2', h3, hB, hwr, hne, toModel_oob,
      List.take_append_of_le_length hB', List.drop_append_of_le_length hB',
      szsub_eq (T.length + 1) (c.size - c.wr) hB (by omega),
      show szadd 0 (T.length + 1 - (c.size - c.wr)) = T.length + 1 - (c.size - c.wr) by unfold szadd; omega,
      szsub_eq c.count (c.size - c.wr) (by omega) (by omega),
      szsub_eq (c.count - (c.size - c.wr)) (T.length + 1 - (c.size - c.wr)) (by omega) (by omega),
      szsub_eq (T.length + 1 - (c.size - c.wr)) 1 (by omega) (by omega),
      show 0 < T.length + 1 - (c.size - c.wr) by omega, memcpy, f1, f2,
      show c.wr + (c.size - c.wr) ≤ c.size by omega, show c.size - c.wr ≤ src.length by omega]
    simp [ofModel, Nat.min_eq_left (Nat.le_of_lt hwr), Nat.min_eq_left hB', g1, g2, show T.length + 1 ≤ src.length by omega,
      Lemmas.Fifo.mod_sub (show c.size ≤ c.wr + (T.length + 1) by omega) (show c.wr + (T.length + 1) < c.size + c.size by omega),
      show T.length + 1 ≤ c.size + (c.size - c.wr) by omega,
      show T.length + 1 - (c.size - c.wr) - 1 = T.length - (c.size - c.wr) by omega,
      show T.length + 1 - (c.size - c.wr) = T.length - (c.size - c.wr) + 1 by omega, set_mid0]
    omega

end ScpiVerif.Lemmas.HeapC
