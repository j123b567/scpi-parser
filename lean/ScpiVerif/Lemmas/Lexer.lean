/-
The message unit.  The data list as `parseAllProgramData` walks it is `Spec.specList` (`unit_loop`); `detectUnit` and `Spec.specUnit`
are each brought to the form "terminator part applied to header and data list" (`unit_detect_data` with `unit_tail`, `unit_spec_eq`
with `unit_specTail`), which Lemmas/UnitForm.lean compares.  Needs the data element (LexData) and the header (LexHeader); the method
of the token layer is told at the head of Lemmas/LexCalc.lean.
-/
import ScpiVerif.Lemmas.LexData
import ScpiVerif.Lemmas.LexHeader

namespace ScpiVerif.Lemmas.Lexer
open ScpiVerif ScpiVerif.Lexer ScpiVerif.Parser ScpiVerif.Spec ScpiVerif.Lemmas.Regex
open ScpiVerif.Spec.Re (opt plus nullable deriv longest)

theorem unit_head_lt {buf : Bytes} {pos : Nat} {ch : UInt8} (h : (buf.drop pos).head? = some ch) :
    pos + 1 ≤ buf.length := by
  have := hd_drop_length (hd_eq_iff_head?.2 h)
  omega


def unit_listRes : ListSpec → Nat × Int
  | .ok c n => (c, n)
  | .bad c => (c, -1)

def afterWs (s : Bytes) (off : Nat) : Nat := off + wsLen (s.drop off)

theorem specList_succ (fuel : Nat) (s : Bytes) (off cnt : Nat) :
    specList (fuel + 1) s off cnt =
      match specData (s.drop (afterWs s off)) with
      | .item n _ _ _ =>
        if (s.drop (afterWs s (afterWs s off + n))).head? = some 44 then
          specList fuel s (afterWs s (afterWs s off + n) + 1) (cnt + 1)
        else .ok (afterWs s (afterWs s off + n)) (cnt + 1)
      | .swallow => .bad s.length
      | .none => if cnt = 0 then .ok (afterWs s off) 0 else .bad (afterWs s off) := by
  rw [specList]
  simp only [beq_iff_eq]
  rfl

/-- one iteration of the loop, by what the specification finds behind the blanks at `pos`: the text of `specList_succ` -/
theorem unit_loop_step (buf : Bytes) (fuel pos : Nat) (tlen result cnt : Int) (h : pos ≤ buf.length) :
    allDataLoop buf (fuel+1) pos tlen result cnt =
      match specData (buf.drop (afterWs buf pos)) with
      | .item n _ _ _ =>
        if (buf.drop (afterWs buf (afterWs buf pos + n))).head? = some 44 then
          allDataLoop buf fuel (afterWs buf (afterWs buf pos + n) + 1)
            (tlen + result + ((afterWs buf (afterWs buf pos + n) - pos : Nat) : Int)) 1 (cnt + 1)
        else ⟨afterWs buf (afterWs buf pos + n),
          mkTok .allProgramData 0 (tlen + result + ((afterWs buf (afterWs buf pos + n) - pos : Nat) : Int)), cnt + 1⟩
      | .swallow => ⟨buf.length, mkTok .unknown 0 0, -1⟩
      | .none => ⟨afterWs buf pos, mkTok .unknown 0 0, if cnt = 0 then 0 else -1⟩ := by
  rw [allDataLoop, parseProgramData_eq]
  unfold afterWs
  cases hd : specData (buf.drop (pos + wsLen (buf.drop pos))) with
  | item n t po pl =>
    have ht : (t != .unknown) = true := bne_iff_ne.2 (specData_item hd).known
    have e : pos + wsLen (buf.drop pos) + n + wsLen (buf.drop (pos + wsLen (buf.drop pos) + n)) - pos =
        wsLen (buf.drop pos) + n + wsLen (buf.drop (pos + wsLen (buf.drop pos) + n)) := by omega
    simp only [dataResult, ht, if_true, lexComma, lexOneChar_eq, hd_eq_iff_head?, e]
    split <;> rfl
  | swallow =>
    have := (programData_swallow buf pos h hd).2.2.2
    simp only [dataResult, bne_self_eq_false, Bool.false_eq_true, if_false]
    exact congrArg _ (if_neg (fun h => by omega))
  | none =>
    simp only [dataResult, bne_self_eq_false, Bool.false_eq_true, if_false, beq_iff_eq, Int.natCast_add, and_true]

/-- token of a data list that starts at `pos0` and whose specification is `l` -/
def unit_listTok (pos0 : Nat) : ListSpec → Token
  | .ok c n => if n = 0 then mkTok .unknown 0 0 else mkTok .allProgramData 0 ((c : Int) - pos0)
  | .bad _ => mkTok .unknown 0 0

/-- `pos0`: where the data list started; `tlen + result` is the length accumulated since -/
theorem unit_loop (buf : Bytes) (pos0 : Nat) (fuel : Nat) : ∀ (fuel' pos : Nat) (tlen result : Int) (k : Nat),
    pos ≤ buf.length → buf.length - pos + 1 ≤ fuel → buf.length - pos + 1 ≤ fuel' → (pos0 : Int) + tlen + result = pos →
    ((allDataLoop buf fuel pos tlen result k).pos, (allDataLoop buf fuel pos tlen result k).paramCount) =
        unit_listRes (specList fuel' buf pos k) ∧
      (allDataLoop buf fuel pos tlen result k).tok = unit_listTok pos0 (specList fuel' buf pos k) ∧
      pos ≤ (allDataLoop buf fuel pos tlen result k).pos ∧ (allDataLoop buf fuel pos tlen result k).pos ≤ buf.length := by
  induction fuel with
  | zero => intro fuel' pos tlen result k h1 h2; omega
  | succ fuel ih =>
    intro fuel' pos tlen result k h1 h2 h3 hinv
    cases fuel' with
    | zero => omega
    | succ fuel' =>
      have hb : afterWs buf pos ≤ buf.length := unit_ws_bound buf pos h1
      have hp : pos ≤ afterWs buf pos := Nat.le_add_right _ _
      rw [unit_loop_step buf fuel pos tlen result k h1, specList_succ]
      cases hd : specData (buf.drop (afterWs buf pos)) with
      | item n t po pl =>
        have hn : n ≤ _ := (specData_item hd).inside
        rw [List.length_drop] at hn
        have e4 : afterWs buf (afterWs buf pos + n) ≤ buf.length := unit_ws_bound buf _ (by omega)
        have hp' : afterWs buf pos + n ≤ afterWs buf (afterWs buf pos + n) := Nat.le_add_right _ _
        dsimp only
        split
        · rename_i hc
          have hlt := unit_head_lt hc
          rw [show (k : Int) + 1 = ((k + 1 : Nat) : Int) from rfl]
          have := ih fuel' _ (tlen + result + ((afterWs buf (afterWs buf pos + n) - pos : Nat) : Int)) 1 (k + 1)
            hlt (by omega) (by omega) (by omega)
          exact ⟨this.1, this.2.1, by omega, this.2.2.2⟩
        · refine ⟨rfl, ?_, Nat.le_trans hp (Nat.le_trans (Nat.le_add_right _ n) hp'), e4⟩
          simp only [unit_listTok, Nat.add_eq_zero_iff, Nat.succ_ne_self, and_false, if_false, mkTok]
          congr 1
          omega
      | swallow => exact ⟨rfl, rfl, h1, Nat.le_refl _⟩
      | none =>
        dsimp only
        by_cases hk : k = 0
        · subst hk; exact ⟨rfl, rfl, hp, hb⟩
        · rw [if_neg hk, if_neg (by omega)]; exact ⟨rfl, rfl, hp, hb⟩


theorem unit_allData (buf : Bytes) (pos : Nat) (h : pos ≤ buf.length) :
    ((parseAllProgramData buf pos).pos, (parseAllProgramData buf pos).paramCount) =
        unit_listRes (specList (buf.length + 1) buf pos 0) ∧
      pos ≤ (parseAllProgramData buf pos).pos ∧ (parseAllProgramData buf pos).pos ≤ buf.length := by
  have := unit_loop buf pos (buf.length - pos + 2) (buf.length + 1) pos (-1) 1 0 h (by omega) (by omega) (by omega)
  unfold parseAllProgramData
  exact ⟨this.1, this.2.2⟩

theorem unit_allData_tok (buf : Bytes) (pos : Nat) (h : pos ≤ buf.length) :
    (parseAllProgramData buf pos).tok = { unit_listTok pos (specList (buf.length + 1) buf pos 0) with ptr := pos } := by
  have := (unit_loop buf pos (buf.length - pos + 2) (buf.length + 1) pos (-1) 1 0 h (by omega) (by omega) (by omega)).2.1
  unfold parseAllProgramData
  simp only []
  rw [show ((0 : Nat) : Int) = 0 from rfl] at this
  rw [this]

def unit_tail (buf : Bytes) (hdr : Token) (x : Nat × Token × Int) : Parser.Unit :=
  let (p3, data, n) := x
  let (p4, tnl, rnl) := lexNewLine buf p3
  let (p5, tlast, r) : Nat × Token × Int :=
    if rnl != 0 then (p4, tnl, rnl) else
      let (p, t, rs) := lexSemicolon buf p4
      (p, t, rs)
  let (p6, hdr, data) :=
    if !iseos buf p5 && r == 0 then
      (p5 + 1, { hdr with len := 1, type := TokType.invalid }, mkTok .unknown 0 0)
    else (p5, hdr, data)
  let term := if tlast.type == .semicolon then Termination.semicolon
              else if tlast.type == .nl then Termination.nl else Termination.none
  { header := hdr, data := data, nParams := n, term := term, consumed := p6 }

theorem unit_detect_eq (buf : Bytes) :
    detectUnit buf =
      let (p0, _, _) := lexWhiteSpace buf 0
      let (p1, hdr, hlen) := lexProgramHeader buf p0
      let (p2, _, wlen) := lexWhiteSpace buf p1
      unit_tail buf hdr
        (if hlen ≥ 0 then
          if wlen > 0 then
            let a := parseAllProgramData buf p2
            (a.pos, a.tok, a.paramCount)
          else (p2, mkTok .unknown p2 0, 0)
        else (p2, mkTok .unknown 0 0, 0)) := by
  unfold detectUnit unit_tail
  generalize lexWhiteSpace buf 0 = x0
  obtain ⟨p0, t0, r0⟩ := x0
  simp only []

def unit_specTail (s : Bytes) (w0 hl : Nat) (ht : TokType) (x : Nat × Int) : UnitSpec :=
  let (p2, n) := x
  let rest := s.drop p2
  match specToken .nl rest with
  | some e => ⟨p2 + e.consumed, .nl, true, w0, hl, ht, n⟩
  | none =>
    if rest.head? == some 59 then ⟨p2 + 1, .semicolon, true, w0, hl, ht, n⟩
    else if rest.isEmpty then ⟨p2, .none, true, w0, hl, ht, n⟩
    else ⟨p2 + 1, .none, false, w0, 1, .invalid, n⟩

def unit_hdr : Option Expect → Nat × TokType
  | some e => (e.consumed, e.type)
  | none => (0, TokType.unknown)

theorem unit_header {buf : Bytes} {pos hl : Nat} {ht : TokType}
    (hh : unit_hdr (specToken .header (buf.drop pos)) = (hl, ht)) :
    lexProgramHeader buf pos = (pos + hl, Token.mk ht pos hl, (hl : Int)) := by
  rw [programHeader_eq]
  cases he : specToken .header (buf.drop pos) with
  | none => rw [he] at hh; cases hh; rfl
  | some e =>
    rw [he] at hh
    cases hh
    have hs := header_sel_cases (header_spec_sel _ ▸ he)
    simp only [found, hs.off, hs.len, Nat.add_zero]

theorem unit_hdr_valid (s : Bytes) : (unit_hdr (specToken .header s)).2 ≠ .invalid := by
  cases he : specToken .header s with
  | none => simp [unit_hdr]
  | some e => exact (specToken_some he).valid

theorem unit_hdr_le {buf : Bytes} {pos : Nat} (h : pos ≤ buf.length) :
    pos + (unit_hdr (specToken .header (buf.drop pos))).1 ≤ buf.length := by
  cases he : specToken .header (buf.drop pos) with
  | none => exact h
  | some e => exact Nat.add_le_of_le_sub' h (List.length_drop ▸ (specToken_some he).inside)

/-- what `detectUnit` hands to its terminator part after a header of `hl` bytes: the data list, if white space follows -/
def unit_data (s : Bytes) (hl : Nat) : Nat × Token × Int :=
  if wsLen (s.drop (wsLen s + hl)) > 0 then
    let a := parseAllProgramData s (wsLen s + hl + wsLen (s.drop (wsLen s + hl)))
    (a.pos, a.tok, a.paramCount)
  else (wsLen s + hl, mkTok .unknown (wsLen s + hl) 0, 0)

theorem unit_detect_data (s : Bytes) {hl : Nat} {hdr : Token}
    (h : lexProgramHeader s (wsLen s) = (wsLen s + hl, hdr, (hl : Int))) :
    detectUnit s = unit_tail s hdr (unit_data s hl) := by
  rw [unit_detect_eq, unit_ws]
  simp only [List.drop_zero, Nat.zero_add]
  rw [h]
  dsimp only
  rw [unit_ws, unit_data]
  have hge : ((hl : Int) ≥ 0) := by omega
  by_cases hw : wsLen (s.drop (wsLen s + hl)) > 0
  · have hw' : ((wsLen (s.drop (wsLen s + hl)) : Nat) : Int) > 0 := by omega
    simp only [hge, hw, hw', if_true]
  · have hw' : ¬ ((wsLen (s.drop (wsLen s + hl)) : Nat) : Int) > 0 := by omega
    have hz : wsLen (s.drop (wsLen s + hl)) = 0 := by omega
    simp only [hge, hw, hw', if_true, if_false]
    rw [hz, Nat.add_zero]

theorem unit_spec_eq (s : Bytes) (hl : Nat) (ht : TokType) (x : Nat × Int)
    (hh : unit_hdr (specToken .header (s.drop (wsLen s))) = (hl, ht))
    (hx : (if wsLen (s.drop (wsLen s + hl)) > 0 then
            unit_listRes (specList (s.length + 1) s (wsLen s + hl + wsLen (s.drop (wsLen s + hl))) 0)
          else (wsLen s + hl, 0)) = x) :
    specUnit s = unit_specTail s (wsLen s) hl ht x := by
  subst hx
  unfold specUnit
  simp only []
  cases hh0 : specToken Kind.header (List.drop (wsLen s) s) with
  | none =>
    rw [hh0] at hh
    simp only [unit_hdr] at hh
    cases hh
    simp only []
    by_cases hw : wsLen (List.drop (wsLen s + 0) s) > 0
    · simp only [hw, if_true]
      cases specList (s.length + 1) s (wsLen s + 0 + wsLen (List.drop (wsLen s + 0) s)) 0 <;>
        simp only [unit_listRes, unit_specTail] <;> rfl
    · simp only [hw, if_false, unit_specTail]; rfl
  | some e =>
    rw [hh0] at hh
    simp only [unit_hdr] at hh
    cases hh
    simp only []
    by_cases hw : wsLen (List.drop (wsLen s + e.consumed) s) > 0
    · simp only [hw, if_true]
      cases specList (s.length + 1) s (wsLen s + e.consumed + wsLen (List.drop (wsLen s + e.consumed) s)) 0 <;>
        simp only [unit_listRes, unit_specTail] <;> rfl
    · simp only [hw, if_false, unit_specTail]; rfl

/-- for the non-vacuity examples of Props/C13.lean -/
instance agreesDecidable (k : Kind) (buf : Bytes) (pos : Nat) (r : Nat × Token × Int) :
    Decidable (Agrees k buf pos r) := by
  unfold Agrees; split <;> infer_instance

end ScpiVerif.Lemmas.Lexer
