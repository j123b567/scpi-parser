/-
Helper lemmas of C07 (Props/C07.lean): what the result writers emit reads back as the same value.
-/
import ScpiVerif.Model.Ctx
import ScpiVerif.Model.Result
import ScpiVerif.Spec.Message
import ScpiVerif.Lemmas.LexData
import ScpiVerif.Lemmas.IntFmt
import ScpiVerif.Lemmas.Numeric

namespace ScpiVerif.Lemmas.RoundTrip
open ScpiVerif ScpiVerif.Lexer ScpiVerif.Spec ScpiVerif.Spec.Message ScpiVerif.Lemmas.Lexer
open ScpiVerif.IntFmt (specDigits digitChar canon effBase)
open ScpiVerif.Lemmas.IntFmt (pad)
open ScpiVerif.Lemmas.Strto

/-- what may follow a result item in a response -/
def Term (tail : Bytes) : Prop :=
  tail = [] ∨ tail.head? = some 44 ∨ tail.head? = some 59 ∨ tail.head? = some 10 ∨ tail.head? = some 13

theorem hd_term {tail : Bytes} (h : Term tail) (p : UInt8 → Bool)
    (hp : p 44 = false ∧ p 59 = false ∧ p 10 = false ∧ p 13 = false) : hd tail p = false := by
  cases tail with
  | nil => rfl
  | cons x t =>
    simp only [Term, List.head?_cons, Option.some.injEq] at h
    rcases h with h | rfl | rfl | rfl | rfl
    · cases h
    all_goals simp [hp]

def toB (c : Char) : UInt8 := UInt8.ofNat c.toNat

def digs (b n : Nat) : Bytes := (specDigits b n).map toB

structure DigitByte (d : Nat) : Prop where
  val : Prim.digitVal (toB (digitChar d)) = some d
  hex : isXDigit (toB (digitChar d)) = true
  oct : d < 8 → isQDigit (toB (digitChar d)) = true
  bin : d < 2 → isBDigit (toB (digitChar d)) = true
  dec : d < 10 → isDigit (toB (digitChar d)) = true ∧ (toB (digitChar d)).toNat - 48 = d

theorem byte_facts (d : Nat) (h : d < 16) : DigitByte d :=
  have row : ∀ d, d < 16 → Prim.digitVal (toB (digitChar d)) = some d ∧ isXDigit (toB (digitChar d)) = true ∧
      (d < 8 → isQDigit (toB (digitChar d)) = true) ∧ (d < 2 → isBDigit (toB (digitChar d)) = true) ∧
      (d < 10 → isDigit (toB (digitChar d)) = true ∧ (toB (digitChar d)).toNat - 48 = d) := by decide +kernel
  let ⟨h1, h2, h3, h4, h5⟩ := row d h
  ⟨h1, h2, h3, h4, h5⟩

/-- `IntFmt.Digits` for the bytes of the text: the valuations `g` are those of the byte readers -/
structure DigsOK (b n : Nat) (ds : Bytes) : Prop where
  ne : ds ≠ []
  mem : ∀ x ∈ ds, ∃ d, d < b ∧ x = toB (digitChar d)
  val : ∀ (g : UInt8 → Nat), (∀ d, d < b → g (toB (digitChar d)) = d) → ∀ acc, ds.foldl (fun a x => a * b + g x) acc = acc * b ^ ds.length + n

theorem DigsOK.all {b n : Nat} {ds : Bytes} (h : DigsOK b n ds) (p : UInt8 → Prop)
    (hp : ∀ d, d < b → p (toB (digitChar d))) : ∀ x ∈ ds, p x := fun x hx =>
  let ⟨d, hd, e⟩ := h.mem x hx
  e ▸ hp d hd

theorem DigsOK.length_pos {b n : Nat} {ds : Bytes} (h : DigsOK b n ds) : 0 < ds.length :=
  List.length_pos_iff.2 h.ne

theorem digs_ok {b : Nat} (hb : 2 ≤ b) (hb16 : b ≤ 16) (n : Nat) : DigsOK b n (digs b n) := by
  have h := IntFmt.specDigits_ok hb hb16 n
  unfold digs
  refine ⟨?_, ?_, ?_⟩
  · rw [Ne, List.map_eq_nil_iff]; exact h.ne
  · intro x hx
    obtain ⟨c, hc, rfl⟩ := List.mem_map.1 hx
    obtain ⟨d, hd, e⟩ := h.mem c hc
    exact ⟨d, hd, congrArg toB e⟩
  · intro g hg acc
    rw [List.foldl_map, h.val (fun c => g (toB c)) hg, List.length_map]

theorem count_byte : ∀ n, n < 10 → 1 ≤ n →
    isDigit (UInt8.ofNat (48 + n)) = true ∧ UInt8.ofNat (48 + n) ≠ 48 ∧ (UInt8.ofNat (48 + n)).toNat - 48 = n := by
  decide +kernel

theorem decimal_ok (n : Nat) : DigsOK 10 n (Message.decimal n) := digs_ok (by omega) (by omega) n

theorem decimal_length_le (n : Nat) (hn : n < 10^9) : (Message.decimal n).length ≤ 9 := by
  rw [Message.decimal, List.length_map]
  exact IntFmt.specDigits_length_le_pow (by omega) (by omega) hn

theorem block_roundtrip (d : Bytes) (hd : d.length < 10^9) (tail : Bytes) :
    let text := encodeBlock d
    let (p, tok, _) := Lexer.lexBlock (text ++ tail) 0
    p = text.length ∧ tok.type = .block ∧ ((text ++ tail).drop tok.ptr).take tok.len.toNat = d := by
  have ok := decimal_ok d.length
  have hle := decimal_length_le d.length hd
  generalize hl : Message.decimal d.length = l at ok hle
  obtain ⟨c1, c2, c3⟩ := count_byte l.length (by omega) ok.length_pos
  have hdig : l.length ≤ tw isDigit (l ++ (d ++ tail)) :=
    all_take_iff.1 (by simpa using ok.all _ fun dd hdd => ((byte_facts dd (by omega)).dec hdd).1)
  have hval : natOfDigits l = d.length := by
    have := ok.val (fun x => x.toNat - 48) (fun dd hdd => ((byte_facts dd (by omega)).dec hdd).2) 0
    simpa [natOfDigits] using this
  have hbuf : encodeBlock d ++ tail = 35 :: UInt8.ofNat (48 + l.length) :: (l ++ (d ++ tail)) := by
    simp [encodeBlock, hl]
  have hlen : (encodeBlock d).length = 2 + l.length + d.length := by
    simp [encodeBlock, hl]; omega
  -- the specification's verdict on the text; the recogniser returns what it says (`block_lexBlock_eq`)
  have key : specBlock (encodeBlock d ++ tail) = .valid (2 + l.length) d.length := by
    rw [hbuf, block_specBlock_hash, if_pos (by rw [c1, Bool.true_and]; exact bne_iff_ne.2 c2), c3, if_pos hdig,
      List.take_left, hval, if_pos (by simp; omega)]
  dsimp only
  rw [block_lexBlock_eq, List.drop_zero, key, hlen, hbuf]
  refine ⟨by simp [block_result], rfl, ?_⟩
  simp only [block_result, Int.toNat_natCast]
  rw [show 0 + (2 + l.length) = l.length + 1 + 1 by omega]
  simp

def esc (s : Bytes) : Bytes := s.flatMap (fun b => if b == 34 then [34, 34] else [b])

theorem quote_eq (s : Bytes) : quote s = 34 :: (esc s ++ [34]) := by simp [quote, esc]

theorem esc_cons (x : UInt8) (s : Bytes) : esc (x :: s) = (if x == 34 then [34, 34] else [x]) ++ esc s := by
  simp [esc]

theorem esc_length_ge (s : Bytes) : s.length ≤ (esc s).length := by
  induction s with
  | nil => simp [esc]
  | cons x s ih => rw [esc_cons]; split <;> simp <;> omega

/-- the scan of the string body runs over the whole escaped text and stops at the closing quote -/
theorem sq_esc {rest : Bytes} (hr : hd rest (· == 34) = false) : ∀ s : Bytes, (∀ b ∈ s, 1 ≤ b ∧ b ≤ 127) →
    string_SQ 34 (esc s ++ 34 :: rest) (esc s).length
  | [], _ => string_SQ_stop rfl (fun _ => hr)
  | x :: s, hs => by
    have ih := sq_esc hr s (fun b hb => hs b (List.mem_cons_of_mem _ hb))
    rw [esc_cons]
    by_cases hx : x = 34
    · subst hx; exact string_SQ_step2 rfl rfl ih
    · rw [if_neg (by simpa using hx)]
      exact string_SQ_step1 (by have := (hs x (List.mem_cons_self ..)).2; simp [isAscii7, this, hx]) ih

/-- one round of the copy loop away from the end of the token and of the destination -/
theorem copy_step (tok : Bytes) (q : UInt8) {cap : Nat} (htc : tok.length ≤ cap + 1) {iFrom : Nat} {b : UInt8} {rest : Bytes}
    (hm : tok.drop iFrom = b :: rest) (hr : rest ≠ []) (f : Nat) (acc : Bytes) :
    Ctx.copyText.go tok q cap (f + 1) iFrom acc =
      Ctx.copyText.go tok q cap f (if b == q then iFrom + 2 else iFrom + 1) (acc ++ [b]) := by
  have hl := congrArg List.length hm
  have := List.length_pos_iff.2 hr
  rw [List.length_drop, List.length_cons] at hl
  rw [Ctx.copyText.go, if_pos (by omega), if_neg (by omega), List.getD_eq_getElem?_getD, (ByteList.drop_cons hm).1]; rfl

theorem copy_run (tok : Bytes) (cap : Nat) (htc : tok.length ≤ cap + 1) : ∀ (s : Bytes) (fuel iFrom : Nat) (acc : Bytes),
    tok.drop iFrom = esc s ++ [34] → s.length < fuel →
    Ctx.copyText.go tok 34 cap fuel iFrom acc = acc ++ s := by
  intro s
  induction s with
  | nil =>
    intro fuel iFrom acc hm hf
    obtain ⟨f, rfl⟩ : ∃ f, fuel = f + 1 := ⟨fuel - 1, by omega⟩
    have hl := congrArg List.length hm
    simp [esc] at hl
    unfold Ctx.copyText.go
    rw [if_neg (by omega)]; simp
  | cons x s ih =>
    intro fuel iFrom acc hm hf
    obtain ⟨f, rfl⟩ : ∃ f, fuel = f + 1 := ⟨fuel - 1, by omega⟩
    have hf' : s.length < f := Nat.lt_of_succ_lt_succ hf
    rw [esc_cons, List.append_assoc] at hm
    by_cases hx : x = 34
    · subst hx
      rw [if_pos (beq_self_eq_true _)] at hm
      rw [copy_step tok 34 htc hm (by simp) f acc, if_pos (beq_self_eq_true _),
        ih f (iFrom + 2) _ (ByteList.drop_add_of_drop tok iFrom [34, 34] _ hm) hf', List.append_assoc]; rfl
    · have hx' : ¬ (x == 34) = true := by simpa using hx
      rw [if_neg hx'] at hm
      rw [copy_step tok 34 htc hm (by simp) f acc, if_neg hx',
        ih f (iFrom + 1) _ (ByteList.drop_add_of_drop tok iFrom [x] _ hm) hf', List.append_assoc]; rfl

theorem text_roundtrip (s : Bytes) (hs : ∀ b ∈ s, 1 ≤ b ∧ b ≤ 127) (cap : Nat) (hcap : (quote s).length < cap) (tail : Bytes)
    (htail : tail = [] ∨ tail.head? = some 44 ∨ tail.head? = some 59 ∨ tail.head? = some 10 ∨ tail.head? = some 13) :
    let text := quote s
    let (p, tok, _) := Lexer.lexString (text ++ tail) 0
    p = text.length ∧ tok = ⟨.doubleQuote, 0, text.length⟩ ∧ Ctx.copyText text 34 cap = (s, true) := by
  have hr : hd tail (· == 34) = false := hd_term htail _ (by decide)
  have hge := esc_length_ge s
  have hlen : (quote s).length = (esc s).length + 2 := by rw [quote_eq]; simp
  have hbuf : quote s ++ tail = 34 :: (esc s ++ 34 :: tail) := by rw [quote_eq]; simp
  have key : lexString (quote s ++ tail) 0 = (0 + (quote s).length, ⟨.doubleQuote, 0 + 0, (quote s).length⟩, ((quote s).length : Int)) := by
    rw [string_eq, string_specToken, List.drop_zero, string_longest (e := (esc s).length) (by rw [hbuf]; exact sq_esc hr s hs),
      if_pos (by rw [hbuf]; simp), hlen]
    rfl
  have hcopy : Ctx.copyText (quote s) 34 cap = (s, true) := by
    have := copy_run (quote s) cap (by omega) s ((quote s).length + 1) 1 [] (by rw [quote_eq]; rfl) (by omega)
    unfold Ctx.copyText
    simp only [this, List.nil_append]
    have : s.length < cap := by omega
    simp [this]
  dsimp only
  rw [key]
  exact ⟨Nat.zero_add _, rfl, hcopy⟩

/-! ### the shape  -?d+(.d+)?(e[+-]d+)?  -/
section Shape
open ScpiVerif.Prim

/-- the fraction `.d+`, if there is one, as both recognisers scan it: no digit before it, its length, what follows it -/
theorem frac_shape (fp R : Bytes) (hfpd : ∀ b ∈ fp, isDigit b = true) (hR : hd R isDigit = false)
    (h46 : hd R (· == 46) = false) (fpp : Bytes) (hfpp : fpp = if fp = [] then [] else 46 :: fp) :
    hd (fpp ++ R) isDigit = false ∧
    (if hd (fpp ++ R) (· == 46) = true then 1 + tw isDigit ((fpp ++ R).drop 1) else 0) = fpp.length ∧
    (fpp ++ R).drop fpp.length = R := by
  by_cases hfp : fp = []
  · rw [hfpp, if_pos hfp, List.nil_append, h46]
    exact ⟨hR, rfl, rfl⟩
  · rw [hfpp, if_neg hfp]
    refine ⟨rfl, ?_, List.drop_left' rfl⟩
    rw [List.cons_append, if_pos (by rfl), List.drop_one, List.tail_cons, tw_all_append hfpd hR,
      List.length_cons, Nat.add_comm]

theorem sign_len (sg ip R : Bytes) (hsg : sg = [] ∨ sg = [45]) (hip : ip ≠ []) (hipd : ∀ b ∈ ip, isDigit b = true) :
    (if hd (sg ++ (ip ++ R)) isPlusMn = true then 1 else 0) = sg.length := by
  obtain ⟨c, ip', hipe⟩ := List.exists_cons_of_ne_nil hip
  have hc : isDigit c = true := hipd c (by simp [hipe])
  rcases hsg with rfl | rfl
  · have : isPlusMn c = false := by
      cases hh : isPlusMn c
      · rfl
      · rw [decimal_sign_not_digit c hh] at hc; cases hc
    simp [hipe, this]
  · rfl

theorem decimalMant_shape (sg ip R : Bytes) (hsg : sg = [] ∨ sg = [45]) (hip : ip ≠ [])
    (hipd : ∀ b ∈ ip, isDigit b = true) (hR : hd R isDigit = false) :
    decimalMant (sg ++ (ip ++ R)) =
      (sg.length + ip.length + (if hd R (· == 46) = true then 1 + tw isDigit (R.drop 1) else 0),
        ip.length + ((if hd R (· == 46) = true then 1 + tw isDigit (R.drop 1) else 0) - 1)) := by
  unfold decimalMant
  simp only [sign_len sg ip R hsg hip hipd, List.drop_left, tw_all_append hipd hR, drop_add]
  split <;> simp [Nat.add_assoc]

/-- the exponent `e[+-]d+`, if there is one: the lexer's (`eX`) and strtod's (`eT`) are both all of it -/
theorem exp_shape (ex exx tail : Bytes) (es : UInt8) (hexd : ∀ b ∈ ex, isDigit b = true)
    (hexx : exx = if ex = [] then [] else 101 :: es :: ex) (hes : es = 45 ∨ es = 43) (hT : Term tail) :
    Numeric.eX (exx ++ tail) = exx.length ∧ Numeric.eT (exx ++ tail) = exx.length := by
  by_cases hex : ex = []
  · rw [if_pos hex] at hexx
    subst hexx
    have hE := hd_term hT isE (by decide)
    have hW : tw isWs tail = 0 := tw_eq_zero_iff.2 (hd_term hT _ (by decide))
    unfold Numeric.eX Numeric.eT decimalExp
    rw [List.nil_append, hW, List.drop_zero, hE]
    exact ⟨rfl, rfl⟩
  · rw [if_neg hex] at hexx
    subst hexx
    have hd3 : tw isDigit (ex ++ tail) = ex.length := tw_all_append hexd (hd_term hT _ (by decide))
    have hne : ex.length ≠ 0 := fun h => hex (List.length_eq_zero_iff.1 h)
    have hs : sgn (es :: (ex ++ tail)) = 1 := by rcases hes with rfl | rfl <;> rfl
    -- no white space in it: the lexer's exponent is strtod's
    have hT' : Numeric.eT (101 :: es :: ex ++ tail) = (101 :: es :: ex).length := by
      unfold Numeric.eT
      simp only [List.cons_append, hd_cons, List.drop_succ_cons, List.drop_zero, hs, hd3, hne, if_false, List.length_cons]
      rw [if_pos (by decide)]; omega
    exact ⟨(Numeric.eX_noWs rfl (by rcases hes with rfl | rfl <;> rfl)).trans hT', hT'⟩

theorem shape_core (sg ip fpp exx tail fp ex : Bytes) (es : UInt8)
    (hsg : sg = [] ∨ sg = [45]) (hip : ip ≠ []) (hipd : ∀ b ∈ ip, isDigit b = true)
    (hfpd : ∀ b ∈ fp, isDigit b = true) (hexd : ∀ b ∈ ex, isDigit b = true)
    (hfpp : fpp = if fp = [] then [] else 46 :: fp)
    (hexx : exx = if ex = [] then [] else 101 :: es :: ex) (hes : es = 45 ∨ es = 43)
    (hT : Term tail) :
    decimalTotal (sg ++ (ip ++ (fpp ++ (exx ++ tail)))) = sg.length + ip.length + fpp.length + exx.length ∧
    strtodLen (sg ++ (ip ++ (fpp ++ (exx ++ tail)))) 0 = sg.length + ip.length + fpp.length + exx.length := by
  obtain ⟨c, ip', hipe⟩ := List.exists_cons_of_ne_nil hip
  have hipl : 1 ≤ ip.length := List.length_pos_iff.2 hip
  have hR2 : hd (exx ++ tail) isDigit = false ∧ hd (exx ++ tail) (· == 46) = false := by
    rw [hexx]; split
    · exact ⟨hd_term hT _ (by decide), hd_term hT _ (by decide)⟩
    · exact ⟨rfl, rfl⟩
  -- the mantissa, which both recognisers read alike; then the exponent
  obtain ⟨hR1, hF, hdropF⟩ := frac_shape fp (exx ++ tail) hfpd hR2.1 hR2.2 fpp hfpp
  have hM := decimalMant_shape sg ip (fpp ++ (exx ++ tail)) hsg hip hipd hR1
  rw [hF] at hM
  have hnd : (decimalMant (sg ++ (ip ++ (fpp ++ (exx ++ tail))))).2 ≠ 0 := by
    rw [hM]; show ip.length + (fpp.length - 1) ≠ 0; omega
  have hdropM : (sg ++ (ip ++ (fpp ++ (exx ++ tail)))).drop (sg.length + ip.length + fpp.length) = exx ++ tail := by
    rw [drop_add, ByteList.drop2, hdropF]
  obtain ⟨hX, hTe⟩ := exp_shape ex exx tail es hexd hexx hes hT
  refine ⟨by rw [Numeric.decimalTotal_eq hnd, hM, hdropM, hX], ?_⟩
  have hx : hd ((sg ++ (ip ++ (fpp ++ (exx ++ tail)))).drop (sg.length + 1)) (fun b => b == 120 || b == 88) = false := by
    -- the byte after the first digit: a digit, '.', 'e' or what follows the text
    rw [drop_add, List.drop_left, hipe, List.cons_append, List.drop_one, List.tail_cons]
    refine hd_append_false (fun b hb => ?_) ?_
    · exact (ByteClass.digit_excl b (hipd b (hipe ▸ List.mem_cons_of_mem _ hb))).x
    · rw [hfpp]; split
      · rw [hexx]; split
        · exact hd_term hT _ (by decide)
        · rfl
      · rfl
  have hsgn : sgn (sg ++ (ip ++ (fpp ++ (exx ++ tail)))) = sg.length := sign_len sg ip _ hsg hip hipd
  rw [Numeric.strtodLen_closed _ 0 hnd (by
    rw [List.drop_zero, hsgn, Nat.zero_add]
    intro hc
    rw [(Numeric.dHexCond_hd hc).2] at hx; cases hx), List.drop_zero, hM, hdropM, hTe]

theorem float_text_accepted (neg : Bool) (ip fp ex : Bytes) (eneg : Bool)
    (hip : ip ≠ [] ∧ ∀ b ∈ ip, 48 ≤ b ∧ b ≤ 57) (hfp : ∀ b ∈ fp, 48 ≤ b ∧ b ≤ 57) (hex : ∀ b ∈ ex, 48 ≤ b ∧ b ≤ 57) (tail : Bytes)
    (htail : tail = [] ∨ tail.head? = some 44 ∨ tail.head? = some 59 ∨ tail.head? = some 10 ∨ tail.head? = some 13) :
    let text : Bytes := (if neg then [45] else []) ++ ip ++ (if fp = [] then [] else [46] ++ fp) ++
                        (if ex = [] then [] else [101] ++ (if eneg then [45] else [43]) ++ ex)
    (Lexer.lexDecimal (text ++ tail) 0).2.2 = text.length ∧ Prim.strtodLen (text ++ tail) 0 = text.length := by
  have hcore := shape_core (if neg then [45] else []) ip _ _ tail fp ex (if eneg then 45 else 43)
    (by cases neg <;> simp) hip.1 (fun b hb => (ByteClass.isDigit_iff b).2 (hip.2 b hb)) (fun b hb => (ByteClass.isDigit_iff b).2 (hfp b hb))
    (fun b hb => (ByteClass.isDigit_iff b).2 (hex b hb)) (rfl : (if fp = [] then [] else [46] ++ fp) = _)
    (by cases eneg <;> rfl : (if ex = [] then [] else [101] ++ (if eneg then [45] else [43]) ++ ex) = _)
    (by cases eneg <;> simp) htail
  dsimp only
  rw [decimal_lexDecimal_eq]
  simp only [List.append_assoc, List.length_append, List.drop_zero, Nat.add_assoc] at hcore ⊢
  exact ⟨congrArg _ hcore.1, hcore.2⟩

end Shape

section Parse
open ScpiVerif.Parser

theorem lexWhiteSpace_none (mem : Bytes) (n : Nat) (h : hd (mem.drop n) isWs = false) :
    lexWhiteSpace mem n = (n, mkTok .unknown n 0, 0) := by
  unfold lexWhiteSpace
  lex_rel [tw_eq_zero_iff.2 h]
  simp

theorem parse_nondec (L : UInt8) (ds tail : Bytes) (pd : UInt8 → Bool) (ty : TokType)
    (hL : (L = 72 ∧ pd = isXDigit ∧ ty = .hexnum) ∨ (L = 81 ∧ pd = isQDigit ∧ ty = .octnum) ∨ (L = 66 ∧ pd = isBDigit ∧ ty = .binnum))
    (hds : ds ≠ []) (hall : ∀ x ∈ ds, pd x = true) (hpt : hd tail pd = false) (hT : Term tail) :
    parseProgramData (35 :: L :: (ds ++ tail)) 0 = (2 + ds.length, Token.mk ty 2 ds.length, (ds.length : Int) + 2) := by
  have hlen : 1 ≤ ds.length := List.length_pos_iff.2 hds
  have e1 := lexWhiteSpace_none (35 :: L :: (ds ++ tail)) 0 rfl
  have htw : tw pd (ds ++ tail) = ds.length := tw_all_append hall hpt
  have e2 : lexNondecimal (35 :: L :: (ds ++ tail)) 0 = (2 + ds.length, mkTok ty 2 ds.length, (ds.length : Int) + 2) := by
    unfold lexNondecimal
    rcases hL with ⟨rfl, rfl, rfl⟩ | ⟨rfl, rfl, rfl⟩ | ⟨rfl, rfl, rfl⟩
    all_goals
      simp only [peekP, List.getElem?_cons_zero, List.getElem?_cons_succ, Nat.zero_add]
      simp only [skipMany_eq, Nat.reduceAdd, List.drop_succ_cons, List.drop_zero, htw]
      simp +decide
      rw [if_pos (by omega)]
      refine Prod.ext rfl (Prod.ext ?_ ?_)
      · simp only [mkTok]; congr 1; omega
      · simp only; omega
  have hdrop : (35 :: L :: (ds ++ tail)).drop (2 + ds.length) = tail := by
    rw [Nat.add_comm, drop_add]; simp
  have e5 := lexWhiteSpace_none (35 :: L :: (ds ++ tail)) (2 + ds.length) (by rw [hdrop]; exact hd_term hT _ (by decide))
  have hn0 : (((ds.length : Int) + 2) != 0) = true := by simp; omega
  unfold parseProgramData
  simp only [e1, e2, hn0, if_true, e5]
  simp [mkTok]

end Parse

section Strto
open ScpiVerif.Prim

theorem strtoSyntax_run (mem : Bytes) (off base n : Nat) (sg ds tail : Bytes)
    (hm : mem.drop off = sg ++ (ds ++ tail)) (hsg : sg = [] ∨ sg = [45]) (hok : DigsOK base n ds)
    (hb16 : base ≤ 16) (hT : Term tail) :
    strtoSyntax mem off base = (sg.length + ds.length, decide (sg = [45]), n) := by
  have hall : ∀ x ∈ ds, digitOK base x = true :=
    hok.all _ fun d hd => (digitOK_some (byte_facts d (by omega)).val).trans (decide_eq_true hd)
  have hval := hok.val (fun x => (digitVal x).getD 0) (fun d hd => by rw [(byte_facts d (by omega)).val]; rfl) 0
  rw [strtoSyntax_list, hm, syn_digits base sg ds tail (hsg.imp_right .inr) hok.ne hall
    (hd_term hT _ ⟨rfl, rfl, rfl, rfl⟩) (fun _ => hd_term hT _ (by decide)), digVal, hval]
  simp

end Strto

section Ints
open ScpiVerif.Prim ScpiVerif.Parser

theorem strtoulTo_run (w : Nat) (hw : w ≤ 64) (v : Nat) (hv : v < 2^w) (mem : Bytes) (off base : Nat)
    (ds tail : Bytes) (hm : mem.drop off = ds ++ tail) (hok : DigsOK base v ds) (hb16 : base ≤ 16) (hT : Term tail) :
    strtoulTo w mem off base = (ds.length, v) :=
  strtoulTo_of_syntax w hw mem off base _ v false
    (by simpa using strtoSyntax_run mem off base v [] ds tail (by simpa using hm) (.inl rfl) hok hb16 hT)
    hok.length_pos hv (by simp)

theorem strtolTo_run (w : Nat) (hw : 0 < w ∧ w ≤ 64) (mem : Bytes) (sg ds tail : Bytes) (m : Nat)
    (hm : mem.drop 0 = sg ++ (ds ++ tail)) (hsg : sg = [] ∨ sg = [45]) (hok : DigsOK 10 m ds) (hT : Term tail)
    (hr : -(2^(w-1) : Int) ≤ (if sg = [45] then -(m : Int) else m) ∧ (if sg = [45] then -(m : Int) else (m : Int)) < 2^(w-1)) :
    strtolTo w mem 0 10 = (sg.length + ds.length, if sg = [45] then -(m : Int) else m) := by
  have := strtolTo_of_syntax w hw mem 0 10 _ m _ (strtoSyntax_run mem 0 10 m sg ds tail hm hsg hok (by omega) hT)
    (by have := hok.length_pos; omega) (by simpa using hr)
  simpa using this

theorem pre_eq : bytesOf "#B" = [35, 66] ∧ bytesOf "#Q" = [35, 81] ∧ bytesOf "#H" = [35, 72] := by decide +kernel

theorem intText_unsigned (w v : Nat) (base : Int) :
    intText w v base false =
      (if base = 2 then [35, 66] else if base = 8 then [35, 81] else if base = 16 then [35, 72] else []) ++
        digs (effBase base) v := by
  simp only [intText, canon, Bool.false_and, Bool.false_eq_true, if_false, pre_eq.1, pre_eq.2.1, pre_eq.2.2]
  rfl

theorem nondec_roundtrip (w : Nat) (hw : w ≤ 64) (v : Nat) (hv : v < 2^w) (b : Nat) (hb : 2 ≤ b ∧ b ≤ 16) (L : UInt8)
    (pd : UInt8 → Bool) (ty : TokType)
    (hL : (L = 72 ∧ pd = isXDigit ∧ ty = .hexnum) ∨ (L = 81 ∧ pd = isQDigit ∧ ty = .octnum) ∨ (L = 66 ∧ pd = isBDigit ∧ ty = .binnum))
    (hpd : ∀ d, d < b → pd (toB (digitChar d)) = true)
    (hpt : pd 0 = false ∧ pd 44 = false ∧ pd 59 = false ∧ pd 10 = false ∧ pd 13 = false)
    (tail : Bytes) (hT : Term tail) :
    parseProgramData (35 :: L :: (digs b v ++ tail)) 0 = (2 + (digs b v).length, Token.mk ty 2 (digs b v).length, ((digs b v).length : Int) + 2) ∧
    strtoulTo w (35 :: L :: (digs b v ++ tail)) 2 b = ((digs b v).length, v) :=
  have hok := digs_ok hb.1 hb.2 v
  ⟨parse_nondec L (digs b v) tail pd ty hL hok.ne (hok.all _ hpd) (hd_term hT pd hpt.2) hT,
    strtoulTo_run w hw v hv _ 2 b (digs b v) tail rfl hok hb.2 hT⟩

theorem dec_parse (sg : Bytes) (hsg : sg = [] ∨ sg = [45]) (m : Nat) (tail : Bytes) (hT : Term tail) :
    parseProgramData (sg ++ (digs 10 m ++ tail)) 0 =
      (sg.length + (digs 10 m).length, Token.mk .decimal 0 ((sg.length + (digs 10 m).length : Nat) : Int),
        ((sg.length + (digs 10 m).length : Nat) : Int)) := by
  have hok := digs_ok (b := 10) (by omega) (by omega) m
  have hdig : ∀ x ∈ digs 10 m, isDigit x = true :=
    hok.all _ fun d hd => ((byte_facts d (by omega)).dec hd).1
  have hcore := (shape_core sg (digs 10 m) [] [] tail [] [] 45 hsg hok.ne hdig (by simp) (by simp) rfl rfl (.inl rfl) hT).1
  simp only [List.nil_append, List.length_nil, Nat.add_zero] at hcore
  have hlen := hok.length_pos
  have hdrop : (sg ++ (digs 10 m ++ tail)).drop (sg.length + (digs 10 m).length) = tail := ByteList.drop2 _ _ _
  have := parseProgramData_decimal (buf := sg ++ (digs 10 m ++ tail)) (by omega)
    (by rw [hcore, hdrop]; exact hd_term hT _ (by decide)) (by rw [hcore, hdrop]; exact hd_term hT _ (by decide))
  rwa [hcore] at this

theorem unsigned_roundtrip (w : Nat) (hw : w = 32 ∨ w = 64) (v : Nat) (hv : v < 2^w) (base : Int)
    (hb : base = 2 ∨ base = 8 ∨ base = 10 ∨ base = 16) (tail : Bytes)
    (htail : tail = [] ∨ tail.head? = some 44 ∨ tail.head? = some 59 ∨ tail.head? = some 10 ∨ tail.head? = some 13) :
    let text := intText w v base false
    let mem := text ++ tail
    let (p, tok, _) := Parser.parseProgramData mem 0
    p = text.length ∧
    tok.type = (if base = 2 then TokType.binnum else if base = 8 then .octnum else if base = 16 then .hexnum else .decimal) ∧
    Prim.strtoulTo w mem tok.ptr (if base = 2 then 2 else if base = 8 then 8 else if base = 16 then 16 else 10) =
      (text.length - tok.ptr, v) := by
  have hT : Term tail := htail
  have hw : w ≤ 64 := by omega
  dsimp only
  rw [intText_unsigned]
  rcases hb with rfl | rfl | rfl | rfl
  · obtain ⟨h1, h2⟩ := nondec_roundtrip w hw v hv 2 (by omega) 66 isBDigit .binnum (.inr (.inr ⟨rfl, rfl, rfl⟩))
      (fun d hd => (byte_facts d (by omega)).bin hd) (by decide) tail hT
    simp only [show effBase 2 = 2 from rfl, ↓reduceIte, List.cons_append, List.nil_append, h1, h2, List.length_cons]
    exact ⟨by omega, trivial, by congr 1⟩
  · obtain ⟨h1, h2⟩ := nondec_roundtrip w hw v hv 8 (by omega) 81 isQDigit .octnum (.inr (.inl ⟨rfl, rfl, rfl⟩))
      (fun d hd => (byte_facts d (by omega)).oct hd) (by decide) tail hT
    simp only [show effBase 8 = 8 from rfl, Int.reduceEq, ↓reduceIte, List.cons_append, List.nil_append, h1, h2,
      List.length_cons]
    exact ⟨by omega, trivial, by congr 1⟩
  · have hp : parseProgramData (digs 10 v ++ tail) 0 = _ := dec_parse [] (.inl rfl) v tail hT
    have hs := strtoulTo_run w hw v hv (digs 10 v ++ tail) 0 10 (digs 10 v) tail rfl
      (digs_ok (by omega) (by omega) v) (by omega) hT
    simp only [show effBase 10 = 10 from rfl, Int.reduceEq, ↓reduceIte, List.nil_append, hp, hs]
    exact ⟨Nat.zero_add _, trivial, rfl⟩
  · obtain ⟨h1, h2⟩ := nondec_roundtrip w hw v hv 16 (by omega) 72 isXDigit .hexnum (.inl ⟨rfl, rfl, rfl⟩)
      (fun d hd => (byte_facts d (by omega)).hex) (by decide) tail hT
    simp only [show effBase 16 = 16 from rfl, Int.reduceEq, ↓reduceIte, List.cons_append, List.nil_append, h1, h2,
      List.length_cons]
    exact ⟨by omega, trivial, by congr 1⟩

theorem wrapSigned_natCast {w x : Nat} (hx : x < 2^w) :
    Prim.wrapSigned w x = if 2^(w-1) ≤ x then (x : Int) - ((2^w : Nat) : Int) else x := by
  have hp : ∀ k, ((2:Int)^k) = ((2^k : Nat) : Int) := by intro k; simp
  unfold Prim.wrapSigned
  simp only [hp, Int.emod_eq_of_lt (Int.natCast_nonneg x) (Int.ofNat_lt.2 hx), ge_iff_le, Int.ofNat_le]

theorem intText_signed (w pat : Nat) :
    intText w pat 10 true = if pat ≥ 2^(w-1) then 45 :: digs 10 (2^w - pat) else digs 10 pat := by
  have e : effBase 10 = 10 := rfl
  have e2 : ¬ ((10 : Int) = 2) := by decide
  have e8 : ¬ ((10 : Int) = 8) := by decide
  have e16 : ¬ ((10 : Int) = 16) := by decide
  simp only [intText, canon, e, e2, e8, e16, if_false, List.nil_append, Bool.true_and, decide_true, Bool.and_true,
    decide_eq_true_eq]
  split
  · rfl
  · rfl

theorem signed_roundtrip (w : Nat) (hw : w = 32 ∨ w = 64) (pat : Nat) (hv : pat < 2^w) (tail : Bytes)
    (htail : tail = [] ∨ tail.head? = some 44 ∨ tail.head? = some 59 ∨ tail.head? = some 10 ∨ tail.head? = some 13) :
    let text := intText w pat 10 true
    let mem := text ++ tail
    let (p, tok, _) := Parser.parseProgramData mem 0
    p = text.length ∧ tok.type = .decimal ∧ tok.ptr = 0 ∧
    Prim.strtolTo w mem 0 10 = (text.length, Prim.wrapSigned w pat) := by
  have hT : Term tail := htail
  have h2 : 2^w = 2 * 2^(w-1) := by rcases hw with rfl | rfl <;> decide
  have hc : ((2 : Int)^(w-1)) = ((2^(w-1) : Nat) : Int) := by simp
  dsimp only
  -- the text is that of the value `wrapSigned w pat`, which lies in the range of the destination
  rw [intText_signed, wrapSigned_natCast hv]
  by_cases hneg : pat ≥ 2^(w-1)
  · have hok := digs_ok (b := 10) (by omega) (by omega) (2^w - pat)
    have hp : parseProgramData (45 :: (digs 10 (2^w - pat) ++ tail)) 0 = _ := dec_parse [45] (.inr rfl) (2^w - pat) tail hT
    have hs := strtolTo_run w (by omega) (45 :: (digs 10 (2^w - pat) ++ tail)) [45] (digs 10 (2^w - pat)) tail (2^w - pat) rfl
      (.inr rfl) hok hT (by rw [if_pos rfl, hc]; omega)
    rw [if_pos hneg, if_pos hneg, List.cons_append, hp, hs, if_pos rfl]
    exact ⟨Nat.add_comm 1 _, rfl, rfl, Prod.ext (Nat.add_comm 1 _) (by omega)⟩
  · have hok := digs_ok (b := 10) (by omega) (by omega) pat
    have hp : parseProgramData (digs 10 pat ++ tail) 0 = _ := dec_parse [] (.inl rfl) pat tail hT
    have hs := strtolTo_run w (by omega) (digs 10 pat ++ tail) [] (digs 10 pat) tail pat rfl (.inl rfl) hok hT
      (by rw [if_neg (by decide), hc]; omega)
    rw [if_neg hneg, if_neg hneg, hp, hs, if_neg (by decide)]
    exact ⟨Nat.zero_add _, rfl, rfl, Prod.ext (Nat.zero_add _) rfl⟩

end Ints

/-- the implicit C conversion of intN_t to a wider signed type -/
theorem wrapSigned_signExtend {n w : Nat} (hn : 0 < n) (hnw : n ≤ w) {pat : Nat} (hv : pat < 2^n) :
    Prim.wrapSigned w (Result.signExtend n w pat) = Prim.wrapSigned n pat ∧ Result.signExtend n w pat < 2^w := by
  obtain ⟨n, rfl⟩ : ∃ m, n = m + 1 := ⟨n - 1, by omega⟩
  obtain ⟨w, rfl⟩ : ∃ m, w = m + 1 := ⟨w - 1, by omega⟩
  have hle : 2^n ≤ 2^w := Nat.pow_le_pow_right (by omega) (by omega)
  have hlt : Result.signExtend (n+1) (w+1) pat < 2^(w+1) := by
    unfold Result.signExtend; rw [Nat.pow_succ] at hv ⊢; split <;> omega
  refine ⟨?_, hlt⟩
  rw [wrapSigned_natCast hlt, wrapSigned_natCast hv]
  unfold Result.signExtend
  simp only [Nat.add_sub_cancel, Nat.pow_succ] at hv ⊢
  generalize 2^n = p at *
  generalize 2^w = q at *
  by_cases h : p ≤ pat
  · rw [if_pos h, if_pos (by omega), if_pos h]; omega
  · rw [if_neg h, if_neg (by omega), if_neg h]

theorem narrow_roundtrip (n : Nat) (hn : n = 8 ∨ n = 16) (pat : Nat) (hv : pat < 2^n) :
    Prim.wrapSigned 32 (Result.signExtend n 32 pat) = Prim.wrapSigned n pat ∧ Result.signExtend n 32 pat < 2^32 :=
  wrapSigned_signExtend (by omega) (by omega) hv

theorem bool_roundtrip (b : Bool) :
    intText 32 (if b then 1 else 0) 10 false = (if b then [49] else [48]) := by
  cases b <;> decide +kernel

end ScpiVerif.Lemmas.RoundTrip
