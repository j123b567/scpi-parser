/-
Lemmas for C06 (response framing).

The proof is an invariant over the output state during one `parse`, relating the real fields
(written, outputCount, firstOutput, flushes) to the ghost fields (gCur, gItems, gUnits):
 * `Closed` / `Open` : inside a unit, between items / inside an item (delimiter already written);
 * `Between`         : between units;
each disjoined with "gPartial = true" (the ghost misuse flag is absorbing), so that every writer,
every script operation, `processCommand`, `parseLoop` and `parse` are plain implications.
The delimiter in closed form and the integer texts are in Lemmas/ResultWrite.lean (same namespace).
-/
import ScpiVerif.Model.Ctx
import ScpiVerif.Lemmas.ApiFrame
import ScpiVerif.Spec.Message
import ScpiVerif.Lemmas.ResultWrite

namespace ScpiVerif.Lemmas.Framing
open ScpiVerif ScpiVerif.Ctx ScpiVerif.Lexer ScpiVerif.Result

def joinSep (s : UInt8) : List Bytes → Bytes
  | [] => []
  | x :: xs => xs.foldl (fun acc y => acc ++ [s] ++ y) x

theorem joinSep_snoc (s : UInt8) (l : List Bytes) (y : Bytes) :
    joinSep s (l ++ [y]) = if l = [] then y else joinSep s l ++ [s] ++ y := by
  cases l with
  | nil => simp [joinSep]
  | cons x xs => simp [joinSep, List.foldl_append]

def resp (U : List (List Bytes)) : List (List Bytes) := U.filter (fun u => !u.isEmpty)

def body (U : List (List Bytes)) : Bytes := joinSep 59 ((resp U).map (joinSep 44))

def semi (f : Bool) : Bytes := if f then [] else [59]

theorem frame_eq (U : List (List Bytes)) :
    Spec.Message.frame U =
      if (resp U).isEmpty then [] else body U ++ Spec.Message.bytesOf Gen.LINE_ENDING := by
  have key : ∀ (f : UInt8 → List Bytes → Bytes), (∀ s l, f s l = joinSep s l) →
      f 59 ((resp U).map (f 44)) = joinSep 59 ((resp U).map (joinSep 44)) := by
    intro f hf
    have : f = joinSep := by funext s l; exact hf s l
    rw [this]
  unfold Spec.Message.frame
  show (if (resp U).isEmpty = true then [] else _) = _
  split
  · rfl
  · exact congrArg (· ++ Spec.Message.bytesOf Gen.LINE_ENDING)
      (key _ (fun s l => by cases l <;> rfl))

theorem resp_snoc (U : List (List Bytes)) (I : List Bytes) :
    resp (U ++ [I]) = if I = [] then resp U else resp U ++ [I] := by
  unfold resp
  cases I <;> simp [List.filter_append]

theorem body_snoc (U : List (List Bytes)) (I : List Bytes) :
    body (U ++ [I]) =
      if I = [] then body U else body U ++ semi (resp U).isEmpty ++ joinSep 44 I := by
  unfold body
  rw [resp_snoc]
  by_cases hI : I = []
  · simp [hI]
  · simp only [hI, if_false, List.map_append, List.map_cons, List.map_nil, joinSep_snoc]
    by_cases hr : resp U = []
    · simp [hr, joinSep, semi]
    · have : (resp U).isEmpty = false := by
        cases h : resp U with
        | nil => exact absurd h hr
        | cons _ _ => rfl
      simp [hr, semi, this]

structure Closed (pre : Bytes) (U : List (List Bytes)) (f : Bool) (F : Nat) (o : Out) : Prop where
  units : o.gUnits = U
  first : o.firstOutput = f
  fl : o.flushes = F
  cur : o.gCur = []
  pos : 0 < o.outputCount ↔ o.gItems ≠ []
  neg : o.outputCount < 0 ↔ (o.gItems = [] ∧ f = false)
  wr : o.written = pre ++ (if o.gItems = [] then [] else semi f ++ joinSep 44 o.gItems)

structure Open (pre : Bytes) (U : List (List Bytes)) (f : Bool) (F : Nat) (o : Out) : Prop where
  units : o.gUnits = U
  first : o.firstOutput = f
  fl : o.flushes = F
  nn : 0 ≤ o.outputCount
  pos : 0 < o.outputCount ↔ o.gItems ≠ []
  wr : o.written = pre ++ semi f ++ (if o.gItems = [] then [] else joinSep 44 o.gItems ++ [44]) ++ o.gCur

def St (pre : Bytes) (U : List (List Bytes)) (f : Bool) (F : Nat) (b : Bool) (o : Out) : Prop :=
  o.gPartial = true ∨ (if b then Open pre U f F o else Closed pre U f F o)

/-- state at the boundary of two script operations: open iff something is under construction -/
def OSt (pre : Bytes) (U : List (List Bytes)) (f : Bool) (F : Nat) (o : Out) : Prop :=
  St pre U f F (!o.gCur.isEmpty) o

variable {pre : Bytes} {U : List (List Bytes)} {f : Bool} {F : Nat}

theorem St.of_closed {o : Out} (h : St pre U f F false o) : OSt pre U f F o := by
  rcases h with h | h
  · exact Or.inl h
  · have hc : Closed pre U f F o := by simpa using h
    right; simp [hc.cur]; exact hc

theorem St.of_open {o : Out} (h : St pre U f F true o) (hne : o.gCur ≠ []) : OSt pre U f F o := by
  unfold OSt
  have : (!o.gCur.isEmpty) = true := by
    cases hc : o.gCur with
    | nil => exact absurd hc hne
    | cons _ _ => rfl
  rw [this]; exact h

theorem writeDelimiter_st {o : Out} (h : OSt pre U f F o) : St pre U f F true (writeDelimiter o) := by
  unfold OSt at h
  rw [writeDelimiter_eq, Blocks.sepOf]
  cases hc : o.gCur with
  | cons x xs => left; simp
  | nil =>
    rcases h with h | h
    · left; simp [h]
    · right
      simp only [hc, List.isEmpty_nil, Bool.not_true, Bool.false_eq_true, if_false] at h
      simp only [if_true]
      obtain ⟨hu, hf, hfl, _, hpos, hneg, hwr⟩ := h
      by_cases h1 : o.outputCount > 0
      · have hi := hpos.1 h1
        have h2 : ¬ o.outputCount < 0 := by omega
        exact ⟨hu, hf, hfl, by simp [h2]; omega, by simpa [h2] using hpos, by
          simp [hwr, hi, h1]⟩
      · by_cases h2 : o.outputCount < 0
        · obtain ⟨hi, hf0⟩ := hneg.1 h2
          exact ⟨hu, hf, hfl, by simp [h2], by simp [hi, h2], by simp [hwr, hi, hf0, semi, h1, h2]⟩
        · have hi : o.gItems = [] := Decidable.byContradiction (fun hi => h1 (hpos.2 hi))
          have hf1 : f = true := by
            cases f with
            | true => rfl
            | false => exact absurd (hneg.2 ⟨hi, rfl⟩) h2
          exact ⟨hu, hf, hfl, by simp [h2]; omega, by simpa [h2] using hpos, by simp [hwr, hi, hf1, semi, h1, h2]⟩

theorem writeData_st {o : Out} (d : Bytes) (h : St pre U f F true o) : St pre U f F true (writeData o d) := by
  rcases h with h | h
  · exact Or.inl h
  · right
    simp only [if_true] at h ⊢
    obtain ⟨hu, hf, hfl, hnn, hpos, hwr⟩ := h
    exact ⟨hu, hf, hfl, hnn, hpos, by simp [writeData, hwr]⟩

theorem bump_st {o : Out} (h : St pre U f F true o) : St pre U f F false (bump o) := by
  rcases h with h | h
  · exact Or.inl h
  · right
    simp only [if_true] at h
    simp only [Bool.false_eq_true, if_false]
    obtain ⟨hu, hf, hfl, hnn, hpos, hwr⟩ := h
    refine ⟨hu, hf, hfl, rfl, ?_, ?_, ?_⟩
    · simp [bump]; omega
    · simp [bump]; omega
    · simp only [bump, hwr, joinSep_snoc]
      by_cases hi : o.gItems = [] <;> simp [hi]

theorem St.congr {b : Bool} {o o' : Out} (h : St pre U f F b o)
    (h1 : o'.outputCount = o.outputCount) (h2 : o'.firstOutput = o.firstOutput)
    (h3 : o'.written = o.written) (h4 : o'.flushes = o.flushes) (h5 : o'.gCur = o.gCur)
    (h6 : o'.gItems = o.gItems) (h7 : o'.gUnits = o.gUnits) (h8 : o.gPartial = true → o'.gPartial = true) :
    St pre U f F b o' := by
  rcases h with h | h
  · exact Or.inl (h8 h)
  · right
    cases b with
    | true =>
      simp only [if_true] at h ⊢
      obtain ⟨hu, hf, hfl, hnn, hpos, hwr⟩ := h
      exact ⟨by rw [h7, hu], by rw [h2, hf], by rw [h4, hfl], by rw [h1]; exact hnn,
        by rw [h1, h6]; exact hpos, by rw [h3, h5, h6]; exact hwr⟩
    | false =>
      simp only [Bool.false_eq_true, if_false] at h ⊢
      obtain ⟨hu, hf, hfl, hc, hpos, hneg, hwr⟩ := h
      exact ⟨by rw [h7, hu], by rw [h2, hf], by rw [h4, hfl], by rw [h5, hc],
        by rw [h1, h6]; exact hpos, by rw [h1, h6]; exact hneg, by rw [h3, h6]; exact hwr⟩

/-- delimiter, payload chunks, bump: the shape of every complete-item writer -/
theorem item_st {o : Out} (ds : List Bytes) (h : OSt pre U f F o) :
    OSt pre U f F (bump (ds.foldl writeData (writeDelimiter o))) := by
  have : ∀ (ds : List Bytes) (o : Out), St pre U f F true o → St pre U f F true (ds.foldl writeData o) := by
    intro ds
    induction ds with
    | nil => intro o h; exact h
    | cons d ds ih => intro o h; exact ih _ (writeData_st d h)
  exact St.of_closed (bump_st (this ds _ (writeDelimiter_st h)))

theorem resultBlockHeader_st {o : Out} (n : Nat) (h : OSt pre U f F o) :
    OSt pre U f F (resultBlockHeader o n) := by
  unfold resultBlockHeader
  apply St.of_open
  · apply writeData_st
    apply writeDelimiter_st
    exact St.congr h rfl rfl rfl rfl rfl rfl rfl id
  · simp [writeData]

theorem resultBlockData_st {o : Out} (d : Bytes) (h : OSt pre U f F o) :
    OSt pre U f F (resultBlockData o d) := by
  unfold resultBlockData
  split
  · exact St.congr h rfl rfl rfl rfl rfl rfl rfl id
  · cases hc : o.gCur with
    | nil =>
      left
      simp only [List.isEmpty_nil, Bool.or_true]
      split <;> rfl
    | cons x xs =>
      have ho : St pre U f F true o := by
        have := h; unfold OSt at this; simpa [hc] using this
      have h1 : St pre U f F true
          (writeData { o with arbRemaining := o.arbRemaining - d.length,
                              gPartial := o.gPartial || o.gCur.isEmpty } d) :=
        writeData_st d (St.congr ho rfl rfl rfl rfl rfl rfl rfl (by intro h; simp [h]))
      rw [hc] at h1
      dsimp only
      split
      · exact St.of_closed (bump_st h1)
      · exact St.of_open h1 (by simp [writeData])

/-! ### SCPI_ResultError (reached from handler scripts through the library's SYSTem:ERRor[:NEXT]? handler) -/

/-- closing a ghost item without counting it, when the unit already has a finished item -/
theorem closeGhost_st {o : Out} (hs : St pre U f F true o) (hi : o.gPartial = true ∨ o.gItems ≠ []) :
    OSt pre U f F { o with gItems := o.gItems ++ [o.gCur], gCur := [] } := by
  apply St.of_closed
  rcases hs with hp | hs
  · exact Or.inl hp
  rcases hi with hp | hi
  · exact Or.inl hp
  right
  simp only [if_true] at hs
  simp only [Bool.false_eq_true, if_false]
  obtain ⟨hu, hf, hfl, hnn, hpos, hwr⟩ := hs
  have h0 := hpos.2 hi
  refine ⟨hu, hf, hfl, rfl, ?_, ?_, ?_⟩
  · simp [h0]
  · simp; omega
  · simp only [hwr, joinSep_snoc]
    simp [hi]

theorem resultError_st {o : Out} (code : Int) (desc : Bytes) (parts : List (Option Bytes))
    (h : OSt pre U f F o) : OSt pre U f F (resultError o code desc parts) := by
  unfold resultError
  dsimp only
  obtain ⟨x, hx⟩ := errParts_appends (some desc :: parts) 0 Gen.SCPI_STD_ERROR_DESC_MAX_STRING_LENGTH.toNat
    (decide ((writeData (writeDelimiter (resultIntBaseSign o 32 (if code < 0 then (2^32 - code.natAbs) else code.toNat) 10 true))
      [34]).outputCount > 0))
  rw [hx _ rfl]
  -- after the integer item and the delimiter: open, with a finished item
  refine closeGhost_st (writeData_st _ (writeData_st _ (writeData_st _ (writeDelimiter_st (item_st [_, _] h)))))
    (Or.inr ?_)
  simp [writeDelimiter_eq, resultIntBaseSign, bump, writeData]

theorem OSt.of_eq {o o' : Out} (h : OSt pre U f F o) (e : o' = o) : OSt pre U f F o' := e ▸ h

theorem ost_closed : Api.WriterClosed (fun g => ∀ o : Out, OSt pre U f F o → OSt pre U f F (g o)) where
  id _ h := h
  comp hf hg _ h := hg _ (hf _ h)
  item ds _ h := item_st ds h
  header n _ h := resultBlockHeader_st n h
  data d _ h := resultBlockData_st d h
  refuse _ h := St.congr h rfl rfl rfl rfl rfl rfl rfl id
  error code desc parts _ h := resultError_st code desc parts h

theorem ost_inv : Api.ApiInv (fun _ => True) (fun c => OSt pre U f F c.out) where
  emit _ _ h := h
  pushError code info n _ h := h.of_eq (Params.pushError_out _ code info n)
  cursor _ _ h := h
  write hg h := ost_closed.writer hg _ h
  status _ h := h
  set _ _ _ h := h

structure Between (W0 : Bytes) (F : Nat) (o : Out) : Prop where
  wr : o.written = W0 ++ body o.gUnits
  first : o.firstOutput = (resp o.gUnits).isEmpty
  items : o.gItems = []
  cur : o.gCur = []
  fl : o.flushes = F

def BSt (W0 : Bytes) (F : Nat) (o : Out) : Prop := o.gPartial = true ∨ Between W0 F o

variable {W0 : Bytes}

theorem start_st {o : Out} (h : BSt W0 F o) {f : Bool} (hf : o.firstOutput = f) :
    OSt (W0 ++ body o.gUnits) o.gUnits f F
      { o with outputCount := if o.firstOutput then 0 else -1, arbRemaining := 0 } := by
  subst hf
  rcases h with h | h
  · exact Or.inl h
  · right
    obtain ⟨hwr, hf, hi, hc, hfl⟩ := h
    simp only [hc, List.isEmpty_nil, Bool.not_true, Bool.false_eq_true, if_false]
    refine ⟨rfl, rfl, hfl, rfl, ?_, ?_, ?_⟩
    · simp only [hi]; cases o.firstOutput <;> simp
    · simp only [hi]; cases o.firstOutput <;> simp
    · simp [hi, hwr]

theorem finish_st {o : Out} (h : OSt (W0 ++ body U) U (resp U).isEmpty F o) :
    BSt W0 F (endUnit (if o.outputCount > 0 then { o with firstOutput := false } else o)) := by
  unfold OSt at h
  cases hc : o.gCur with
  | cons x xs =>
    left
    split <;> simp [endUnit, hc]
  | nil =>
    rcases h with h | h
    · left
      split <;> simp [endUnit, h]
    · right
      simp only [hc, List.isEmpty_nil, Bool.not_true, Bool.false_eq_true, if_false] at h
      obtain ⟨hu, hf, hfl, _, hpos, hneg, hwr⟩ := h
      by_cases hi : o.gItems = []
      · have h0 : ¬ o.outputCount > 0 := fun h => hpos.1 h hi
        simp only [h0, if_false, endUnit]
        refine ⟨?_, ?_, rfl, rfl, hfl⟩
        · simp [hwr, hi, hu, body_snoc]
        · simp [hi, hu, resp_snoc, hf]
      · have h0 : o.outputCount > 0 := hpos.2 hi
        simp only [h0, if_true, endUnit]
        refine ⟨?_, ?_, rfl, rfl, hfl⟩
        · simp [hwr, hi, hu, body_snoc]
        · simp [hi, hu, resp_snoc]

open ScpiVerif.Lemmas.Isolation (pcReset pcBody pcTail pcOut)

theorem pcTail_out (x : Ctx × Bool) : (pcTail x).1.out = pcOut x.1.out := by
  unfold pcTail
  split <;> dsimp only
  rw [Params.pushError_out]

theorem processCommand_st (c : Ctx) (hb : BSt W0 F c.out) : BSt W0 F (processCommand c).1.out := by
  rw [Isolation.processCommand_eq, pcTail_out]
  have h1 : OSt (W0 ++ body c.out.gUnits) c.out.gUnits (resp c.out.gUnits).isEmpty F (Stage.enter (pcReset c)).out := by
    have : (Stage.enter (pcReset c)).out = (pcReset c).out := by unfold Stage.enter; split <;> rfl
    rw [this]
    rcases hb with hp | hb'
    · exact Or.inl hp
    · exact start_st (Or.inr hb') hb'.first
  exact finish_st (ost_inv.pcBody (fun _ _ _ _ _ _ _ => trivial) h1)

theorem bst_loop : Api.LoopInv (fun c => BSt W0 F c.out) where
  pushError code info n h := by rw [Params.pushError_out]; exact h
  core _ _ h := h
  unit _ _ _ _ _ h := processCommand_st _ h

theorem any_eq_resp (U : List (List Bytes)) :
    U.any (fun u => !u.isEmpty) = !(resp U).isEmpty := by
  unfold resp
  induction U with
  | nil => rfl
  | cons u U ih =>
    cases hu : u.isEmpty <;> simp [hu, ih]

theorem all_eq_resp (U : List (List Bytes)) :
    U.all (fun u => u.isEmpty) = (resp U).isEmpty := by
  unfold resp
  induction U with
  | nil => rfl
  | cons u U ih =>
    cases hu : u.isEmpty <;> simp [hu, ih]

theorem body_of_empty {U : List (List Bytes)} (h : (resp U).isEmpty = true) : body U = [] := by
  unfold body
  rw [List.isEmpty_iff.mp h]
  rfl

theorem parse_loop_st (c : Ctx) (base len : Nat) :
    ∃ o : Out, (parse c base len).1.out = writeNewLine o ∧ BSt c.out.written c.out.flushes o := by
  have h : BSt c.out.written c.out.flushes _ := bst_loop.parseLoop (len + 2) base len none true
    (c := emit { c with out := ParseLocalAux.outReset c.out } (.parseMsg ((c.buf.drop base).take len)))
    (.inr ⟨by simp [ParseLocalAux.outReset, emit, body, resp, joinSep], rfl, rfl, rfl, rfl⟩)
  rw [ParseLocalAux.parse_eq]
  generalize parseLoop _ _ _ _ _ _ = x at h ⊢
  exact ⟨_, rfl, h⟩

theorem framing (c : Ctx) (base len : Nat) :
    let c' := (parse c base len).1
    c'.out.gPartial = false →
    c'.out.written = c.out.written ++ Spec.Message.frame c'.out.gUnits ∧
    c'.out.flushes = c.out.flushes + (if c'.out.gUnits.any (fun u => !u.isEmpty) then 1 else 0) := by
  intro c'
  obtain ⟨o, ho, hb⟩ := parse_loop_st c base len
  show c'.out.gPartial = false → _
  have hc' : c'.out = writeNewLine o := ho
  rw [hc']
  intro hp
  have hpo : o.gPartial = false := by
    unfold writeNewLine writeSep at hp
    split at hp <;> exact hp
  rcases hb with hb | hb
  · rw [hpo] at hb; exact absurd hb (by decide)
  · obtain ⟨hwr, hf, _, _, hfl⟩ := hb
    rw [frame_eq, any_eq_resp]
    unfold writeNewLine writeSep
    cases hr : (resp o.gUnits).isEmpty
    · rw [hr] at hf
      simp [hf, hr, hwr, hfl]
      rfl
    · rw [hr] at hf
      simp [hf, hr, hwr, hfl, body_of_empty hr]

theorem silent_message (c : Ctx) (base len : Nat) :
    let c' := (parse c base len).1
    c'.out.gPartial = false → c'.out.gUnits.all (fun u => u.isEmpty) = true →
    c'.out.written = c.out.written ∧ c'.out.flushes = c.out.flushes := by
  dsimp only
  intro hp hall
  have := framing c base len hp
  rw [frame_eq, any_eq_resp] at this
  rw [all_eq_resp] at hall
  have hall' := List.isEmpty_iff.mp hall
  simpa [hall'] using this

theorem item_of_int (o : Out) (w : Nat) (hw : w = 32 ∨ w = 64) (v : Nat) (hv : v < 2^w) (base : Int)
    (sign : Bool) (hcur : o.gCur = []) :
    (resultIntBaseSign o w v base sign).gItems = o.gItems ++ [Spec.Message.intText w v base sign] ∧
    (resultIntBaseSign o w v base sign).gCur = [] := by
  unfold resultIntBaseSign
  dsimp only
  rw [toStr_chars w hw v hv base sign]
  refine ⟨?_, rfl⟩
  simp [writeDelimiter_eq, bump, writeData, hcur, basePrefix_eq, Spec.Message.intText, charsToBytes]

theorem item_of_text (o : Out) (d : Bytes) (hcur : o.gCur = []) :
    (resultText o d).gItems = o.gItems ++ [Spec.Message.quote (d.takeWhile (· ≠ 0))] := by
  simp [resultText, writeDelimiter_eq, bump, writeData, hcur, Spec.Message.quote, escapeQuotes]

theorem item_of_block (o : Out) (d : Bytes) (hcur : o.gCur = []) (hlen : d.length < 10^9) :
    (resultBlock o d).gItems = o.gItems ++ [Spec.Message.encodeBlock d] := by
  unfold resultBlock resultBlockHeader
  dsimp only
  rw [blockHeader_chars hlen]
  unfold resultBlockData
  simp [writeDelimiter_eq, writeData, bump, hcur, Spec.Message.encodeBlock, Spec.Message.decimal,
    charsToBytes, Nat.add_comm]

/-! ### the ghost bookkeeping of `resultBlockData` does not disturb the real fields

The C function increments output_count before the writeData call; the model writes first so that
the ghost item is closed after its last bytes.  The real fields agree with the C order. -/

/-- SCPI_ResultArbitraryBlockData in the literal C statement order -/
def resultBlockDataC (o : Out) (d : Bytes) : Out :=
  if o.arbRemaining < d.length then { o with pushed := o.pushed ++ [-310] }
  else
    let o := { o with arbRemaining := o.arbRemaining - d.length }
    let o := if o.arbRemaining == 0 then bump o else o
    writeData o d

theorem resultBlockData_real (o : Out) (d : Bytes) :
    (resultBlockData o d).outputCount = (resultBlockDataC o d).outputCount ∧
    (resultBlockData o d).firstOutput = (resultBlockDataC o d).firstOutput ∧
    (resultBlockData o d).arbRemaining = (resultBlockDataC o d).arbRemaining ∧
    (resultBlockData o d).written = (resultBlockDataC o d).written ∧
    (resultBlockData o d).flushes = (resultBlockDataC o d).flushes ∧
    (resultBlockData o d).pushed = (resultBlockDataC o d).pushed := by
  unfold resultBlockData resultBlockDataC
  by_cases h1 : o.arbRemaining < d.length
  · simp [h1]
  · by_cases h2 : o.arbRemaining - d.length = 0 <;> simp [h1, h2, writeData, bump]

end ScpiVerif.Lemmas.Framing
