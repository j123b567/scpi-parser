/-
Lemmas for C16 (text assembly of SCPI_dtostre), about the model in Model/Dtostre.lean and the literal value of
Spec/Float.lean.  The three cases of `assemble` are one form, `trim (ip ++ [46] ++ fp) ++ expSuffix ex` with the digits
of `ip ++ fp` those of `ds` up to zeros in front (`assemble_shape`), and the value of that form is computed once
(`core`): `trim` drops the trailing zeros of the fraction, `litValue` (in the stages of Lemmas/LitValue.lean) reads the
parts back as a number m·10^e, the exponent suffix reads back as the exponent, and the zeros `trim` dropped move from
`m` into `e` without changing the value (`denotes_scale`).  The exponent bounds in `core` and `finish_denotes` (340,
1500) keep `Spec.Float.litValue` away from its clamping of astronomic exponents.
-/
import ScpiVerif.Model.Dtostre
import ScpiVerif.Spec.Float
import ScpiVerif.Gen.Tables
import ScpiVerif.Lemmas.IntFmt
import ScpiVerif.Lemmas.LitValue
import ScpiVerif.Lemmas.ByteClass

namespace ScpiVerif.Lemmas.Dtostre
open ScpiVerif ScpiVerif.Lexer ScpiVerif.Dtostre ScpiVerif.Spec.Float ScpiVerif.Lemmas.LitValue

theorem foldl_from (ds : Bytes) : ∀ a : Nat,
    ds.foldl (fun a b => a * 10 + (b.toNat - 48)) a = a * 10^ds.length + digitsValue ds := by
  induction ds with
  | nil => intro a; simp [digitsValue]
  | cons b ds ih =>
    intro a
    have e : digitsValue (b :: ds) = (0 * 10 + (b.toNat - 48)) * 10^ds.length + digitsValue ds := by
      unfold digitsValue; rw [List.foldl_cons, ih]; rfl
    rw [List.foldl_cons, ih, e, List.length_cons, Nat.pow_succ, Nat.add_mul, Nat.zero_mul,
      Nat.zero_add, Nat.mul_assoc, Nat.mul_comm 10, Nat.add_assoc]

theorem digitsValue_append (a b : Bytes) :
    digitsValue (a ++ b) = digitsValue a * 10^b.length + digitsValue b := by
  unfold digitsValue
  rw [List.foldl_append, foldl_from]; rfl

theorem digitsValue_replicate (n : Nat) : digitsValue (List.replicate n 48) = 0 := by
  induction n with
  | zero => rfl
  | succ n ih =>
    have := digitsValue_append [48] (List.replicate n 48)
    rw [List.replicate_succ]
    simp only [List.singleton_append] at this
    have h48 : digitsValue [48] = 0 := by decide
    rw [this, ih, h48]; simp

def dotfrac (fp : Bytes) : Bytes := if fp = [] then [] else 46 :: fp

theorem strip_rev (r : Bytes) : ∃ r' k, r = List.replicate k 48 ++ r' ∧ r'.head? ≠ some 48 := by
  induction r with
  | nil => exact ⟨[], 0, rfl, by simp⟩
  | cons b r ih =>
    by_cases hb : b = 48
    · obtain ⟨r', k, e, h⟩ := ih
      exact ⟨r', k+1, by rw [hb, e, List.replicate_succ]; rfl, h⟩
    · exact ⟨b :: r, 0, rfl, by simpa using hb⟩

theorem strip (fp : Bytes) :
    ∃ fp' k, fp = fp' ++ List.replicate k 48 ∧ fp'.getLast? ≠ some 48 := by
  obtain ⟨r', k, e, h⟩ := strip_rev fp.reverse
  refine ⟨r'.reverse, k, ?_, by rwa [List.getLast?_reverse]⟩
  have := congrArg List.reverse e
  rw [List.reverse_reverse, List.reverse_append, List.reverse_replicate] at this
  exact this

/-- the loop of `trim` takes off what `strip` splits off -/
theorem unstrip {a : Bytes} (k : Nat) (h : a.getLast? ≠ some 48) :
    ((a ++ List.replicate k 48).reverse.dropWhile (· == 48)).reverse = a := by
  rw [List.reverse_append, List.reverse_replicate, List.dropWhile_append_of_pos (by simp)]
  cases hr : a.reverse with
  | nil => rw [List.reverse_eq_nil_iff.1 hr]; rfl
  | cons c t =>
    have hc : c ≠ 48 := fun e => h (by rw [← List.head?_reverse, hr, e]; rfl)
    rw [List.dropWhile_cons_of_neg (by simpa using hc), ← hr, List.reverse_reverse]

theorem trim_shape (ip fp' : Bytes) (k : Nat) (h : fp'.getLast? ≠ some 48)
    (hd : ∀ b ∈ fp', b ≠ 46) :
    trim (ip ++ [46] ++ (fp' ++ List.replicate k 48)) = ip ++ dotfrac fp' := by
  unfold trim dotfrac
  rw [← List.append_assoc]
  by_cases hfp : fp' = []
  · subst hfp
    have hl : (ip ++ [46]).getLast? = some 46 := List.getLast?_concat
    rw [List.append_nil, unstrip k (by rw [hl]; decide)]
    dsimp only
    rw [hl, List.dropLast_concat, if_pos rfl, List.append_nil]
    exact if_pos rfl
  · have hl : (ip ++ [46] ++ fp').getLast? = fp'.getLast? := by
      rw [List.getLast?_append, Option.or_of_isSome (by simpa using hfp)]
    have hne : ¬ (fp'.getLast? == some 46) = true := fun e => hd 46 (List.mem_of_getLast? (eq_of_beq e)) rfl
    rw [unstrip k (hl ▸ h)]
    dsimp only
    rw [hl, if_neg hne, if_neg hfp, List.append_assoc]; rfl

open ScpiVerif.Lemmas.Lexer (hd takeWhile_all_append) in
theorem lit_shape (ip fp suf : Bytes) (hip : ip ≠ []) (hipd : ∀ b ∈ ip, 48 ≤ b ∧ b ≤ 57)
    (hfpd : ∀ b ∈ fp, 48 ≤ b ∧ b ≤ 57) (hsuf : suf = [] ∨ ∃ t, suf = 101 :: t) :
    litValue (ip ++ dotfrac fp ++ suf) = lvTail false ip fp suf := by
  have hipd' : ∀ b ∈ ip, isDigit b = true := fun b hb => (ByteClass.isDigit_iff b).2 (hipd b hb)
  have hfpd' : ∀ b ∈ fp, isDigit b = true := fun b hb => (ByteClass.isDigit_iff b).2 (hfpd b hb)
  have hsufd : hd suf isDigit = false := by rcases hsuf with rfl | ⟨t, rfl⟩ <;> rfl
  -- the fraction as `lvFrac` reads it; no digit in front of it
  have h3 : lvFrac (dotfrac fp ++ suf) = (fp, suf) ∧ hd (dotfrac fp ++ suf) isDigit = false := by
    unfold dotfrac
    split
    · next h0 => subst h0; rcases hsuf with rfl | ⟨t, rfl⟩ <;> exact ⟨rfl, rfl⟩
    · refine ⟨?_, rfl⟩
      rw [List.cons_append, lvFrac, takeWhile_all_append hfpd' hsufd, List.drop_left]
  have h1 : hd (ip ++ (dotfrac fp ++ suf)) isDigit = true := by
    obtain ⟨d, ip', rfl⟩ := List.exists_cons_of_ne_nil hip
    exact hipd' d List.mem_cons_self
  rw [litValue_eq, lv, List.append_assoc, Numeric.lvSign_digit h1]
  simp only [takeWhile_all_append hipd' h3.2, List.drop_left, h3.1]

theorem digit_byte : ∀ d, d < 10 → isDigit (UInt8.ofNat (IntFmt.digitChar d).toNat) = true ∧
    ((UInt8.ofNat (IntFmt.digitChar d).toNat).toNat : Int) - 48 = d := by decide

theorem pad_bytes (k : Nat) : ∀ (n : Nat) (a : Int),
    (∀ b ∈ (Lemmas.IntFmt.pad 10 k n).map (fun c => UInt8.ofNat c.toNat), isDigit b = true) ∧
    ((Lemmas.IntFmt.pad 10 k n).map (fun c => UInt8.ofNat c.toNat)).foldl
        (fun (a : Int) b => a * 10 + (b.toNat - 48)) a = a * 10^k + ((n % 10^k : Nat) : Int) := by
  induction k with
  | zero => intro n a; simp [Lemmas.IntFmt.pad, Nat.mod_one]
  | succ k ih =>
    intro n a
    obtain ⟨h1, h2⟩ := ih (n / 10) a
    obtain ⟨d1, d2⟩ := digit_byte (n % 10) (Nat.mod_lt _ (by decide))
    rw [Lemmas.IntFmt.pad, List.map_append, List.foldl_append, h2]
    refine ⟨?_, ?_⟩
    · intro b hb
      rcases List.mem_append.1 hb with hb | hb
      · exact h1 b hb
      · rw [List.mem_singleton.1 hb]; exact d1
    · simp only [List.map_cons, List.map_nil, List.foldl_cons, List.foldl_nil, d2]
      have e : n % 10^(k+1) = n % 10 + 10 * (n / 10 % 10^k) := by
        rw [Nat.pow_succ, Nat.mul_comm, Nat.mod_mul]
      rw [e, Int.pow_succ, Int.add_mul, Int.mul_assoc]
      omega

theorem expPart_digits (p : Prop) [Decidable p] (ds : Bytes) (hne : ds ≠ []) (hd : ∀ b ∈ ds, isDigit b = true) :
    lvExp ([101] ++ (if p then [43] else [45]) ++ ds) =
      (if p then ds.foldl (fun (a : Int) b => a * 10 + (b.toNat - 48)) 0
       else -ds.foldl (fun (a : Int) b => a * 10 + (b.toNat - 48)) 0, []) := by
  have ht : ds.takeWhile isDigit = ds := by
    simpa using List.takeWhile_append_of_pos (l₂ := []) hd
  have he : ds.isEmpty = false := by cases ds <;> simp at hne ⊢
  by_cases hp : p <;> simp [hp, lvExp, lvSign, isWs, ht, he]

theorem expSuffix_spec (e : Int) :
    lvExp (expSuffix e) = (e, []) ∧ (expSuffix e = [] ∨ ∃ t, expSuffix e = 101 :: t) ∧
      (e.natAbs < 1000 → (expSuffix e).length ≤ 5) := by
  by_cases h0 : e = 0
  · subst h0; exact ⟨rfl, Or.inl rfl, fun _ => by decide⟩
  obtain ⟨k, a, c⟩ := Lemmas.IntFmt.exists_pow_bracket (b := 10) (by decide) e.natAbs (by omega)
  obtain ⟨hd, hv⟩ := pad_bytes (k + 1) e.natAbs 0
  have hl : ((Lemmas.IntFmt.pad 10 (k + 1) e.natAbs).map (fun c => UInt8.ofNat c.toNat)).length = k + 1 := by simp
  rw [Nat.mod_eq_of_lt c, Int.zero_mul, Int.zero_add] at hv
  unfold expSuffix
  rw [if_neg (by simpa using h0), Lemmas.IntFmt.specDigits_eq (by decide) a c]
  generalize (Lemmas.IntFmt.pad 10 (k + 1) e.natAbs).map (fun c => UInt8.ofNat c.toNat) = ds at hd hv hl
  dsimp only
  generalize hpd : (if ds.length == 1 then [48] ++ ds else ds) = pd
  -- a leading '0' does not change the value
  obtain ⟨hne, hdig, hval, hlen⟩ : pd ≠ [] ∧ (∀ b ∈ pd, isDigit b = true) ∧
      pd.foldl (fun (a : Int) (b : UInt8) => a * 10 + (b.toNat - 48)) 0 = (e.natAbs : Int) ∧ pd.length ≤ max (k + 1) 2 := by
    subst hpd
    split
    · next h1 =>
      rw [hl] at h1
      exact ⟨by simp, fun b hb => (List.mem_cons.1 hb).elim (fun h => h ▸ rfl) (hd b), hv, by simp at h1 ⊢; omega⟩
    · exact ⟨fun h => (by rw [h] at hl; cases hl), hd, hv, by omega⟩
  rw [expPart_digits _ pd hne hdig, hval]
  refine ⟨?_, Or.inr ⟨_, rfl⟩, fun h => ?_⟩
  · by_cases hn : e > 0 <;> simp [hn] <;> omega
  · have : k < 3 := (Nat.pow_lt_pow_iff_right (a := 10) (by decide)).1 (Nat.lt_of_le_of_lt a h)
    simp only [List.length_cons, List.length_append, List.length_nil]
    split <;> simp <;> omega

/-- num/den = m × 10^e -/
def Denotes (num den m : Nat) (e : Int) : Prop :=
  if e ≥ 0 then num = m * 10^e.toNat * den else num * 10^(-e).toNat = m * den

theorem finish_denotes (ip fp suf : Bytes) (ex : Int) (hip : ip ≠ [])
    (hexp : lvExp suf = (ex, [])) (hb1 : ex - fp.length ≤ 1500)
    (hb2 : -1500 - ((ip.length + fp.length : Nat) : Int) ≤ ex - fp.length) :
    ∃ num den, lvTail false ip fp suf = some (false, num, den) ∧ den ≠ 0 ∧
      Denotes num den (digitsValue (ip ++ fp)) (ex - fp.length) := by
  have h1 : ¬ (ip.isEmpty = true ∧ fp.isEmpty = true) := by
    intro h; exact hip (List.isEmpty_iff.1 h.1)
  have h2 : ¬ (ex - (fp.length : Int) > 400 + 1100) := by omega
  have h3 : ¬ (ex - (fp.length : Int) < -1500 - ((ip.length + fp.length : Nat) : Int)) := by omega
  unfold lvTail lvFin
  simp only [if_neg h1, hexp, List.isEmpty_nil, Bool.not_true, Bool.false_eq_true, if_false,
    if_neg h2, if_neg h3]
  by_cases hge : ex - (fp.length : Int) ≥ 0
  · rw [if_pos hge]
    exact ⟨_, 1, rfl, by decide, by unfold Denotes digitsValue; rw [if_pos hge, Nat.mul_one]⟩
  · rw [if_neg hge]
    refine ⟨_, _, rfl, ?_, by unfold Denotes digitsValue; rw [if_neg hge]⟩
    exact Nat.ne_of_gt (Nat.pow_pos (by decide))

theorem denotes_scale {num den m : Nat} {e : Int} (k : Nat) (h : Denotes num den m (e + k)) :
    Denotes num den (m * 10^k) e := by
  unfold Denotes at *
  by_cases h1 : e ≥ 0
  · have h2 : e + k ≥ 0 := by omega
    rw [if_pos h2] at h
    rw [if_pos h1]
    have : (e + k).toNat = k + e.toNat := by omega
    rw [h, this, Nat.pow_add]; simp only [Nat.mul_assoc]
  · rw [if_neg h1]
    by_cases h2 : e + k ≥ 0
    · rw [if_pos h2] at h
      have : k = (e + k).toNat + (-e).toNat := by omega
      rw [h]
      conv => rhs; rw [this, Nat.pow_add]
      simp only [Nat.mul_assoc, Nat.mul_comm den]
    · rw [if_neg h2] at h
      have : (-e).toNat = (-(e + k)).toNat + k := by omega
      rw [this, Nat.pow_add, ← Nat.mul_assoc, h, Nat.mul_assoc, Nat.mul_comm den, ← Nat.mul_assoc]

theorem denotes_goal {num den m : Nat} {decpt : Int} {prec : Nat}
    (h : Denotes num den m (decpt - prec)) :
    (if decpt ≥ prec then num = m * 10^(decpt - prec).toNat * den
     else num * 10^((prec : Int) - decpt).toNat = m * den) := by
  unfold Denotes at h
  by_cases hc : decpt ≥ (prec : Int)
  · have : decpt - (prec : Int) ≥ 0 := by omega
    rw [if_pos this] at h; rw [if_pos hc]; exact h
  · have : ¬ (decpt - (prec : Int) ≥ 0) := by omega
    rw [if_neg this] at h; rw [if_neg hc]
    have e : -(decpt - (prec : Int)) = (prec : Int) - decpt := by omega
    rw [e] at h; exact h

/-- text `ip.fp` trimmed, with exponent `ex`: a literal of value (ip fp as one number)·10^(ex − |fp|) -/
theorem core (ip fp : Bytes) (ex : Int) (hip : ip ≠ []) (hipd : ∀ b ∈ ip, 48 ≤ b ∧ b ≤ 57)
    (hfpd : ∀ b ∈ fp, 48 ≤ b ∧ b ≤ 57) (hex : -340 ≤ ex ∧ ex ≤ 340) (hlen : fp.length ≤ 100) :
    ∃ num den, litValue (trim (ip ++ [46] ++ fp) ++ expSuffix ex) = some (false, num, den) ∧
      den ≠ 0 ∧ Denotes num den (digitsValue (ip ++ fp)) (ex - fp.length) := by
  obtain ⟨fp', k, rfl, hlast⟩ := strip fp
  have hfpd' : ∀ b ∈ fp', 48 ≤ b ∧ b ≤ 57 := fun b hb => hfpd b (List.mem_append_left _ hb)
  have hne46 : ∀ b ∈ fp', b ≠ 46 := by
    intro b hb e; subst e; exact absurd (hfpd' _ hb).1 (by decide)
  obtain ⟨e1, e2, _⟩ := expSuffix_spec ex
  rw [trim_shape ip fp' k hlast hne46, lit_shape ip fp' _ hip hipd hfpd' e2]
  simp only [List.length_append, List.length_replicate] at hlen ⊢
  obtain ⟨num, den, a, b, c⟩ :=
    finish_denotes ip fp' (expSuffix ex) ex hip e1 (by omega) (by omega)
  refine ⟨num, den, a, b, ?_⟩
  rw [← List.append_assoc, digitsValue_append, digitsValue_replicate, List.length_replicate,
    Nat.add_zero]
  apply denotes_scale
  have : ex - ((fp'.length + k : Nat) : Int) + (k : Int) = ex - fp'.length := by omega
  rw [this]; exact c

/-- `assemble` in one form for its three cases: the digits `ip.fp` (those of `ds`, behind `z` zeros when the value is below
one), trimmed, then the exponent `ex`; with `z` and the exponent at most 20 characters without the point -/
theorem assemble_shape (prec : Nat) (hp : 1 ≤ prec ∧ prec ≤ 15) (ds : Bytes) (hl : ds.length = prec)
    (decpt : Int) (hr : -330 ≤ decpt ∧ decpt ≤ 310) :
    ∃ ip fp ex z, assemble prec ds decpt = trim (ip ++ [46] ++ fp) ++ expSuffix ex ∧ ip ≠ [] ∧
      ip ++ fp = List.replicate z 48 ++ ds ∧ ex - fp.length = decpt - prec ∧ ex.natAbs ≤ 340 ∧
      z + (if ex = 0 then 0 else 5) ≤ 5 := by
  have hne : ∀ k : Nat, 0 < k → ds.take k ≠ [] := fun k hk e => by
    have := congrArg List.length e
    rw [List.length_take, List.length_nil] at this; omega
  unfold assemble
  split
  · exact ⟨ds.take decpt.toNat, ds.drop decpt.toNat, 0, 0, (List.append_nil _).symm, hne _ (by omega),
      List.take_append_drop .., by rw [List.length_drop]; omega, by decide, by decide⟩
  · split
    · exact ⟨[48], List.replicate (-decpt).toNat 48 ++ ds, 0, (-decpt).toNat + 1, by simp [show expSuffix 0 = [] from rfl],
        by simp, by rw [List.replicate_succ]; rfl, by simp only [List.length_append, List.length_replicate]; omega,
        by decide, by rw [if_pos rfl]; omega⟩
    · exact ⟨ds.take 1, ds.drop 1, decpt - 1, 0, rfl, hne 1 (by omega), List.take_append_drop ..,
        by rw [List.length_drop]; omega, by omega, by split <;> omega⟩

theorem assemble_value (prec : Nat) (hp : 1 ≤ prec ∧ prec ≤ 15) (ds : Bytes) (hl : ds.length = prec)
    (hd : ∀ b ∈ ds, 48 ≤ b ∧ b ≤ 57) (_hnz : ds.head? ≠ some 48) (decpt : Int)
    (hr : -330 ≤ decpt ∧ decpt ≤ 310) :
    ∃ num den, litValue (assemble prec ds decpt) = some (false, num, den) ∧ den ≠ 0 ∧
      (if decpt ≥ prec then num = digitsValue ds * 10^(decpt - prec).toNat * den
       else num * 10^((prec : Int) - decpt).toNat = digitsValue ds * den) := by
  obtain ⟨ip, fp, ex, z, e, hip, hz, hx, hex, hlen⟩ := assemble_shape prec hp ds hl decpt hr
  have hdig : ∀ b ∈ ip ++ fp, 48 ≤ b ∧ b ≤ 57 := fun b hb => by
    rw [hz] at hb
    rcases List.mem_append.1 hb with h | h
    · rw [(List.mem_replicate.1 h).2]; decide
    · exact hd b h
  have hfl : ip.length + fp.length = z + ds.length := by
    rw [← List.length_append, hz, List.length_append, List.length_replicate]
  obtain ⟨num, den, a, b, c⟩ := core ip fp ex hip (fun b hb => hdig b (List.mem_append_left _ hb))
    (fun b hb => hdig b (List.mem_append_right _ hb)) (by omega) (by omega)
  rw [hz, digitsValue_append, digitsValue_replicate, Nat.zero_mul, Nat.zero_add, hx] at c
  exact ⟨num, den, e ▸ a, b, denotes_goal c⟩

theorem assemble_zero (prec : Nat) (hp : 1 ≤ prec ∧ prec ≤ 15) :
    assemble prec (List.replicate prec 48) 0 = [48] := by
  have : ∀ p < 16, 1 ≤ p → assemble p (List.replicate p 48) 0 = [48] := by decide
  exact this prec (by omega) hp.1

theorem trim_length_le (s : Bytes) : (trim s).length ≤ s.length := by
  have h : ((s.reverse.dropWhile (· == 48)).reverse).length ≤ s.length := by
    rw [List.length_reverse]
    have := (List.dropWhile_sublist (· == 48) (l := s.reverse)).length_le
    rwa [List.length_reverse] at this
  unfold trim
  simp only
  split
  · rw [List.length_dropLast]; omega
  · exact h

theorem signPrefix_length (neg nan : Bool) (flags : Nat) : (signPrefix neg nan flags).length ≤ 1 := by
  unfold signPrefix
  repeat' split
  all_goals simp

theorem assemble_fits (prec : Nat) (hp : 1 ≤ prec ∧ prec ≤ 15) (ds : Bytes) (hl : ds.length = prec)
    (decpt : Int) (hr : -330 ≤ decpt ∧ decpt ≤ 310) (neg nan : Bool) (flags : Nat) :
    (signPrefix neg nan flags ++ assemble prec ds decpt).length + 1 ≤ Gen.dtostreBuf := by
  obtain ⟨ip, fp, ex, z, e, -, hz, -, hex, hlen⟩ := assemble_shape prec hp ds hl decpt hr
  have hfl : ip.length + fp.length = z + ds.length := by
    rw [← List.length_append, hz, List.length_append, List.length_replicate]
  have hs := signPrefix_length neg nan flags
  have ht := trim_length_le (ip ++ [46] ++ fp)
  have hx : (expSuffix ex).length ≤ if ex = 0 then 0 else 5 := by
    split
    · rename_i h; rw [h]; decide
    · exact (expSuffix_spec ex).2.2 (by omega)
  have : Gen.dtostreBuf = 32 := rfl
  simp only [e, List.length_append, List.length_cons, List.length_nil] at ht ⊢
  omega

end ScpiVerif.Lemmas.Dtostre
