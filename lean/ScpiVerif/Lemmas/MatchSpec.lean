/-
Spec side of the C03 proof: what a pattern text accepted by `parsePattern` looks like, how
`splitColon` cuts a header into mnemonics, and `accepts` in terms of the list-level walker on the
mnemonics the model sees (`hdrRead`).
-/
import ScpiVerif.Lemmas.MatchList

namespace ScpiVerif.Lemmas.Match
open ScpiVerif ScpiVerif.Match ScpiVerif.Spec.Pattern
open ScpiVerif.Lexer (Bytes isDigit isLower isUpper isAlpha)

theorem parseKey_spec (s : Bytes) (opt : Bool) (k : Kw) (rest : Bytes)
    (h : parseKey s opt = some (k, rest)) :
    s = keyText k ++ rest ∧ KwOK k ∧ k.optional = opt := by
  unfold parseKey at h
  simp only at h
  split at h
  · contradiction
  · rename_i hne
    have hsplit := ByteList.takeWhile_append_drop isKwChar s
    have hall : (s.takeWhile isKwChar).all isKwChar = true := List.all_takeWhile
    generalize s.takeWhile isKwChar = name at *
    generalize hr : s.drop name.length = r at *
    have hne1 : name ≠ [] := by
      intro e; apply hne; left; simp [e]
    have halpha : isUpper (name.headD 0) = true := by
      cases hh : isUpper (name.headD 0) with
      | true => rfl
      | false => exact absurd (Or.inr (by rw [hh]; rfl)) hne
    have hk : ∀ num, KwOK ⟨name.takeWhile (fun b => !isLower b), name, opt, num⟩ :=
      fun _ => ⟨hne1, hall, halpha, rfl⟩
    cases r with
    | nil => cases h; exact ⟨by simp [keyText, ← hsplit], hk _, rfl⟩
    | cons b r =>
      by_cases h35 : b = 35
      · subst h35; cases h; exact ⟨by simp [keyText, ← hsplit], hk _, rfl⟩
      · simp only [List.head?_cons, Option.some.injEq, h35, beq_iff_eq, if_false] at h
        cases h; exact ⟨by simp [keyText, ← hsplit], hk _, rfl⟩
theorem parseItems_spec (fuel : Nat) (s : Bytes) (acc kws : List Kw) (rest : Bytes)
    (h : parseItems fuel s acc = some (kws, rest)) :
    ∃ ks, kws = acc.reverse ++ ks ∧ s = renderRest ks ++ rest ∧ ∀ k ∈ ks, KwOK k := by
  -- an item read, `s = item k ++ r`, and the items found behind it
  have key : ∀ {acc s k r}, s = item k ++ r → KwOK k →
      (∃ ks, kws = (k :: acc).reverse ++ ks ∧ r = renderRest ks ++ rest ∧ ∀ k ∈ ks, KwOK k) →
      ∃ ks, kws = acc.reverse ++ ks ∧ s = renderRest ks ++ rest ∧ ∀ k ∈ ks, KwOK k :=
    fun hs hk ⟨ks, e1, e2, e3⟩ =>
      ⟨_ :: ks, by simp [e1], by simp [renderRest, hs, e2], List.forall_mem_cons.2 ⟨hk, e3⟩⟩
  fun_induction parseItems fuel s acc with
  | case1 | case6 => cases h; exact ⟨[], by simp, by simp [renderRest], by simp⟩
  | case2 fuel acc rest k r hk ih | case4 fuel acc rest k r hk ih =>
    obtain ⟨p1, p2, p3⟩ := parseKey_spec _ _ _ _ hk
    exact key (by simp [item, p3, p1]) p2 (ih h)
  | case3 | case5 => cases h

theorem isKwChar_ne (b : UInt8) (h : isKwChar b = true) :
    b ≠ 0 ∧ b ≠ 35 ∧ b ≠ 42 ∧ b ≠ 58 ∧ b ≠ 63 ∧ b ≠ 91 ∧ b ≠ 93 := by
  refine ⟨?_, ?_, ?_, ?_, ?_, ?_, ?_⟩ <;> (intro e; subst e; revert h; decide)

/-- the keyword of a common pattern `*NAME` -/
def commonKw (name : Bytes) : Kw := ⟨42 :: name, 42 :: name, false, false⟩

theorem commonKw_W (name : Bytes) (hchars : name.all isKwChar = true) (hlow : name.any isLower = false) :
    KwW (commonKw name) := by
  refine ⟨by simp [commonKw], ?_, ?_⟩
  · simp only [commonKw, List.all_cons, Bool.and_eq_true]
    exact ⟨by decide, List.all_eq_true.2 fun b hb => by simp [patChar, List.all_eq_true.1 hchars b hb]⟩
  · refine (ByteList.takeWhile_all _ _ (List.all_eq_true.1 ?_)).symm
    simp only [commonKw, List.all_cons, Bool.and_eq_true, List.all_eq_true]
    exact ⟨by decide, fun b hb => by
      cases hb' : isLower b with
      | false => rfl
      | true => rw [List.any_eq_true.2 ⟨b, hb, hb'⟩] at hlow; cases hlow⟩

/-- how a pattern of the grammar is written: its first keyword as an item or bare -/
def Rendered (pat : Bytes) (k : Kw) (ks : List Kw) (q : Bool) : Prop :=
  pat = item k ++ renderRest ks ++ qtail q ∨ (k.optional = false ∧ pat = keyText k ++ renderRest ks ++ qtail q)

/-- a pattern of the grammar is a common one, `*NAME` without lower-case letters, or a sequence of
keywords, the first written `[:KEY]`, `:KEY` or `KEY`; a '?' may follow -/
theorem parsePattern_cases (pat : Bytes) (p : Pat) (hp : parsePattern pat = some p) :
    (∃ name : Bytes, p = ⟨true, p.query, [commonKw name]⟩ ∧ KwW (commonKw name) ∧
      pat = keyText (commonKw name) ++ qtail p.query) ∨
    (p.common = false ∧ ∃ k ks, p.kws = k :: ks ∧ (∀ k' ∈ p.kws, KwOK k') ∧ Rendered pat k ks p.query) := by
  unfold parsePattern at hp
  split at hp
  · rename_i rest
    left
    simp only at hp
    have hsplit := ByteList.takeWhile_append_drop isKwChar rest
    have hall : (rest.takeWhile isKwChar).all isKwChar = true := List.all_takeWhile
    generalize rest.takeWhile isKwChar = name at *
    generalize rest.drop name.length = tail at *
    have key : ∀ q : Bool, name.any isLower = false → tail = qtail q → p = ⟨true, q, [commonKw name]⟩ →
        ∃ name : Bytes, p = ⟨true, p.query, [commonKw name]⟩ ∧ KwW (commonKw name) ∧
          42 :: rest = keyText (commonKw name) ++ qtail p.query := by
      rintro q hlow rfl rfl
      exact ⟨name, rfl, commonKw_W name hall hlow, by simp [keyText, commonKw, ← hsplit]⟩
    split at hp
    · contradiction
    · split at hp
      · contradiction
      · rename_i hlow
        split at hp
        · rename_i ht
          exact key false (by simpa using hlow) (by simpa [qtail] using ht) (Option.some.inj hp).symm
        · split at hp
          · rename_i ht
            exact key true (by simpa using hlow) (by simpa [qtail] using ht) (Option.some.inj hp).symm
          · contradiction
  · right
    simp only at hp
    split at hp
    · contradiction
    · rename_i k r hfirst
      have hk : KwOK k ∧ (pat = item k ++ r ∨ (k.optional = false ∧ pat = keyText k ++ r)) := by
        split at hfirst
        · split at hfirst
          · rename_i hk
            cases hfirst
            obtain ⟨p1, p2, p3⟩ := parseKey_spec _ _ _ _ hk
            exact ⟨p2, Or.inl (by simp [item, p3, p1])⟩
          · contradiction
        · obtain ⟨p1, p2, p3⟩ := parseKey_spec _ _ _ _ hfirst
          exact ⟨p2, Or.inl (by simp [item, p3, p1])⟩
        · obtain ⟨p1, p2, p3⟩ := parseKey_spec _ _ _ _ hfirst
          exact ⟨p2, Or.inr ⟨p3, p1⟩⟩
      obtain ⟨hk1, hk2⟩ := hk
      have key : ∀ (kws : List Kw) (q : Bool),
          parseItems (r.length + 1) r [k] = some (kws, qtail q) → p = ⟨false, q, kws⟩ →
          p.common = false ∧ ∃ k ks, p.kws = k :: ks ∧ (∀ k' ∈ p.kws, KwOK k') ∧ Rendered pat k ks p.query := by
        rintro kws q hi rfl
        obtain ⟨ks, rfl, e2, e3⟩ := parseItems_spec _ _ _ _ _ hi
        refine ⟨rfl, k, ks, rfl, ?_, ?_⟩
        · intro k' hk'
          rcases List.mem_cons.1 hk' with rfl | e
          · exact hk1
          · exact e3 _ e
        · simpa only [Rendered, List.append_assoc, ← e2] using hk2
      split at hp
      · rename_i kws hi
        exact key kws false hi (Option.some.inj hp).symm
      · rename_i kws hi
        exact key kws true hi (Option.some.inj hp).symm
      · contradiction

theorem splitColon_go (bs : Bytes) :
    ∀ (cur : Bytes) (acc : List Bytes), (58 : UInt8) ∉ cur →
      ∃ m ms, splitColon.go bs cur acc = acc.reverse ++ (m :: ms) ∧
        cur.reverse ++ bs = m ++ hdrRest ms ∧ ∀ x ∈ m :: ms, (58 : UInt8) ∉ x := by
  induction bs with
  | nil =>
    intro cur acc hcur
    refine ⟨cur.reverse, [], by simp [splitColon.go], by simp [hdrRest], ?_⟩
    intro x hx; simp at hx; subst hx; simpa using hcur
  | cons b bs ih =>
    intro cur acc hcur
    by_cases hb : b = 58
    · subst hb
      obtain ⟨m', ms', h1, h2, h3⟩ := ih [] (cur.reverse :: acc) (by simp)
      refine ⟨cur.reverse, m' :: ms', ?_, ?_, ?_⟩
      · simp [splitColon.go, h1]
      · simp at h2; simp [hdrRest, h2]
      · intro x hx
        rcases List.mem_cons.mp hx with rfl | hx
        · simpa using hcur
        · exact h3 x hx
    · obtain ⟨m', ms', h1, h2, h3⟩ := ih (b :: cur) acc (by simp [hcur, Ne.symm hb])
      refine ⟨m', ms', ?_, ?_, h3⟩
      · simp [splitColon.go, hb, h1]
      · simpa using h2

theorem splitColon_spec (s : Bytes) :
    ∃ m ms, splitColon s = m :: ms ∧ s = m ++ hdrRest ms ∧ ∀ x ∈ m :: ms, (58 : UInt8) ∉ x := by
  obtain ⟨m, ms, h1, h2, h3⟩ := splitColon_go s [] [] (by simp)
  exact ⟨m, ms, by simpa [splitColon] using h1, by simpa using h2, h3⟩

theorem mem_hdr_of_mem_piece (m : Bytes) (ms : List Bytes) (x : Bytes) (hx : x ∈ m :: ms) (b : UInt8)
    (hb : b ∈ x) : b ∈ m ++ hdrRest ms := by
  induction ms generalizing m with
  | nil => simp at hx; subst hx; simp [hdrRest, hb]
  | cons m' ms' ih =>
    rcases List.mem_cons.mp hx with rfl | hx
    · simp [hb]
    · have := ih m' hx
      rw [hdrRest_cons]
      exact List.mem_append_right _ (List.mem_cons_of_mem _ this)

theorem piece_of_mem_hdr (m : Bytes) (ms : List Bytes) (b : UInt8) (hb : b ∈ m ++ hdrRest ms) (h58 : b ≠ 58) :
    ∃ x ∈ m :: ms, b ∈ x := by
  induction ms generalizing m with
  | nil => exact ⟨m, by simp, by simpa [hdrRest] using hb⟩
  | cons m' ms' ih =>
    rw [hdrRest_cons] at hb
    rcases List.mem_append.mp hb with h | h
    · exact ⟨m, by simp, h⟩
    · rcases List.mem_cons.mp h with h | h
      · exact absurd h h58
      · obtain ⟨x, hx, hbx⟩ := ih m' h
        exact ⟨x, List.mem_cons_of_mem _ hx, hbx⟩

/-- the reading the model looks for in a header body: a leading ':' is dropped, ":*" refused -/
def bodyRead (kws : List Kw) (body : Bytes) : Option (List (Option Nat)) :=
  if body.headD 0 = 58 ∧ 2 ≤ body.length then
    (if (body.drop 1).headD 0 = 42 then none else greedy kws (splitColon (body.drop 1)))
  else greedy kws (splitColon body)

/-- the reading the model looks for in a header, for a pattern with or without '?' -/
def hdrRead (kws : List Kw) (q : Bool) (hdr : Bytes) : Option (List (Option Nat)) :=
  if q then (if hdr.getLast? = some 63 then bodyRead kws hdr.dropLast else none) else bodyRead kws hdr

theorem greedy_none_of_bad_byte (kws : List Kw) (X : Bytes) (b : UInt8) (hb : b ∈ X) (h58 : b ≠ 58)
    (hbad : ∀ k ∈ kws, ∀ m : Bytes, b ∈ m → kwMatch k m = none) : greedy kws (splitColon X) = none := by
  obtain ⟨m, ms, h1, h2, _⟩ := splitColon_spec X
  rw [h2] at hb
  obtain ⟨x, hx, hbx⟩ := piece_of_mem_hdr m ms b hb h58
  rw [h1]
  exact greedy_none_of_unmatchable kws (m :: ms) x hx (fun k hk => hbad k hk x hbx)

theorem bodyRead_none_of_63 (kws : List Kw) (hkws : ∀ k ∈ kws, KwW k) (body : Bytes) (h63 : (63 : UInt8) ∈ body) :
    bodyRead kws body = none := by
  have hbad : ∀ k ∈ kws, ∀ m : Bytes, (63 : UInt8) ∈ m → kwMatch k m = none :=
    fun k hk m hm => (hkws k hk).no_byte m 63 hm (by decide)
  unfold bodyRead
  split
  · rename_i h2
    split
    · rfl
    · refine greedy_none_of_bad_byte kws _ 63 ?_ (by decide) hbad
      match body, h2, h63 with
      | a :: t, h2, h63 =>
        simp at h2 h63 ⊢
        exact h63.resolve_left (by rw [h2.1]; decide)
  · exact greedy_none_of_bad_byte kws _ 63 h63 (by decide) hbad

/-- the specification's treatment of a header without its '?' -/
def specBody (p : Pat) (body : Bytes) : List (List (Option Nat)) :=
  if p.common then
    match p.kws with
    | [k] => if ciEq body k.long then [[]] else []
    | _ => []
  else
    let body := if body.head? == some 58 then body.drop 1 else body
    if body.isEmpty then [] else solutions p.kws (splitColon body)

theorem accepts_unfold (p : Pat) (hdr : Bytes) :
    accepts p hdr =
      if ((hdr.getLast? == some 63) != p.query) then []
      else specBody p (if hdr.getLast? == some 63 then hdr.dropLast else hdr) := by
  unfold accepts specBody
  cases hdr.getLast? == some 63 <;> rfl

theorem accepts_eq_hdrRead (p : Pat) (hkws : ∀ k ∈ p.kws, KwW k)
    (hbody : ∀ body, specBody p body = (bodyRead p.kws body).toList) (hdr : Bytes) :
    accepts p hdr = (hdrRead p.kws p.query hdr).toList := by
  rw [accepts_unfold, hbody, hdrRead]
  by_cases hl : hdr.getLast? = some 63
  · cases hq : p.query
    · simp [hl, bodyRead_none_of_63 p.kws hkws hdr (List.mem_of_getLast? hl)]
    · simp [hl]
  · cases hq : p.query <;> simp [hl]

/-- a keyword of the grammar starts with an upper-case letter, so its short form is not empty -/
theorem KwOK.short_ne {k : Kw} (hk : KwOK k) : k.short ≠ [] := by
  rw [hk.short_eq]
  cases hl : k.long with
  | nil => exact absurd hl hk.ne
  | cons a t =>
    have hu : isUpper a = true := by have := hk.upper; rwa [hl] at this
    have hlow : isLower a = false := by
      rw [Bool.eq_false_iff]
      simp only [byte_nat, UInt8.reduceToNat] at hu ⊢
      omega
    simp [hlow]

theorem kwMatch_nil (k : Kw) (hk : KwOK k) : kwMatch k [] = none := by
  have e : ∀ x : Bytes, x ≠ [] → ciEq [] x = false := fun x hx => by cases x <;> simp_all [ciEq]
  simp [kwMatch, e _ hk.ne, e _ hk.short_ne]

theorem body_core (kws : List Kw) (hwf : wellFormed kws = true) (hkws : ∀ k ∈ kws, KwOK k) (body : Bytes) :
    (let b' := if body.head? = some 58 then body.drop 1 else body
     if b'.isEmpty then [] else solutions kws (splitColon b')) = (bodyRead kws body).toList := by
  have hnil : ∀ ms : List Bytes, [] ∈ ms → greedy kws ms = none := fun ms h =>
    greedy_none_of_unmatchable kws ms [] h (fun k hk => kwMatch_nil k (hkws k hk))
  match body with
  | [] => simp [bodyRead, hnil _ (show [] ∈ splitColon [] by simp [splitColon, splitColon.go])]
  | [b] =>
    by_cases hb : b = 58
    · subst hb
      simp [bodyRead, hnil _ (show [] ∈ splitColon [58] by simp [splitColon, splitColon.go])]
    · simp [bodyRead, hb, greedy_eq_spec kws hwf]
  | b :: b2 :: rest =>
    by_cases hb : b = 58
    · subst hb
      by_cases hb2 : b2 = 42
      · subst hb2
        have : greedy kws (splitColon (42 :: rest)) = none :=
          greedy_none_of_bad_byte kws _ 42 (by simp) (by decide)
            fun k hk m hm => (hkws k hk).no_byte m 42 hm (by decide)
        simp [bodyRead, greedy_eq_spec kws hwf, this]
      · simp [bodyRead, hb2, greedy_eq_spec kws hwf]
    · simp [bodyRead, hb, greedy_eq_spec kws hwf]

theorem accepts_core (p : Pat) (hc : p.common = false) (hwf : wellFormed p.kws = true)
    (hkws : ∀ k ∈ p.kws, KwOK k) (hdr : Bytes) : accepts p hdr = (hdrRead p.kws p.query hdr).toList :=
  accepts_eq_hdrRead p (fun k hk => (hkws k hk).toW)
    (fun body => by simpa [specBody, hc] using body_core p.kws hwf hkws body) hdr

theorem kwMatch_common (name m : Bytes) :
    kwMatch (commonKw name) m = if ciEq m (42 :: name) then some none else none := by
  simp only [kwMatch, commonKw]
  by_cases h : ciEq m (42 :: name) = true <;> simp [h]

theorem greedy_common (name : Bytes) (ms : List Bytes) :
    greedy [commonKw name] ms =
      match ms with
      | [m] => if ciEq m (42 :: name) then some [] else none
      | _ => none := by
  match ms with
  | [] => simp [greedy, commonKw]
  | [m] =>
    simp only [greedy, kwMatch_common]
    by_cases h : ciEq m (42 :: name) = true <;> simp [h, consNum, commonKw]
  | m :: m' :: ms' =>
    simp only [greedy, kwMatch_common]
    by_cases h : ciEq m (42 :: name) = true <;> simp [h, commonKw]

theorem ciEq_head_ne (x name : Bytes) (h : x.headD 0 ≠ 42) : ciEq x (42 :: name) = false := by
  cases x with
  | nil => simp [ciEq]
  | cons a t =>
    rw [Bool.eq_false_iff, ne_eq, ciEq_iff]
    simp only [List.map_cons, List.cons.injEq, show lower 42 = 42 from rfl]
    rintro ⟨hc, -⟩
    rcases lower_cases a with e | ⟨-, e⟩
    · exact h (by rw [← e, hc]; rfl)
    · rw [hc] at e; cases e

theorem common_body (name : Bytes) (hW : KwW (commonKw name)) (body : Bytes) :
    (if ciEq body (42 :: name) then [[]] else []) = (bodyRead [commonKw name] body).toList := by
  have hcolon : ∀ x : Bytes, (58 : UInt8) ∈ x → ciEq x (42 :: name) = false := fun x h => by
    have := hW.no_byte x 58 h (by decide)
    rw [kwMatch_common] at this
    cases hc : ciEq x (42 :: name) <;> simp [hc] at this ⊢
  by_cases hstrip : body.headD 0 = 58 ∧ 2 ≤ body.length
  · rw [ciEq_head_ne body name (by rw [hstrip.1]; decide), if_neg Bool.false_ne_true, bodyRead, if_pos hstrip]
    split
    · rfl
    · rename_i h42
      obtain ⟨m, ms, h1, h2, _⟩ := splitColon_spec (body.drop 1)
      rw [h1, greedy_common]
      cases ms with
      | cons m' ms' => rfl
      | nil =>
        have : body.drop 1 = m := by simpa [hdrRest] using h2
        rw [← this]; simp only []; rw [ciEq_head_ne _ name h42]; rfl
  · obtain ⟨m, ms, h1, h2, _⟩ := splitColon_spec body
    rw [bodyRead, if_neg hstrip, h1, greedy_common]
    cases ms with
    | nil =>
      have : body = m := by simpa [hdrRest] using h2
      rw [this]
      by_cases h : ciEq m (42 :: name) = true <;> simp [h]
    | cons m' ms' => rw [hcolon body (by rw [h2, hdrRest_cons]; simp)]; rfl

theorem accepts_common (q : Bool) (name : Bytes) (hW : KwW (commonKw name)) (hdr : Bytes) :
    accepts ⟨true, q, [commonKw name]⟩ hdr = (hdrRead [commonKw name] q hdr).toList :=
  accepts_eq_hdrRead ⟨true, q, [commonKw name]⟩ (by simpa using hW)
    (fun body => common_body name hW body) hdr

end ScpiVerif.Lemmas.Match
