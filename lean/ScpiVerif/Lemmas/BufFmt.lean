/-
Lemmas for C15 (nothing is written past the caller's buffer), about the model in Model/BufFmt.lean.  Two predicates
carry everything.  `Clean b n`: an `n`-byte object, no store outside it and no read of unwritten memory so far; stores
that stay inside keep it and are described cell by cell.  `Holds b n s`: a clean object that holds the NUL-free text
`s` followed by a NUL, `|s| < n`; under it `strlen` returns `|s|` without flagging and `cstring` returns `s`.  Every
writer is shown to establish `Holds` of the text it is specified to leave (`holds_write` is the one lemma for "text
behind a held prefix, then a NUL"); the `_bounded` statements of Props/C15.lean are projections of `Holds` on a fresh
buffer.  That names of the generated tables contain no NUL is evaluated over the tables.
-/
import ScpiVerif.Model.BufFmt
import ScpiVerif.Lemmas.BytesOf

namespace ScpiVerif.Lemmas.BufFmt
open ScpiVerif ScpiVerif.Lexer ScpiVerif.BufFmt

theorem store_in (b : Buf) (i : Nat) (v : UInt8) (h : i < b.len) :
    b.store i v = { b with cells := b.cells.set i (some v) } := by
  simp [Buf.store, h]

structure Clean (b : Buf) (n : Nat) : Prop where
  len_eq : b.len = n
  size : b.cells.length = n
  oob : b.oob = false
  uninit : b.uninit = false

theorem fresh_clean (n : Nat) : Clean (Buf.fresh n) n :=
  ⟨rfl, by simp [Buf.fresh], rfl, rfl⟩

theorem store_spec {b : Buf} {n : Nat} (hc : Clean b n) (i : Nat) (v : UInt8) (h : i < n) :
    Clean (b.store i v) n ∧
      ∀ j, (b.store i v).cells[j]? = if j = i then some (some v) else b.cells[j]? := by
  rw [store_in b i v (by rw [hc.len_eq]; exact h)]
  refine ⟨⟨hc.len_eq, by simp [hc.size], hc.oob, hc.uninit⟩, fun j => ?_⟩
  dsimp only
  by_cases hj : j = i
  · rw [if_pos hj, hj, List.getElem?_set_self (by rw [hc.size]; exact h)]
  · rw [if_neg hj, List.getElem?_set_ne (Ne.symm hj)]

theorem storeAll_cons (b : Buf) (at_ : Nat) (x : UInt8) (d : Bytes) :
    b.storeAll at_ (x :: d) = (b.store at_ x).storeAll (at_ + 1) d := by
  unfold Buf.storeAll
  rw [List.zipIdx_cons, List.foldl_cons, List.zipIdx_succ, List.foldl_map]
  simp only [Nat.add_zero, Nat.add_assoc, Nat.add_comm 1]

theorem storeAll_spec {b : Buf} {n : Nat} (hc : Clean b n) (at_ : Nat) (d : Bytes)
    (h : at_ + d.length ≤ n) :
    Clean (b.storeAll at_ d) n ∧
      ∀ j, (b.storeAll at_ d).cells[j]? =
        if at_ ≤ j ∧ j < at_ + d.length then some (d[j - at_]?) else b.cells[j]? := by
  induction d generalizing b at_ with
  | nil => exact ⟨hc, fun j => (if_neg (by simp only [List.length_nil]; omega)).symm⟩
  | cons x d ih =>
    rw [List.length_cons] at h
    obtain ⟨c1, g1⟩ := store_spec hc at_ x (by omega)
    obtain ⟨c2, g2⟩ := ih c1 (at_ + 1) (by omega)
    rw [storeAll_cons]
    refine ⟨c2, fun j => ?_⟩
    rw [g2 j, g1 j, List.length_cons]
    by_cases h1 : at_ + 1 ≤ j ∧ j < at_ + 1 + d.length
    · rw [if_pos h1, if_pos (by omega), show j - at_ = j - (at_ + 1) + 1 by omega, List.getElem?_cons_succ]
    · rw [if_neg h1]
      by_cases h3 : j = at_
      · rw [if_pos h3, if_pos (by omega), h3, Nat.sub_self]; rfl
      · rw [if_neg h3, if_neg (by omega)]

theorem strlen_go_spec (b : Buf) (r : Nat)
    (hpre : ∀ j, j < r → ∃ v, b.cells[j]? = some (some v) ∧ v ≠ 0)
    (hend : b.cells[r]? = some (some 0)) :
    ∀ f i, i ≤ r → r < i + f → Buf.strlen.go b f i = (b, r) := by
  intro f
  induction f with
  | zero => intro i h1 h2; omega
  | succ f ih =>
    intro i h1 h2
    rw [Buf.strlen.go]
    by_cases hi : i = r
    · subst hi; rw [hend]; simp
    · obtain ⟨v, hv, hv0⟩ := hpre i (by omega)
      rw [hv]
      simp only [beq_iff_eq, hv0, if_false]
      exact ih (i+1) (by omega) (by omega)

theorem strlen_spec (b : Buf) (r : Nat) (hs : b.cells.length = b.len)
    (hpre : ∀ j, j < r → ∃ v, b.cells[j]? = some (some v) ∧ v ≠ 0)
    (hend : b.cells[r]? = some (some 0)) : b.strlen = (b, r) := by
  have hr : r < b.cells.length := by
    rcases Nat.lt_or_ge r b.cells.length with h | h
    · exact h
    · rw [List.getElem?_eq_none h] at hend; cases hend
  exact strlen_go_spec b r hpre hend (b.len + 1) 0 (by omega) (by omega)

theorem strnlen_go_spec (b : Buf) (n r : Nat)
    (hpre : ∀ j, j < r → ∃ v, b.cells[j]? = some (some v) ∧ v ≠ 0)
    (hend : r = n ∨ b.cells[r]? = some (some 0)) :
    ∀ f i, i ≤ r → r < i + f → r ≤ n → Buf.strnlen.go b n f i = (b, r) := by
  intro f
  induction f with
  | zero => intro i h1 h2; omega
  | succ f ih =>
    intro i h1 h2 h3
    rw [Buf.strnlen.go]
    by_cases hn : i ≥ n
    · rw [if_pos hn]; congr 1; omega
    · rw [if_neg hn]
      by_cases hi : i = r
      · subst hi
        rcases hend with h | h
        · omega
        · rw [h]; simp
      · obtain ⟨v, hv, hv0⟩ := hpre i (by omega)
        rw [hv]
        simp only [beq_iff_eq, hv0, if_false]
        exact ih (i+1) (by omega) (by omega) h3

theorem strnlen_spec (b : Buf) (n r : Nat) (hr : r ≤ n)
    (hpre : ∀ j, j < r → ∃ v, b.cells[j]? = some (some v) ∧ v ≠ 0)
    (hend : r = n ∨ b.cells[r]? = some (some 0)) : b.strnlen n = (b, r) :=
  strnlen_go_spec b n r hpre hend (n + 1) 0 (by omega) (by omega) hr

theorem nz_take {s : Bytes} (h : ∀ x ∈ s, x ≠ 0) (k : Nat) : ∀ x ∈ s.take k, x ≠ 0 :=
  fun x hx => h x (List.mem_of_mem_take hx)

theorem takeWhile_of_get (s : Bytes) : ∀ (l : Bytes), (∀ j, j < s.length → l[j]? = s[j]?) →
    (∀ x ∈ s, x ≠ 0) → l[s.length]? = some 0 → l.takeWhile (· ≠ 0) = s := by
  induction s with
  | nil =>
    intro l _ _ h0
    cases l with
    | nil => rfl
    | cons a t =>
      have : a = 0 := by simpa using h0
      subst this; rfl
  | cons a s ih =>
    intro l h1 h2 h0
    cases l with
    | nil => have := h1 0 (by simp); simp at this
    | cons c t =>
      have hc : c = a := by have := h1 0 (by simp); simpa using this
      subst hc
      have ha : c ≠ 0 := h2 c (by simp)
      rw [List.takeWhile_cons_of_pos (by simpa using ha)]
      congr 1
      refine ih t (fun j hj => ?_) (fun x hx => h2 x (by simp [hx])) ?_
      · have := h1 (j+1) (by simp; omega)
        simpa using this
      · simpa using h0

structure Holds (b : Buf) (n : Nat) (s : Bytes) : Prop where
  clean : Clean b n
  lt : s.length < n
  nz : ∀ x ∈ s, x ≠ 0
  pre : ∀ j, j < s.length → b.cells[j]? = some (s[j]?)
  nul : b.cells[s.length]? = some (some 0)

theorem Holds.pre' {b : Buf} {n : Nat} {s : Bytes} (H : Holds b n s) (j : Nat) (hj : j < s.length) :
    ∃ v, b.cells[j]? = some (some v) ∧ v ≠ 0 := by
  refine ⟨s[j], ?_, H.nz _ (List.getElem_mem hj)⟩
  rw [H.pre j hj, List.getElem?_eq_getElem hj]

theorem Holds.strlen {b : Buf} {n : Nat} {s : Bytes} (H : Holds b n s) : b.strlen = (b, s.length) :=
  strlen_spec b s.length (by rw [H.clean.size, H.clean.len_eq]) H.pre' H.nul

theorem Holds.cstring {b : Buf} {n : Nat} {s : Bytes} (H : Holds b n s) : b.cstring = some s := by
  have hn : (b.cells.map (fun c => c.getD 170))[s.length]? = some 0 := by
    rw [List.getElem?_map, H.nul]; rfl
  have hmem : (b.cells.map (fun c => c.getD 170)).contains 0 = true :=
    List.contains_iff_mem.2 (List.mem_of_getElem? hn)
  unfold Buf.cstring
  simp only [hmem, if_true]
  congr 1
  refine takeWhile_of_get s _ (fun j hj => ?_) H.nz hn
  rw [List.getElem?_map, H.pre j hj, List.getElem?_eq_getElem hj]; rfl

theorem holds_write {b : Buf} {n : Nat} (hc : Clean b n) (s d : Bytes) (hs : ∀ x ∈ s, x ≠ 0) (hd : ∀ x ∈ d, x ≠ 0)
    (hpre : ∀ j, j < s.length → b.cells[j]? = some (s[j]?)) (hroom : s.length + d.length < n) :
    Holds ((b.storeAll s.length d).store (s.length + d.length) 0) n (s ++ d) := by
  obtain ⟨c1, g1⟩ := storeAll_spec hc s.length d (by omega)
  obtain ⟨c2, g2⟩ := store_spec c1 (s.length + d.length) 0 hroom
  refine ⟨c2, by rw [List.length_append]; exact hroom, ?_, fun j hj => ?_, ?_⟩
  · intro x hx
    rcases List.mem_append.1 hx with h | h
    · exact hs x h
    · exact hd x h
  · rw [List.length_append] at hj
    rw [g2, if_neg (by omega), g1]
    by_cases h1 : j < s.length
    · rw [if_neg (by omega), hpre j h1, List.getElem?_append_left h1]
    · rw [if_pos (by omega), List.getElem?_append_right (by omega)]
  · rw [List.length_append, g2, if_pos rfl]

theorem snprintf_holds {b : Buf} {n : Nat} (hc : Clean b n) (hn : 0 < n) (text : Bytes)
    (ht : ∀ x ∈ text, x ≠ 0) : Holds (snprintf b n text) n (text.take (n - 1)) := by
  have hlen : (text.take (n - 1)).length = min text.length (n - 1) := by
    rw [List.length_take, Nat.min_comm]
  have hn0 : (n == 0) = false := by simp; omega
  unfold snprintf
  rw [hn0, ← hlen, if_neg Bool.false_ne_true]
  have := holds_write hc [] (text.take (n - 1)) (by simp) (nz_take ht _) (by simp) (by simp only [List.length_nil]; omega)
  rwa [List.length_nil, Nat.zero_add, List.nil_append] at this

theorem strncat_holds {b : Buf} {n : Nat} {s : Bytes} (H : Holds b n s) (src : Bytes) (k : Nat)
    (hsrc : ∀ x ∈ src, x ≠ 0) (hroom : s.length + (src.take k).length < n) :
    Holds (strncat b src k) n (s ++ src.take k) := by
  unfold strncat
  rw [H.strlen]
  simp only [Lemmas.ByteList.takeWhile_all _ _ (fun x hx => decide_eq_true (hsrc x hx))]
  exact holds_write H.clean s _ H.nz (nz_take hsrc k) H.pre hroom

theorem padded_get (text : Bytes) (k j : Nat) (hj : j < k) :
    (text.take k ++ List.replicate (k - text.length) 0)[j]? =
      if j < text.length then text[j]? else some 0 := by
  by_cases h : j < text.length
  · rw [if_pos h, List.getElem?_append_left (by rw [List.length_take]; omega),
      List.getElem?_take_of_lt hj]
  · rw [if_neg h, List.getElem?_append_right (by rw [List.length_take]; omega),
      List.getElem?_replicate, if_pos (by rw [List.length_take]; omega)]

theorem strncpy_spec {b : Buf} {n : Nat} (hc : Clean b n) (src : Bytes) (k : Nat) (hk : k ≤ n)
    (hsrc : ∀ x ∈ src, x ≠ 0) :
    Clean (strncpy b src k) n ∧
      ∀ j, (strncpy b src k).cells[j]? =
        if j < k then some (if j < src.length then src[j]? else some 0) else b.cells[j]? := by
  unfold strncpy
  simp only [Lemmas.ByteList.takeWhile_all _ _ (fun x hx => decide_eq_true (hsrc x hx))]
  have hl : (src.take k ++ List.replicate (k - src.length) 0).length = k := by
    rw [List.length_append, List.length_take, List.length_replicate]; omega
  obtain ⟨c1, g1⟩ := storeAll_spec hc 0 (src.take k ++ List.replicate (k - src.length) 0)
    (by omega)
  refine ⟨c1, fun j => ?_⟩
  rw [g1, hl, Nat.zero_add, Nat.sub_zero]
  by_cases hj : j < k
  · rw [if_pos ⟨Nat.zero_le _, hj⟩, if_pos hj, padded_get src k j hj]
  · rw [if_neg (by omega), if_neg hj]

/-- strncpy of `n` bytes into an `n`-byte object, then a NUL at `n-1` or at the length of the copied prefix -/
theorem copy_holds {b : Buf} {n : Nat} (hc : Clean b n) (hn : 0 < n) (text : Bytes)
    (ht : ∀ x ∈ text, x ≠ 0) (i : Nat) (hi : i = n - 1 ∨ i = (text.take (n - 1)).length) :
    Holds ((strncpy b text n).store i 0) n (text.take (n - 1)) := by
  have hlen : (text.take (n - 1)).length = min (n - 1) text.length := List.length_take
  obtain ⟨c1, g1⟩ := strncpy_spec hc text n (Nat.le_refl _) ht
  obtain ⟨c2, g2⟩ := store_spec c1 i 0 (by omega)
  refine ⟨c2, by omega, nz_take ht _, fun j hj => ?_, ?_⟩
  · rw [g2, if_neg (by omega), g1, if_pos (by omega), if_pos (by omega),
      List.getElem?_take_of_lt (by omega)]
  · rw [g2]
    by_cases h : (text.take (n - 1)).length = i
    · rw [if_pos h]
    · rw [if_neg h, g1, if_pos (by omega), if_neg (by omega)]

theorem table_names_are_c_strings :
    (∀ u ∈ Gen.unitsDef, u.1.toUTF8.toList.all (· ≠ 0) = true) ∧
    (∀ p ∈ Gen.specialNumbersDef, p.1.toUTF8.toList.all (· ≠ 0) = true) := by
  simp only [Lemmas.ByteList.toList_eq_data]
  constructor <;> decide +kernel

theorem find?_map_nz {α : Type} {tbl : List α} {f : α → Bytes} (h : ∀ r ∈ tbl, (f r).all (· ≠ 0) = true)
    {p : α → Bool} {u : Bytes} (hu : (tbl.find? p).map f = some u) : ∀ x ∈ u, x ≠ 0 := by
  obtain ⟨row, hf, rfl⟩ := Option.map_eq_some_iff.1 hu
  exact Lemmas.ByteList.nz_of_all (h row (List.mem_of_find?_eq_some hf))

theorem unitName_nz {unit : Nat} {u : Bytes} (h : unitName unit = some u) : ∀ x ∈ u, x ≠ 0 :=
  find?_map_nz table_names_are_c_strings.1 h

theorem specialName_nz {tag : Int} {name : Bytes} (h : specialName tag = some name) : ∀ x ∈ name, x ≠ 0 :=
  find?_map_nz table_names_are_c_strings.2 h

theorem doubleToStr_holds {b : Buf} {n : Nat} (hc : Clean b n) (hn : 0 < n) (text : Bytes)
    (ht : ∀ x ∈ text, x ≠ 0) :
    ∃ b', doubleToStr b n text = (b', (text.take (n - 1)).length) ∧
      Holds b' n (text.take (n - 1)) := by
  have H := snprintf_holds hc hn text ht
  have hn0 : (n == 0) = false := by simp; omega
  refine ⟨snprintf b n text, ?_, H⟩
  unfold doubleToStr
  rw [hn0]
  simp only [Bool.false_eq_true, if_false]
  exact H.strlen

theorem doubleToStr_bounded (len : Nat) (text : Bytes) (ht : text.all (· ≠ 0) = true) :
    let (b, r) := doubleToStr (Buf.fresh len) len text
    b.oob = false ∧ b.uninit = false ∧ b.len = len ∧ r = min text.length (len - 1) ∧
    (len > 0 → b.cstring = some (text.take (len - 1))) ∧ (len = 0 → b = Buf.fresh 0) := by
  by_cases hl : len = 0
  · subst hl
    have e : doubleToStr (Buf.fresh 0) 0 text = (Buf.fresh 0, 0) := rfl
    rw [e]
    exact ⟨rfl, rfl, rfl, by simp, fun h => absurd h (by decide), fun _ => rfl⟩
  · obtain ⟨b', e, H⟩ := doubleToStr_holds (fresh_clean len) (by omega) text (Lemmas.ByteList.nz_of_all ht)
    rw [e]
    exact ⟨H.clean.oob, H.clean.uninit, H.clean.len_eq, by rw [List.length_take, Nat.min_comm],
      fun _ => H.cstring, fun h => absurd h hl⟩

theorem dtostreCopy_bounded (ssize : Nat) (text : Bytes) (ht : text.all (· ≠ 0) = true) :
    let b := dtostreCopy (Buf.fresh ssize) ssize text
    b.oob = false ∧ b.uninit = false ∧ (ssize > 0 → b.cstring = some (text.take (ssize - 1))) ∧
      (ssize = 0 → b = Buf.fresh 0) := by
  by_cases hl : ssize = 0
  · subst hl
    exact ⟨rfl, rfl, fun h => absurd h (by decide), fun _ => rfl⟩
  · have hn0 : (ssize == 0) = false := by simp; omega
    have H := copy_holds (fresh_clean ssize) (by omega) text (Lemmas.ByteList.nz_of_all ht) (ssize - 1) (Or.inl rfl)
    have e : dtostreCopy (Buf.fresh ssize) ssize text =
        (strncpy (Buf.fresh ssize) text ssize).store (ssize - 1) 0 := by
      unfold dtostreCopy; rw [hn0]; rfl
    simp only [e]
    exact ⟨H.clean.oob, H.clean.uninit, fun _ => H.cstring, fun h => absurd h hl⟩

def fullText (special : Bool) (tag : Int) (numText : Bytes) (unit : Nat) : Bytes :=
  if special then (specialName tag).getD [] else
    (match unitName unit with | some u => numText ++ [32] ++ u | none => numText)

theorem numberToStr_special_none {b : Buf} {len : Nat} (hc : Clean b len) (hl : 0 < len) :
    Holds (b.store 0 0) len [] :=
  holds_write hc [] [] (by simp) (by simp) (by simp) hl

theorem numberToStr_special_some {b : Buf} {len : Nat} (hc : Clean b len) (hl : 0 < len) (name : Bytes)
    (hn : ∀ x ∈ name, x ≠ 0) :
    (strncpy b name len).strnlen (len - 1) =
        (strncpy b name len, (name.take (len - 1)).length) ∧
      Holds ((strncpy b name len).store (name.take (len - 1)).length 0) len
        (name.take (len - 1)) := by
  refine ⟨?_, copy_holds hc hl name hn _ (Or.inr rfl)⟩
  obtain ⟨c1, g1⟩ := strncpy_spec hc name len (Nat.le_refl _) hn
  have hlen : (name.take (len - 1)).length = min (len - 1) name.length := List.length_take
  refine strnlen_spec _ _ _ (by omega) (fun j hj => ?_) ?_
  · refine ⟨name[j]'(by omega), ?_, hn _ (List.getElem_mem _)⟩
    rw [g1, if_pos (by omega), if_pos (by omega), List.getElem?_eq_getElem (by omega)]
  · by_cases h : (name.take (len - 1)).length = len - 1
    · exact Or.inl h
    · refine Or.inr ?_
      rw [g1, if_pos (by omega), if_neg (by omega)]

/-- SCPI_NumberToStr is snprintf of the full text "<number> <unit>" (or of the special name): the buffer holds its leading
`len - 1` bytes -/
theorem numberToStr_holds {b : Buf} {len : Nat} (hc : Clean b len) (hl : 0 < len) (special : Bool) (tag : Int) (numText : Bytes)
    (unit : Nat) (ht : ∀ x ∈ numText, x ≠ 0) :
    ∃ b', numberToStr b len special tag numText unit =
        (b', ((fullText special tag numText unit).take (len - 1)).length) ∧
      Holds b' len ((fullText special tag numText unit).take (len - 1)) := by
  have hn0 : (len == 0) = false := by simp; omega
  unfold numberToStr fullText
  rw [hn0]
  simp only [Bool.false_eq_true, if_false]
  cases special with
  | true =>
    simp only [if_true]
    cases hsn : specialName tag with
    | none =>
      simp only [Option.getD_none, List.take_nil]
      exact ⟨_, rfl, numberToStr_special_none hc hl⟩
    | some name =>
      obtain ⟨e, H⟩ := numberToStr_special_some hc hl name (specialName_nz hsn)
      exact ⟨_, by simp only [e, Option.getD_some], H⟩
  | false =>
    simp only [Bool.false_eq_true, if_false]
    obtain ⟨b1, e, H1⟩ := doubleToStr_holds hc hl numText ht
    have hlen : (numText.take (len - 1)).length = min (len - 1) numText.length := List.length_take
    rw [e]
    simp only
    by_cases hroom : (numText.take (len - 1)).length + 1 < len
    · rw [if_pos hroom]
      cases hun : unitName unit with
      | none => exact ⟨b1, rfl, H1⟩
      | some u =>
        have hu := unitName_nz hun
        have htn : numText.take (len - 1) = numText := List.take_of_length_le (by omega)
        rw [htn] at H1 hroom ⊢
        have hsp : ([32] : Bytes).take (len - numText.length) = [32] :=
          List.take_of_length_le (by simp; omega)
        have H2 := strncat_holds H1 [32] (len - numText.length) (by simp)
          (by rw [hsp]; simpa using hroom)
        rw [hsp] at H2
        -- the leading `len - 1` bytes of the full text: number and blank whole, the unit cut
        have hfull : (numText ++ [32] ++ u).take (len - 1) = numText ++ [32] ++ u.take (len - numText.length - 2) := by
          rw [List.take_append, List.take_of_length_le (by simp; omega)]
          simp only [List.length_append, List.length_cons, List.length_nil]
          rw [show len - 1 - (numText.length + (0 + 1)) = len - numText.length - 2 by omega]
        have H3 : Holds (if numText.length + 2 < len
              then strncat (strncat b1 [32] (len - numText.length)) u (len - numText.length - 2)
              else strncat b1 [32] (len - numText.length)) len
            ((numText ++ [32] ++ u).take (len - 1)) := by
          rw [hfull]
          by_cases h2 : numText.length + 2 < len
          · rw [if_pos h2]
            exact strncat_holds H2 u _ hu (by simp; omega)
          · rw [if_neg h2, show len - numText.length - 2 = 0 by omega, List.take_zero, List.append_nil]; exact H2
        exact ⟨_, H3.strlen, H3⟩
    · rw [if_neg hroom]
      cases hun : unitName unit with
      | none => exact ⟨b1, rfl, H1⟩
      | some u =>
        simp only
        rw [List.append_assoc, List.take_append_of_le_length (by omega)]
        exact ⟨b1, rfl, H1⟩

theorem numberToStr_bounded (len : Nat) (special : Bool) (tag : Int) (numText : Bytes) (unit : Nat)
    (ht : numText.all (· ≠ 0) = true) :
    let (b, r) := numberToStr (Buf.fresh len) len special tag numText unit
    let full : Bytes := if special then (specialName tag).getD [] else
      (match unitName unit with | some u => numText ++ [32] ++ u | none => numText)
    b.oob = false ∧ b.uninit = false ∧
    (len = 0 → r = 0 ∧ b = Buf.fresh 0) ∧
    (len > 0 → ∃ s, b.cstring = some s ∧ r = s.length ∧ s.length < len ∧ s = full.take s.length) := by
  by_cases hl : len = 0
  · subst hl
    have e : numberToStr (Buf.fresh 0) 0 special tag numText unit = (Buf.fresh 0, 0) := rfl
    rw [e]
    exact ⟨rfl, rfl, fun _ => ⟨rfl, rfl⟩, fun h => absurd h (by decide)⟩
  · obtain ⟨b, e, H⟩ :=
      numberToStr_holds (fresh_clean len) (by omega) special tag numText unit (Lemmas.ByteList.nz_of_all ht)
    rw [e]
    exact ⟨H.clean.oob, H.clean.uninit, fun h => absurd h hl,
      fun _ => ⟨_, H.cstring, rfl, H.lt, (ByteList.take_length_of_prefix (List.take_prefix _ _)).symm⟩⟩

end ScpiVerif.Lemmas.BufFmt
