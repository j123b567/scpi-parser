/-
Part 1 of 3 (LexerCTok, LexerCTok2: the recognisers) of the refinement of the hand model ScpiVerif.Lexer by the Lean text
GENERATED from libscpi/src/lexer.c (Gen/LexerC.lean).  Every `f_ref` says, for ALL buffers and cursors: the generated function,
started in the clean state `st buf n`, ends in `st buf n'` - flags still clear, i.e. NO read outside the buffer and no loop out
of fuel - with `n'` and the returned value those of the hand model.  The proofs do not depend on the shape of the generated
text: character predicates are compared on all 256 byte values; on a clean state the end-of-input test and the read are
functions of `buf[n]?` (`lexc_rd`), so `simp` evaluates a condition once that byte is known; a loop goes through `whileC_skip`.
In these three files `Lexer.x` is `ScpiVerif.Lexer.x` for a definition of the hand model and `ScpiVerif.Lemmas.Lexer.x`
(Lemmas/ByteScan.lean, Lemmas/LexCalc.lean; in LexerCTok2 also `string_skipQuote` of LexString and `header_skipMn` of
LexHeader) for a lemma.
-/
import ScpiVerif.Gen.LexerC
import ScpiVerif.Model.Lexer
import ScpiVerif.Lemmas.LexCalc

namespace ScpiVerif.Lemmas.LexerC
open ScpiVerif ScpiVerif.Gen.LexerC

/-- the clean state: cursor at offset `n`, no flag raised -/
def st (buf : Lexer.Bytes) (n : Nat) : CLex := ⟨buf, (n : Int), false, false⟩

/-- the byte a plain-char value stands for -/
def uc (k : Int) : UInt8 := UInt8.ofNat (k % 256).toNat

@[simp] theorem st_buf (buf : Lexer.Bytes) (n : Nat) : (st buf n).buf = buf := rfl
@[simp] theorem st_pos (buf : Lexer.Bytes) (n : Nat) : (st buf n).pos = (n : Int) := rfl
@[simp] theorem st_oob (buf : Lexer.Bytes) (n : Nat) : (st buf n).oob = false := rfl
@[simp] theorem st_ub (buf : Lexer.Bytes) (n : Nat) : (st buf n).ub = false := rfl
theorem st_inj {buf : Lexer.Bytes} {n m : Nat} : st buf n = st buf m ↔ n = m := by
  simp only [st, CLex.mk.injEq, and_true, true_and]; omega

/-- `state->pos++`, `state->pos += k`, `state->pos = p` on a clean state -/
theorem st_with_pos (buf : Lexer.Bytes) (n m : Nat) (p : Int) (h : p = (m : Int)) :
    { st buf n with pos := p } = st buf m := by simp [st, h]

@[simp] theorem st_succ (buf : Lexer.Bytes) (n : Nat) : { st buf n with pos := (n : Int) + 1 } = st buf (n + 1) := by
  simp [st]

@[lexc_ref, lexc_rd] theorem mk_st (buf : Lexer.Bytes) (m : Nat) : (⟨buf, (m : Int), false, false⟩ : CLex) = st buf m := rfl
@[lexc_ref, lexc_rd] theorem mk_st_succ (buf : Lexer.Bytes) (m : Nat) : (⟨buf, (m : Int) + 1, false, false⟩ : CLex) = st buf (m + 1) := rfl
@[lexc_ref] theorem mk_st_add (buf : Lexer.Bytes) (m k : Nat) : (⟨buf, (m : Int) + (k : Int), false, false⟩ : CLex) = st buf (m + k) := rfl

@[lexc_ref] theorem mk_st_succ2 (buf : Lexer.Bytes) (m : Nat) : (⟨buf, (m : Int) + 1 + 1, false, false⟩ : CLex) = st buf (m + 1 + 1) := rfl
@[lexc_ref] theorem mk_st_lit (buf : Lexer.Bytes) (m k : Nat) : (⟨buf, (m : Int) + (OfNat.ofNat (k + 2) : Int), false, false⟩ : CLex) = st buf (m + (k + 2)) := rfl

theorem st_ite (c : Prop) [Decidable c] (buf : Lexer.Bytes) (a b : Nat) :
    (if c then st buf a else st buf b) = st buf (if c then a else b) := (apply_ite _ _ _ _).symm

theorem ite_pair {α β : Type} (c : Prop) [Decidable c] (a a' : α) (b b' : β) :
    (if c then (a, b) else (a', b')) = (if c then a else a', if c then b else b') := by split <;> rfl

theorem cast_sub_eq_zero (a b : Nat) : ((a : Int) - b = 0) ↔ a = b := by omega
theorem cast_add_le (a b c : Nat) : ((a : Int) + b ≤ c) ↔ a + b ≤ c := by omega

@[lexc_rd] theorem rd_st (buf : Lexer.Bytes) (n : Nat) : rd (st buf n) 0 =
    match buf[n]? with
    | some b => (st buf n, sc b)
    | none => ({ st buf n with oob := true }, 0) := by
  by_cases h : n < buf.length <;> simp [rd, st, h, List.getD_eq_getElem?_getD]

theorem rd_out (buf : Lexer.Bytes) (n : Nat) (h : buf.length ≤ n) : rd (st buf n) 0 = ({ st buf n with oob := true }, 0) := by
  rw [rd_st, List.getElem?_eq_none h]

@[lexc_rd] theorem iseos_eq (buf : Lexer.Bytes) (n : Nat) : Lexer.iseos buf n = buf[n]?.isNone := by
  by_cases h : n < buf.length <;> simp [Lexer.iseos, h] <;> omega

/-- the model's guarded test at an offset whose byte is known (the other offsets keep their `peekP`) -/
theorem peekP_at {buf : Lexer.Bytes} {n : Nat} {o : Option UInt8} {p : UInt8 → Bool} :
    buf[n]? = o → Lexer.peekP buf n p = match o with | some b => p b | none => false := by
  intro h; subst h; rfl

theorem peekP_lt {buf : Lexer.Bytes} {n : Nat} {p : UInt8 → Bool} (h : Lexer.peekP buf n p = true) : n < buf.length :=
  Lemmas.Lexer.hd_drop_length (Lemmas.Lexer.peekP_eq buf n p ▸ h)

theorem sc_inj (a b : UInt8) : sc a = sc b ↔ a = b := by
  constructor
  · intro h
    have ha := UInt8.toNat_lt a
    have hb := UInt8.toNat_lt b
    apply UInt8.toNat_inj.mp
    simp only [sc] at h
    split at h <;> split at h <;> omega
  · intro h; rw [h]

theorem uc_sc : ∀ b : UInt8, uc (sc b) = b := ByteList.forall_byte (by decide +kernel)

theorem sc_uc (k : Int) (h1 : -128 ≤ k) (h2 : k ≤ 127) : sc (uc k) = k := by
  simp only [sc, uc, UInt8.toNat_ofNat']
  have : (k % 256).toNat % 2 ^ 8 = (k % 256).toNat := by omega
  rw [this]
  split <;> omega

theorem sc_ge (b : UInt8) : -128 ≤ sc b := by simp only [sc]; split <;> omega
theorem sc_le (b : UInt8) : sc b ≤ 127 := by simp only [sc]; have := UInt8.toNat_lt b; split <;> omega

@[lexc_cls] theorem sc_beq (b : UInt8) (k : Int) (h1 : -128 ≤ k) (h2 : k ≤ 127) : (sc b == k) = (b == uc k) := by
  have := sc_inj b (uc k)
  rw [sc_uc k h1 h2] at this
  rw [Bool.eq_iff_iff, beq_iff_eq, beq_iff_eq]; exact this

@[lexc_cls] theorem sc_eq_iff (b : UInt8) (k : Int) (h1 : -128 ≤ k) (h2 : k ≤ 127) : sc b = k ↔ b = uc k := by
  have := sc_inj b (uc k)
  rw [sc_uc k h1 h2] at this
  exact this

/-! ### character classes: the generated predicates and the linked <ctype.h> tables, on all 256 byte values

A one-character change of a predicate in lexer.c changes the generated definition and breaks the `decide` here. -/

/-- `ctype .. (u8 ..)`: the `<ctype.h>` functions as linked, with the `(uint8_t)` argument the library passes -/
@[lexc_cls] theorem classes_sc : ∀ b : UInt8,
    (isws (sc b) != 0) = Lexer.isWs b ∧ (isbdigit (sc b) != 0) = Lexer.isBDigit b ∧ (isqdigit (sc b) != 0) = Lexer.isQDigit b ∧
    (isplusmn (sc b) != 0) = Lexer.isPlusMn b ∧ (isE (sc b) != 0) = Lexer.isE b ∧ (isascii7bit (sc b) != 0) = Lexer.isAscii7 b ∧
    (isProgramExpression (sc b) != 0) = Lexer.isProgramExpression b ∧
    ctype Gen.cc_isdigit (u8 (sc b)) = Lexer.isDigit b ∧ ctype Gen.cc_isalpha (u8 (sc b)) = Lexer.isAlpha b ∧
    ctype Gen.cc_isalnum (u8 (sc b)) = Lexer.isAlnum b ∧ ctype Gen.cc_isxdigit (u8 (sc b)) = Lexer.isXDigit b :=
  ByteList.forall_byte (by decide +kernel)

@[lexc_cls] theorem radix_sc : ∀ b : UInt8,
    (isH (sc b) != 0) = (b == 104 || b == 72) ∧ (isB (sc b) != 0) = (b == 98 || b == 66) ∧
    (isQ (sc b) != 0) = (b == 113 || b == 81) ∧ (isNonzeroDigit (sc b) != 0) = (Lexer.isDigit b && b != 48) :=
  ByteList.forall_byte (by decide +kernel)

@[lexc_cls] theorem b2i_sc_beq (b : UInt8) (k : Int) (h1 : -128 ≤ k) (h2 : k ≤ 127) : (b2i (sc b == k) != 0) = (b == uc k) := by
  rw [sc_beq b k h1 h2]; cases (b == uc k) <;> simp [b2i]
@[lexc_cls] theorem b2i_ne_zero (b : Bool) : (b2i b != 0) = b := by cases b <;> simp [b2i]

set_option linter.unusedSimpArgs false in  -- the extra facts serve other spellings of the comparison
@[lexc_rd] theorem iseos_ref (buf : Lexer.Bytes) (n : Nat) : (iseos (st buf n) != 0) = Lexer.iseos buf n := by
  simp only [iseos, Lexer.iseos, st_buf, st_pos]
  by_cases h : buf.length ≤ n
  · have h1 : (buf.length : Int) ≤ (n : Int) := by omega
    simp [h, h1, b2i]
  · have h1 : ¬ (buf.length : Int) ≤ (n : Int) := by omega
    have h2 : (n : Int) < (buf.length : Int) := by omega
    simp [h, h2, b2i]

/-- the form `simp` gives the negated test under a binder -/
@[lexc_rd] theorem iseos_eq0 (buf : Lexer.Bytes) (n : Nat) : (iseos (st buf n) = 0) = (Lexer.iseos buf n = false) := by
  rw [← iseos_ref]; simp

theorem scpiLex_IsEos_ref (buf : Lexer.Bytes) (n : Nat) : (scpiLex_IsEos (st buf n) != 0) = Lexer.iseos buf n := by
  simp only [scpiLex_IsEos]; exact iseos_ref buf n

-- `ischr` reads: it is only called after the end-of-input test
attribute [lexc_rd] ischr

/-- `a || b` of the generated text, once both operands have left the state as it was -/
@[lexc_cls] theorem or_st (c : Prop) [Decidable c] (s : CLex) (d : Bool) :
    (if c then (s, true) else (s, d)) = (s, decide c || d) := by split <;> simp [*]

theorem iseos_in (buf : Lexer.Bytes) (n : Nat) (h : n < buf.length) : (iseos (st buf n) != 0) = false := by
  simp [iseos_ref, iseos_eq, h]
theorem iseos_out (buf : Lexer.Bytes) (n : Nat) (h : buf.length ≤ n) : (iseos (st buf n) != 0) = true := by
  simp [iseos_ref, iseos_eq, h]
theorem iseos_in0 (buf : Lexer.Bytes) (n : Nat) (h : n < buf.length) : iseos (st buf n) = 0 := by
  simp [iseos_eq0, iseos_eq, h]
theorem iseos_out0 (buf : Lexer.Bytes) (n : Nat) (h : buf.length ≤ n) : (iseos (st buf n) = 0) = False := by
  simp [iseos_eq0, iseos_eq, h]
theorem rd_in (buf : Lexer.Bytes) (n : Nat) (h : n < buf.length) : rd (st buf n) 0 = (st buf n, sc buf[n]) := by
  simp [rd_st, h]
theorem ischr_in (buf : Lexer.Bytes) (n : Nat) (k : Int) (h : n < buf.length) :
    ischr (st buf n) k = (st buf n, b2i (sc buf[n] == k)) := by
  simp [ischr, rd_in buf n h]
theorem peekP_in (buf : Lexer.Bytes) (n : Nat) (p : UInt8 → Bool) (h : n < buf.length) : Lexer.peekP buf n p = p buf[n] := by
  simp [Lexer.peekP, h]
theorem peekP_out (buf : Lexer.Bytes) (n : Nat) (p : UInt8 → Bool) (h : buf.length ≤ n) : Lexer.peekP buf n p = false := by
  simp [Lexer.peekP, h]

def iter {L : Type} (step : L → L) : Nat → L → L
  | 0, l => l
  | k + 1, l => iter step k (step l)

theorem iter_add_one (k : Nat) (l : Int) : iter (· + 1) k l = l + k := by
  induction k generalizing l with
  | zero => simp [iter]
  | succ k ih => simp only [iter, ih]; omega

@[simp] theorem iter_unit (step : Unit → Unit) (k : Nat) (l : Unit) : iter step k l = () := rfl

theorem skipMany_stop {buf : Lexer.Bytes} {n : Nat} {p : UInt8 → Bool} (hp : Lexer.peekP buf n p = false) :
    Lexer.skipMany buf n p = n := by
  rw [Lemmas.Lexer.skipMany_eq, Lexer.tw_eq_zero_iff.2 (Lemmas.Lexer.peekP_eq buf n p ▸ hp), Nat.add_zero]

theorem skipMany_step {buf : Lexer.Bytes} {n : Nat} {p : UInt8 → Bool} (hp : Lexer.peekP buf n p = true) :
    Lexer.skipMany buf n p = Lexer.skipMany buf (n + 1) p := by
  rw [Lemmas.Lexer.skipMany_eq, Lemmas.Lexer.skipMany_eq, Lexer.tw_succ (Lemmas.Lexer.peekP_eq buf n p ▸ hp), Lexer.drop_add]
  omega

theorem skipMany_ge (buf : Lexer.Bytes) (n : Nat) (p : UInt8 → Bool) : n ≤ Lexer.skipMany buf n p := by
  rw [Lexer.skipMany_eq]; omega

theorem cast_skipMany_sub (buf : Lexer.Bytes) (n : Nat) (p : UInt8 → Bool) :
    ((Lexer.skipMany buf n p - n : Nat) : Int) = (Lexer.skipMany buf n p : Int) - n := by
  have := skipMany_ge buf n p; omega

theorem skipMany_le (buf : Lexer.Bytes) (n : Nat) (p : UInt8 → Bool) (h : n ≤ buf.length) : Lexer.skipMany buf n p ≤ buf.length := by
  rw [Lexer.skipMany_eq]
  have := Lexer.tw_le_length p (buf.drop n)
  simp only [List.length_drop] at this
  omega

theorem skipOne_ge (buf : Lexer.Bytes) (n : Nat) (p : UInt8 → Bool) : n ≤ Lexer.skipOne buf n p := by
  simp only [Lexer.skipOne]; split <;> omega

theorem skipOne_le (buf : Lexer.Bytes) (n : Nat) (p : UInt8 → Bool) (h : n ≤ buf.length) : Lexer.skipOne buf n p ≤ buf.length := by
  simp only [Lexer.skipOne]; split
  · next hp => have := peekP_lt hp; omega
  · exact h

theorem skipOne_pos {buf : Lexer.Bytes} {n : Nat} {p : UInt8 → Bool} (h : Lexer.peekP buf n p = true) :
    Lexer.skipOne buf n p = n + 1 := by simp [Lexer.skipOne, h]
theorem skipOne_neg {buf : Lexer.Bytes} {n : Nat} {p : UInt8 → Bool} (h : Lexer.peekP buf n p = false) :
    Lexer.skipOne buf n p = n := by simp [Lexer.skipOne, h]

theorem skipOne_eq_self {buf : Lexer.Bytes} {n : Nat} {p : UInt8 → Bool} :
    Lexer.skipOne buf n p = n ↔ Lexer.peekP buf n p = false := by simp [Lexer.skipOne]

def tripC {L ρ : Type} (cond : CLex → L → CLex × Bool) (body : CLex → L → CLex × L × Flow ρ) (s : CLex) (l : L) : CLex × L × Flow ρ :=
  if (cond s l).2 then body (cond s l).1 l else ((cond s l).1, l, Flow.brk)

theorem whileC_succ {L ρ : Type} (cond : CLex → L → CLex × Bool) (body : CLex → L → CLex × L × Flow ρ) (fuel : Nat) (s : CLex) (l : L) :
    whileC cond body (fuel + 1) s l =
      match tripC cond body s l with
      | (s, l, .next) => whileC cond body fuel s l
      | (s, l, .brk) => (s, l, none)
      | (s, l, .ret r) => (s, l, some r) := by
  rw [whileC, tripC]
  rcases cond s l with ⟨s', _ | _⟩ <;> rfl

/-- A loop one trip of which (condition, then body) MEANS, on every clean state: "if `!iseos && p(pos[0])` then move the
cursor by one, update the locals by `step` and go on, else stop" - so at and beyond the end of the input it stops WITHOUT
reading - behaves as the hand model's `skipMany`, within `buf.length - n + 1` iterations.  Stated about one trip, so
`while (c) {..}` and `for (;;) { if (!c) break; .. }` both fit. -/
theorem whileC_skip {L ρ : Type} (cond : CLex → L → CLex × Bool) (body : CLex → L → CLex × L × Flow ρ)
    (p : UInt8 → Bool) (step : L → L) (buf : Lexer.Bytes)
    (ht : ∀ n l, tripC cond body (st buf n) l =
      if Lexer.peekP buf n p then (st buf (n + 1), step l, Flow.next) else (st buf n, l, Flow.brk))
    (fuel : Nat) (n : Nat) (l : L) (hf : buf.length - n < fuel) :
    whileC cond body fuel (st buf n) l =
      (st buf (Lexer.skipMany buf n p), iter step (Lexer.skipMany buf n p - n) l, none) := by
  induction fuel generalizing n l with
  | zero => omega
  | succ fuel ih =>
    rw [whileC_succ, ht n l]
    cases hp : Lexer.peekP buf n p
    · simp [skipMany_stop hp, iter]
    · have hlt := peekP_lt hp
      simp only [if_true]
      rw [ih (n + 1) (step l) (by omega), skipMany_step hp]
      have hge := skipMany_ge buf (n + 1) p
      have : Lexer.skipMany buf (n + 1) p - n = (Lexer.skipMany buf (n + 1) p - (n + 1)) + 1 := by omega
      rw [this, iter]

/-- splits the remaining `if`s and compares clean states field by field (cursor arithmetic by `omega`) -/
macro "lexc_close" : tactic => `(tactic|
  (repeat' split
   all_goals (try simp_all [st, lexc_code])
   all_goals (try (repeat' split))
   all_goals (try simp_all [st, lexc_code])
   all_goals (try omega)))

/-- a condition or a straight-line piece of generated text on the clean state `st buf n`, by cases on `n < buf.length`:
inside, `iseos` is false and the reads deliver the byte; at the end, `iseos` is true and NO lemma lets a read through
(`rd_out` is deliberately not used: a read at the end of the input leaves a state that is not clean) -/
macro "lexc_cases " n:term ", " buf:term : tactic => `(tactic|
  (by_cases hlt_ : $n < List.length $buf
   · simp [iseos_in _ _ hlt_, iseos_in0 _ _ hlt_, rd_in _ _ hlt_, ischr_in _ _ _ hlt_, peekP_in _ _ _ hlt_, lexc_cls, uc, Lexer.isWs, Lexer.isPlusMn, Lexer.isE, Lexer.isBDigit, *]
     try lexc_close
   · have hge_ : List.length $buf ≤ $n := Nat.le_of_not_lt hlt_
     simp [iseos_out _ _ hge_, iseos_out0 _ _ hge_, peekP_out _ _ _ hge_, uc, *]
     try lexc_close))

/-- rewrites the first loop of the goal with `whileC_skip` for the class `p` (locals: one counter, or none) -/
macro "lexc_loop " p:term ", " buf:term : tactic => `(tactic|
  (first
    | rw [whileC_skip (p := $p) (step := ((· + 1) : Int → Int)) (buf := $buf)]
    | rw [whileC_skip (p := $p) (step := (id : Unit → Unit)) (buf := $buf)]
   case ht => intro n_ l_; simp only [tripC]; lexc_cases n_, $buf
   case hf => omega))

@[lexc_ref] theorem skipWs_ref (buf : Lexer.Bytes) (n : Nat) :
    skipWs (st buf n) = (st buf (Lexer.skipMany buf n Lexer.isWs), (Lexer.skipMany buf n Lexer.isWs : Int) - n) := by
  simp only [skipWs, st_buf]
  lexc_loop Lexer.isWs, buf
  simp [iter_add_one, cast_skipMany_sub]

@[lexc_ref] theorem skipNumbers_ref (buf : Lexer.Bytes) (n : Nat) :
    skipNumbers (st buf n) = (st buf (Lexer.skipMany buf n Lexer.isDigit), (Lexer.skipMany buf n Lexer.isDigit : Int) - n) := by
  simp only [skipNumbers, st_buf]
  lexc_loop Lexer.isDigit, buf
  simp [iter_add_one, cast_skipMany_sub]

@[lexc_ref] theorem skipAlpha_ref (buf : Lexer.Bytes) (n : Nat) :
    skipAlpha (st buf n) = (st buf (Lexer.skipMany buf n Lexer.isAlpha), (Lexer.skipMany buf n Lexer.isAlpha : Int) - n) := by
  simp only [skipAlpha, st_buf]
  lexc_loop Lexer.isAlpha, buf
  simp [iter_add_one, cast_skipMany_sub]

@[lexc_ref] theorem skipHexNum_ref (buf : Lexer.Bytes) (n : Nat) :
    skipHexNum (st buf n) = (st buf (Lexer.skipMany buf n Lexer.isXDigit), (Lexer.skipMany buf n Lexer.isXDigit : Int) - n) := by
  simp only [skipHexNum, st_buf]
  lexc_loop Lexer.isXDigit, buf
  simp [iter_add_one, cast_skipMany_sub]

@[lexc_ref] theorem skipOctNum_ref (buf : Lexer.Bytes) (n : Nat) :
    skipOctNum (st buf n) = (st buf (Lexer.skipMany buf n Lexer.isQDigit), (Lexer.skipMany buf n Lexer.isQDigit : Int) - n) := by
  simp only [skipOctNum, st_buf]
  lexc_loop Lexer.isQDigit, buf
  simp [iter_add_one, cast_skipMany_sub]

@[lexc_ref] theorem skipBinNum_ref (buf : Lexer.Bytes) (n : Nat) :
    skipBinNum (st buf n) = (st buf (Lexer.skipMany buf n Lexer.isBDigit), (Lexer.skipMany buf n Lexer.isBDigit : Int) - n) := by
  simp only [skipBinNum, st_buf]
  lexc_loop Lexer.isBDigit, buf
  simp [iter_add_one, cast_skipMany_sub]

@[lexc_ref] theorem skipProgramExpression_ref (buf : Lexer.Bytes) (n : Nat) :
    skipProgramExpression (st buf n) = st buf (Lexer.skipMany buf n Lexer.isProgramExpression) := by
  simp only [skipProgramExpression, st_buf]
  lexc_loop Lexer.isProgramExpression, buf

/-- value and new cursor of a one-character skip -/
def one (buf : Lexer.Bytes) (n : Nat) (p : UInt8 → Bool) : CLex × Int :=
  (st buf (Lexer.skipOne buf n p), (Lexer.skipOne buf n p : Int) - n)

theorem one_eq (buf : Lexer.Bytes) (n : Nat) (p : UInt8 → Bool) :
    one buf n p = if Lexer.peekP buf n p then (st buf (n + 1), 1) else (st buf n, 0) := by
  simp only [one, Lexer.skipOne]; split <;> simp <;> omega

theorem one_val (buf : Lexer.Bytes) (n : Nat) (p : UInt8 → Bool) :
    one buf n p = (st buf (Lexer.skipOne buf n p), if Lexer.peekP buf n p then 1 else 0) := by
  rw [one_eq, Lexer.skipOne]; split <;> rfl

@[lexc_ref] theorem skipDigit_ref (buf : Lexer.Bytes) (n : Nat) : skipDigit (st buf n) = one buf n Lexer.isDigit := by
  simp only [skipDigit, one_eq]; lexc_cases n, buf

@[lexc_ref] theorem skipPlusmn_ref (buf : Lexer.Bytes) (n : Nat) : skipPlusmn (st buf n) = one buf n Lexer.isPlusMn := by
  simp only [skipPlusmn, one_eq]; lexc_cases n, buf

@[lexc_ref] theorem skipChr_ref (buf : Lexer.Bytes) (n : Nat) (k : Int) (h1 : -128 ≤ k) (h2 : k ≤ 127) :
    skipChr (st buf n) k = one buf n (· == uc k) := by
  simp only [skipChr, one_eq]; lexc_cases n, buf

theorem skipChr_sc (buf : Lexer.Bytes) (n : Nat) (c : UInt8) : skipChr (st buf n) (sc c) = one buf n (· == c) := by
  rw [skipChr_ref buf n (sc c) (sc_ge c) (sc_le c), uc_sc]

@[lexc_ref] theorem skipSlashDot_ref (buf : Lexer.Bytes) (n : Nat) :
    skipSlashDot (st buf n) = one buf n (fun b => b == 47 || b == 46) := by
  simp only [skipSlashDot, one_eq]; lexc_cases n, buf

@[lexc_ref] theorem skipStar_ref (buf : Lexer.Bytes) (n : Nat) : skipStar (st buf n) = one buf n (· == 42) := by
  simp only [skipStar, one_eq]; lexc_cases n, buf

@[lexc_ref] theorem skipColon_ref (buf : Lexer.Bytes) (n : Nat) : skipColon (st buf n) = one buf n (· == 58) := by
  simp only [skipColon, one_eq]; lexc_cases n, buf

end ScpiVerif.Lemmas.LexerC
