/-
Refinement of the hand-written ring buffer model `ScpiVerif.Fifo` (Model/Fifo.lean) by the definitions GENERATED from
libscpi/src/fifo.c on every run (Gen/FifoC.lean).  A well-formed C state (`CWF`) is a state of the hand model with its fields
read as int16_t (`cwf_cases`), and on such a state every generated function returns what the model's function returns, read the
same way (`ops_eq` for add, remove and remove_last; one `_refines` lemma each for the others); that `CWF` is kept, and the statements of Props/C10Gen.lean, are corollaries.  The proofs do not depend on
the shape of the generated text: both sides are unfolded, `Int.tmod` (C's `%`), `wrap16` (the store into an int16_t field) and
`%` on `Nat` (the hand model) are rewritten under side conditions that `omega` discharges from the ring invariant - every value
stored into a field is within [-32768, 32767], every `%` has a positive right operand and a non-negative left operand below
twice the right one -, every `if`/`match` is split, and the leaves are closed by `simp` and `omega`.  That int arithmetic cannot
overflow 32 bits is checked by the translator itself (interval arithmetic over int16_t leaves).
-/
import ScpiVerif.Gen.FifoC
import ScpiVerif.Model.Fifo
import ScpiVerif.Lemmas.Fifo

namespace ScpiVerif.Lemmas.FifoC
open ScpiVerif ScpiVerif.Gen.FifoC

variable {α : Type}

/- The simp sets also name what only other spellings of the same C text need (`<=` tests, one function calling another). -/
set_option linter.unusedSimpArgs false

def toModel (f : CFifo α) : Fifo.Fifo α :=
  { wr := f.wr.toNat, rd := f.rd.toNat, count := f.count.toNat, size := f.size.toNat, data := f.data }

/-- well-formed C state: non-negative indices, a capacity that an int16_t can hold, and the ring invariant of the model -/
def CWF (f : CFifo α) : Prop :=
  0 ≤ f.wr ∧ 0 ≤ f.rd ∧ 0 ≤ f.count ∧ 1 ≤ f.size ∧ f.size ≤ 32767 ∧ Fifo.Inv (toModel f)

/-- the well-formedness hypothesis as linear facts -/
macro "c_wf" h:ident : tactic => `(tactic| simp only [CWF, Fifo.Inv, toModel] at $h:ident)

abbrev ofModel (m : Fifo.Fifo α) : CFifo α :=
  { wr := m.wr, rd := m.rd, count := m.count, size := m.size, data := m.data }

theorem toModel_ofModel (m : Fifo.Fifo α) : toModel (ofModel m) = m := rfl

theorem cwf_ofModel (m : Fifo.Fifo α) (hm : Fifo.Inv m) (hs : m.size ≤ 32767) : CWF (ofModel m) :=
  ⟨Int.natCast_nonneg _, Int.natCast_nonneg _, Int.natCast_nonneg _, Int.ofNat_le.mpr hm.1, Int.ofNat_le.mpr hs, hm⟩

theorem CWF.inv {f : CFifo α} (h : CWF f) : Fifo.Inv (toModel f) := h.2.2.2.2.2

theorem CWF.size_le {f : CFifo α} (h : CWF f) : (toModel f).size ≤ 32767 := by
  have := h.2.2.2.2.1; show f.size.toNat ≤ 32767; omega

theorem CWF.step {f : CFifo α} (h : CWF f) (m : Fifo.Fifo α) (hm : Fifo.Inv m) (hs : m.size = (toModel f).size) :
    CWF (ofModel m) :=
  cwf_ofModel m hm (hs ▸ h.size_le)

/-- the well-formed C states are the states of the hand model with a capacity an int16_t can hold -/
@[elab_as_elim] theorem cwf_cases {motive : CFifo α → Prop} (f : CFifo α) (h : CWF f)
    (ofModel : ∀ m : Fifo.Fifo α, Fifo.Inv m → m.size ≤ 32767 → motive (ofModel m)) : motive f := by
  have e : FifoC.ofModel (toModel f) = f := by
    cases f; c_wf h; simp only [FifoC.ofModel, toModel, CFifo.mk.injEq, and_true]; omega
  exact e ▸ ofModel _ h.inv h.size_le

/-- `wrap16` outside the int16_t range (never reached from a well-formed state) -/
def wrap16Far (x : Int) : Int := wrap16 x

/-- C99 truncated remainder of a dividend that a ring index plus or minus one step can be -/
theorem tmod_wrap {a b : Int} (h0 : 0 ≤ a) (h : a < b + b) : Int.tmod a b = if a < b then a else a - b := by
  split
  · exact Int.tmod_eq_of_lt h0 ‹_›
  · rw [Int.tmod_eq_emod_of_nonneg h0, ← Int.sub_emod_right a b, Int.emod_eq_of_lt] <;> omega

theorem wrap16_of_range (x : Int) (h1 : -32768 ≤ x) (h2 : x ≤ 32767) : wrap16 x = x := by
  unfold wrap16; omega

/-- a defaulted read inside the list; the right side has the shape `simp` leaves in `ops_eq` -/
theorem some_getD (l : List α) (n : Nat) (d : α) (h : n < l.length) : some (l[n]?.getD d) = l[(n : Int).toNat]? := by
  show _ = l[n]?
  rw [List.getElem?_eq_getElem h]
  rfl

theorem getD_eq_getElem? [Inhabited α] (l : List α) (n : Nat) (h : n < l.length) : some (l.getD n default) = l[n]? :=
  List.getD_eq_getElem?_getD ▸ some_getD l n default h

theorem getElem?_idx (l : List α) (i j : Nat) (h : i = j) : l[i]? = l[j]? := by rw [h]

theorem some_aget [Inhabited α] (l : List α) (i : Int) (h0 : 0 ≤ i) (h : i.toNat < l.length) :
    some (aget l i) = l[i.toNat]? := by
  rw [aget, if_pos h0, getD_eq_getElem? l _ h]

theorem aset_of_nonneg (l : List α) (i : Int) (v : α) (h : 0 ≤ i) : aset l i v = l.set i.toNat v := if_pos h

theorem isSome_of_lt (l : List α) (n : Nat) (h : n < l.length) : l[n]?.isSome = true := by
  rw [List.getElem?_eq_getElem h]; rfl

theorem init_refines (f : CFifo α) (data : List α) (size : Int) :
    toModel (fifo_init f data size) = { wr := 0, rd := 0, count := 0, size := size.toNat, data := data } := by
  simp only [fifo_init, fifo_clear, toModel]; rfl

theorem cwf_init (f : CFifo α) (data : List α) (size : Int) (h1 : 1 ≤ size) (h2 : size ≤ 32767)
    (hl : data.length = size.toNat) : CWF (fifo_init f data size) := by
  refine ⟨Int.le_refl 0, Int.le_refl 0, Int.le_refl 0, h1, h2, ?_⟩
  rw [init_refines]
  have h0 : 0 < size.toNat := by omega
  exact ⟨h0, hl, h0, h0, Nat.zero_le _, (Nat.zero_mod _).symm⟩

theorem clear_refines (f : CFifo α) : toModel (fifo_clear f) = Fifo.clear (toModel f) := by
  simp only [fifo_clear, toModel, Fifo.clear]; rfl

theorem cwf_clear (f : CFifo α) (h : CWF f) : CWF (fifo_clear f) :=
  ⟨Int.le_refl 0, Int.le_refl 0, Int.le_refl 0, h.2.2.2.1, h.2.2.2.2.1,
    clear_refines f ▸ Lemmas.Fifo.inv_clear _ h.inv⟩

theorem is_empty_refines (f : CFifo α) (h : CWF f) : fifo_is_empty f = Fifo.isEmpty (toModel f) := by
  refine cwf_cases f h fun m hm hs => ?_
  rw [Bool.eq_iff_iff]
  simp only [fifo_is_empty, Fifo.isEmpty, toModel_ofModel, beq_iff_eq, decide_eq_true_eq]; omega

theorem is_full_refines (f : CFifo α) (h : CWF f) : fifo_is_full f = Fifo.isFull (toModel f) := by
  refine cwf_cases f h fun m hm hs => ?_
  rw [Bool.eq_iff_iff]
  simp only [fifo_is_full, Fifo.isFull, toModel_ofModel, beq_iff_eq, decide_eq_true_eq]; omega

/-- `*value` receives the count, the function returns TRUE (its pointer must not be NULL: it is dereferenced without a test) -/
theorem count_refines (f : CFifo α) (old : Int) (h : CWF f) :
    fifo_count f old = (Int.ofNat (Fifo.cnt (toModel f)), true) :=
  cwf_cases f h fun _ _ _ => rfl

/-- what the model's `remove` / `removeLast` return, as the generated functions deliver it: the state, the cell behind the
out pointer `p` (`none` = NULL, `some old` = points to an object holding `old`), the C return value -/
def popResult (p : Option α) (r : Fifo.Fifo α × Option α) : CFifo α × Option α × Bool :=
  (ofModel r.1, p.map (fun old => r.2.getD old), r.2.isSome)

theorem ops_eq (f : CFifo α) (h : CWF f) :
    (∀ v, fifo_add f (some v) = (Fifo.add (toModel f) v).map ofModel id) ∧
    (∀ [Inhabited α] (p : Option α), fifo_remove f p = popResult p (Fifo.remove (toModel f))) ∧
    (∀ [Inhabited α] (p : Option α), fifo_remove_last f p = popResult p (Fifo.removeLast (toModel f))) := by
  refine cwf_cases f h fun m hm hs => ?_
  simp only [Fifo.Inv] at hm
  refine ⟨fun v => ?_, fun p => ?_, fun p => ?_⟩
  all_goals simp (disch := omega) only [fifo_add, fifo_remove, fifo_remove_last, fifo_is_full, fifo_is_empty, Fifo.add,
    Fifo.remove, Fifo.removeLast, Fifo.isFull, Fifo.isEmpty, toModel_ofModel, tmod_wrap, wrap16_of_range, aset_of_nonneg,
    beq_iff_eq, decide_eq_true_eq, Int.natCast_inj, Int.natCast_eq_zero, apply_ite (Prod.map ofModel id),
    apply_ite (popResult _), Prod.map_apply, id]
  all_goals repeat' split
  all_goals try omega
  /- on each leaf of the split the model's remainder is decided by `omega`, the casts are pushed to the fields and the two
  sides coincide; with another spelling of the C text what is left is arithmetic (a leaf on which the two sides took different
  branches has contradictory hypotheses) or a cell read at the same index: the alternatives of the last line -/
  all_goals simp (disch := omega) only [Nat.mod_eq_of_lt, Lemmas.Fifo.mod_sub, popResult, ofModel, Prod.mk.injEq,
    CFifo.mk.injEq, Option.map_some, Option.map_none, Option.map_id', some_aget, some_getD, isSome_of_lt, Option.isSome_none,
    Option.getD_none, Int.toNat_natCast, Int.natCast_sub, Int.natCast_add, Int.natCast_one, true_and, and_true]
  all_goals first | omega | exact getElem?_idx _ _ _ (by omega) | exact ⟨by omega, getElem?_idx _ _ _ (by omega)⟩

theorem add_eq (f : CFifo α) (h : CWF f) (v : α) : fifo_add f (some v) = (Fifo.add (toModel f) v).map ofModel id :=
  (ops_eq f h).1 v

theorem remove_eq [Inhabited α] (f : CFifo α) (h : CWF f) (p : Option α) :
    fifo_remove f p = popResult p (Fifo.remove (toModel f)) :=
  (ops_eq f h).2.1 p

theorem remove_last_eq [Inhabited α] (f : CFifo α) (h : CWF f) (p : Option α) :
    fifo_remove_last f p = popResult p (Fifo.removeLast (toModel f)) :=
  (ops_eq f h).2.2 p

theorem add_null (f : CFifo α) : fifo_add f none = (f, false) := by
  simp only [fifo_add]; split <;> rfl

theorem cwf_add (f : CFifo α) (p : Option α) (h : CWF f) : CWF (fifo_add f p).1 := by
  cases p with
  | none => rw [add_null]; exact h
  | some v =>
    rw [add_eq f h]
    exact h.step (Fifo.add (toModel f) v).1 (Lemmas.Fifo.inv_add _ _ h.inv) (Lemmas.Fifo.size_add _ _)

theorem cwf_remove [Inhabited α] (f : CFifo α) (p : Option α) (h : CWF f) : CWF (fifo_remove f p).1 := by
  rw [remove_eq f h]
  exact h.step (Fifo.remove (toModel f)).1 (Lemmas.Fifo.inv_remove _ h.inv) (Lemmas.Fifo.size_remove _)

theorem cwf_remove_last [Inhabited α] (f : CFifo α) (p : Option α) (h : CWF f) : CWF (fifo_remove_last f p).1 := by
  rw [remove_last_eq f h]
  exact h.step (Fifo.removeLast (toModel f)).1 (Lemmas.Fifo.inv_removeLast _ h.inv) (Lemmas.Fifo.size_removeLast _)

/-- states reachable by calling the functions of fifo.c, starting from `fifo_init` with a capacity an int16_t can hold and an
array of that length -/
inductive Reachable [Inhabited α] : CFifo α → Prop
  | init (f : CFifo α) (data : List α) (size : Int) (h1 : 1 ≤ size) (h2 : size ≤ 32767) (hl : data.length = size.toNat) :
      Reachable (fifo_init f data size)
  | clear {f : CFifo α} : Reachable f → Reachable (fifo_clear f)
  | add {f : CFifo α} (p : Option α) : Reachable f → Reachable (fifo_add f p).1
  | remove {f : CFifo α} (p : Option α) : Reachable f → Reachable (fifo_remove f p).1
  | remove_last {f : CFifo α} (p : Option α) : Reachable f → Reachable (fifo_remove_last f p).1

theorem reachable_cwf [Inhabited α] {f : CFifo α} (h : Reachable f) : CWF f := by
  induction h with
  | init f data size h1 h2 hl => exact cwf_init f data size h1 h2 hl
  | clear _ ih => exact cwf_clear _ ih
  | add p _ ih => exact cwf_add _ p ih
  | remove p _ ih => exact cwf_remove _ p ih
  | remove_last p _ ih => exact cwf_remove_last _ p ih

end ScpiVerif.Lemmas.FifoC
