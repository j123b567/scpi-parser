/-
C04, numeric parameters decode to the value their literal denotes (helper lemmas of Props/C04.lean): the generated unit /
special-number tables by kernel evaluation plus "the first match is the row"; the strto* specification of Model/Prim.lean on integer
literals (decimal and #H / #Q / #B); `Spec.Float.litValue` is defined on every decimal literal of the token specification; the prefix
strtod converts (`Prim.strtodLen`, in closed form in Lemmas/StrtodLen.lean) against the literal the token specification delimits
(mantissa `decimalMant` plus exponent, `eT` for strtod and `eX` for the lexer, over the text `mem.drop off`).

Finding recorded here (`hexfloat_counterexample`): strtod recognises hexadecimal floating constants, so for the text "0x1" it converts
three bytes (value 1) although the lexer delimits the literal "0" (followed by the suffix "x1").  `conversion_sees_literal_partial`
therefore carries the hypothesis `hx`.
-/
import ScpiVerif.Model.Ctx
import ScpiVerif.Spec.Float
import ScpiVerif.Spec.Params
import ScpiVerif.Lemmas.LexDecimal
import ScpiVerif.Lemmas.ParamText
import ScpiVerif.Lemmas.BytesOf
import ScpiVerif.Lemmas.Strto
import ScpiVerif.Lemmas.LitValue
import ScpiVerif.Lemmas.StrtodLen

namespace ScpiVerif.Lemmas.Numeric
open ScpiVerif ScpiVerif.Lexer ScpiVerif.Spec
open ScpiVerif.Lemmas.Lexer ScpiVerif.Lemmas.Strto ScpiVerif.Lemmas.LitValue

/- The tables are evaluated on the list under the byte array of a name (`ByteList.toList_eq_data`, Lemmas/BytesOf.lean). -/

/-- the lowered name as one number: names that are equal ignoring case have the same key -/
def nameKey (a : Bytes) : Nat := (a.map Pattern.lower).foldl (fun k b => k * 256 + b.toNat) 0

def distinct : List Nat → Bool
  | [] => true
  | k :: ks => !ks.contains k && distinct ks

theorem nodup_of_distinct : ∀ l : List Nat, distinct l = true → l.Nodup
  | [], _ => List.nodup_nil
  | k :: ks, h => by
    simp only [distinct, Bool.and_eq_true, Bool.not_eq_true', List.contains_eq_mem, decide_eq_false_iff_not] at h
    exact List.nodup_cons.2 ⟨h.1, nodup_of_distinct ks h.2⟩

/-- the keys of the unit names are distinct: evaluated as numbers, because comparing every two names byte by byte is
slow in the kernel -/
theorem unitNames_pairwise :
    Gen.unitsDef.Pairwise (fun a b => Pattern.ciEq a.1.toUTF8.toList b.1.toUTF8.toList = false) := by
  have keys : (Gen.unitsDef.map (fun u => nameKey u.1.toUTF8.toList)).Nodup :=
    nodup_of_distinct _ (by simp only [ByteList.toList_eq_data]; decide +kernel)
  refine (List.pairwise_map.1 keys).imp ?_
  intro a b hne
  cases h : Pattern.ciEq a.1.toUTF8.toList b.1.toUTF8.toList
  · rfl
  · exact absurd (congrArg (fun l => l.foldl (fun k b => k * 256 + b.toNat) 0) ((Lemmas.Match.ciEq_iff _ _).1 h)) hne

theorem unitNames_noNul : ∀ u ∈ Gen.unitsDef, ∀ x ∈ u.1.toUTF8.toList, x ≠ 0 := by
  simp only [ByteList.toList_eq_data]; decide +kernel

theorem unit_names_distinct :
    ∀ i j, i < Gen.unitsDef.length → j < Gen.unitsDef.length → i ≠ j →
      Pattern.ciEq (Gen.unitsDef[i]!).1.toUTF8.toList (Gen.unitsDef[j]!).1.toUTF8.toList = false := by
  intro i j hi hj hne
  have hp := unitNames_pairwise
  rw [List.pairwise_iff_getElem] at hp
  rw [getElem!_pos Gen.unitsDef i hi, getElem!_pos Gen.unitsDef j hj]
  rcases Nat.lt_or_gt_of_ne hne with h | h
  · exact hp i j hi hj h
  · have := hp j i hj hi h
    rw [Lemmas.Match.ciEq_comm]; exact this

theorem unit_names_lex_whole :
    ∀ u ∈ Gen.unitsDef, (Lexer.lexSuffix u.1.toUTF8.toList 0).2.2 = u.1.toUTF8.toList.length := by
  simp only [ByteList.toList_eq_data]; decide +kernel

theorem find?_of_pairwise {α : Type} {p : α → Bool} : ∀ {l : List α},
    l.Pairwise (fun a b => p a = true → p b = false) → ∀ {u}, u ∈ l → p u = true → l.find? p = some u
  | a :: l, hp, u, hu, h => by
    rw [List.pairwise_cons] at hp
    rcases List.mem_cons.1 hu with rfl | hu'
    · exact List.find?_cons_of_pos h
    · have ha : p a = false := by
        cases ha : p a
        · rfl
        · rw [hp.1 u hu' ha] at h; cases h
      rw [List.find?_cons_of_neg (by rw [ha]; decide)]
      exact find?_of_pairwise hp.2 hu' h

theorem translateUnit_finds (s : Bytes) (u : String × Nat × Nat × Nat) (hu : u ∈ Gen.unitsDef)
    (hs : Pattern.ciEq s u.1.toUTF8.toList = true) :
    Ctx.translateUnit s = some (u.2.1, u.2.2.1, u.2.2.2) := by
  unfold Ctx.translateUnit
  rw [Lemmas.Params.translateUnit_go_eq s _ (.inr unitNames_noNul), find?_of_pairwise (unitNames_pairwise.imp ?_) hu hs]
  · rfl
  · intro a b hab ha
    cases hb : Pattern.ciEq s b.1.toUTF8.toList
    · rfl
    · rw [Lemmas.Match.ciEq_trans' ha hb] at hab; cases hab
/-- IEEE 488.2 table 7-2 prefixes (copy of `Props.C04.siPrefixes`) -/
def siPrefixes : List (String × Int) :=
  [("EX", 18), ("PE", 15), ("T", 12), ("G", 9), ("MA", 6), ("K", 3), ("M", -3), ("U", -6), ("N", -9), ("P", -12), ("F", -15), ("A", -18)]

/-- copy of `Props.C04.listedRows` -/
def listedRows : List (String × Nat × Nat) :=
  [("MNT", 1, 60), ("SEC", 1, 3600), ("MG", 1, 1000000), ("G", 1, 1000), ("TNE", 1000, 1), ("PCT", 1, 100), ("PPM", 1, 1000000), ("MIN", 60, 1), ("HR", 3600, 1)]

/-- copy of `Props.C04.explainedByPrefix` -/
def explainedByPrefix (row : String × Nat × Nat × Nat) : Bool :=
  Gen.unitsDef.any (fun base =>
    base.2.2.1 == 1 && base.2.2.2 == 1 && base.2.1 == row.2.1 &&
    siPrefixes.any (fun p =>
      row.1 == p.1 ++ base.1 &&
      (let pw : Int := if p.1 == "M" ∧ (base.1 == "OHM" ∨ base.1 == "HZ") then 6 else p.2
       if pw ≥ 0 then row.2.2.1 == 10^pw.toNat && row.2.2.2 == 1 else row.2.2.1 == 1 && row.2.2.2 == 10^(-pw).toNat)))

theorem unit_prefix_rule :
    ∀ row ∈ Gen.unitsDef, (row.2.2.1 = 1 ∧ row.2.2.2 = 1) ∨ explainedByPrefix row = true ∨
      listedRows.contains (row.1, row.2.2.1, row.2.2.2) = true := by
  decide +kernel

def shortOf (name : Bytes) : Bytes := name.takeWhile (fun b => !ScpiVerif.Lexer.isLower b)

def namesDisjoint (a b : Bytes) : Bool :=
  !Pattern.ciEq a b && !Pattern.ciEq a (shortOf b) && !Pattern.ciEq (shortOf a) b && !Pattern.ciEq (shortOf a) (shortOf b)

theorem special_pairwise :
    Gen.specialNumbersDef.Pairwise (fun a b => namesDisjoint a.1.toUTF8.toList b.1.toUTF8.toList = true) := by
  simp only [ByteList.toList_eq_data]; decide +kernel

theorem special_names : ∀ o ∈ Gen.specialNumbersDef, ∀ b ∈ o.1.toUTF8.toList, b ≠ 0 ∧ b ≠ 35 := by
  simp only [ByteList.toList_eq_data]; decide +kernel

theorem nameMatches_disjoint {a b s : Bytes} (hd : namesDisjoint a b = true)
    (ha : Params.nameMatches a s = true) (hb : Params.nameMatches b s = true) : False := by
  simp only [namesDisjoint, Bool.and_eq_true, Bool.not_eq_true', shortOf] at hd
  obtain ⟨⟨⟨h1, h2⟩, h3⟩, h4⟩ := hd
  simp only [Params.nameMatches, Bool.or_eq_true] at ha hb
  rcases ha with ha | ha <;> rcases hb with hb | hb
  · rw [Lemmas.Match.ciEq_trans' ha hb] at h1; cases h1
  · rw [Lemmas.Match.ciEq_trans' ha hb] at h2; cases h2
  · rw [Lemmas.Match.ciEq_trans' ha hb] at h3; cases h3
  · rw [Lemmas.Match.ciEq_trans' ha hb] at h4; cases h4

theorem special_mnemonics (s : Bytes) (p : String × Int) (hp : p ∈ Gen.specialNumbersDef)
    (hs : Params.nameMatches p.1.toUTF8.toList s = true) :
    (Ctx.specialDef.find? (fun o => Ctx.matchName o.1 s)).map (·.2) = some p.2 := by
  have hm (o : String × Int) (ho : o ∈ Gen.specialNumbersDef) :
      Ctx.matchName (Result.bytesOf o.1) s = Params.nameMatches o.1.toUTF8.toList s :=
    Lemmas.Params.matchName_eq _ s (special_names o ho)
  unfold Ctx.specialDef
  rw [List.find?_map, find?_of_pairwise (special_pairwise.imp_of_mem ?_) hp ((hm p hp).trans hs)]
  · rfl
  · intro a b ha hb hab h
    rw [Function.comp_apply, hm a ha] at h
    rw [Function.comp_apply, hm b hb]
    cases hb : Params.nameMatches b.1.toUTF8.toList s
    · rfl
    · exact (nameMatches_disjoint hab h hb).elim

/-- the value `Params.intLiteral` gives the digits is the one strto* accumulates -/
theorem intFold_eq (ds : Bytes) (h : ∀ b ∈ ds, isDigit b = true) (acc : Nat) :
    List.foldl (fun (a : Int) (b : UInt8) => a * 10 + ((b.toNat : Int) - 48)) (acc : Int) ds =
      ((ds.foldl (fun a b => a * 10 + (Prim.digitVal b).getD 0) acc : Nat) : Int) :=
  List.foldl_rel (r := fun (a : Int) (n : Nat) => a = n) rfl fun b hb a n e => by
    have := ByteClass.isDigit_toNat (h b hb)
    rw [e, digitVal_digit (h b hb), Option.getD_some]; omega

theorem lvSign_shape (s : Bytes) :
    ∃ sg, (sg = [] ∨ sg = [43] ∨ sg = [45]) ∧ s = sg ++ (lvSign s).2 ∧ (lvSign s).1 = decide (sg = [45]) := by
  unfold lvSign
  split
  · exact ⟨[45], .inr (.inr rfl), rfl, rfl⟩
  · exact ⟨[43], .inr (.inl rfl), rfl, rfl⟩
  · exact ⟨[], .inl rfl, rfl, rfl⟩

theorem intLiteral_shape {t : Bytes} {v : Int} (ht : Params.intLiteral t = some v) :
    ∃ sg ds m, t = sg ++ ds ∧ (sg = [] ∨ sg = [43] ∨ sg = [45]) ∧ ds ≠ [] ∧ (∀ b ∈ ds, isDigit b = true) ∧
      m = ds.foldl (fun a b => a * 10 + (Prim.digitVal b).getD 0) 0 ∧ v = if sg = [45] then -(m : Int) else m := by
  obtain ⟨sg, hsg, hs, hneg⟩ := lvSign_shape t
  -- `intLiteral` splits the sign off as `litValue` does
  have ht' : (if (lvSign t).2.isEmpty = true ∨ (!(lvSign t).2.all isDigit) = true then none
      else some (if (lvSign t).1 = true then -(List.foldl (fun (a : Int) (b : UInt8) => a * 10 + ((b.toNat : Int) - 48)) 0 (lvSign t).2)
        else List.foldl (fun (a : Int) (b : UInt8) => a * 10 + ((b.toNat : Int) - 48)) 0 (lvSign t).2)) = some v := ht
  split at ht'
  · cases ht'
  · rename_i hc
    simp only [List.isEmpty_iff, Bool.not_eq_true', not_or, Bool.not_eq_false, List.all_eq_true] at hc
    have := intFold_eq _ hc.2 0
    rw [Int.natCast_zero] at this
    rw [this, hneg] at ht'
    exact ⟨sg, _, _, hs, hsg, hc.1, hc.2, rfl, by simpa using (Option.some.inj ht').symm⟩

theorem strtoSyntax_lit (mem : Bytes) (off : Nat) (t : Bytes) (v : Int)
    (ht : Params.intLiteral t = some v) (hin : (mem.drop off).take t.length = t)
    (hnext : ∀ b, (mem.drop (off + t.length)).head? = some b → ¬ (48 ≤ b ∧ b ≤ 57)) :
    ∃ (neg : Bool) (m : Nat), Prim.strtoSyntax mem off 10 = (t.length, neg, m) ∧ 0 < t.length ∧
      v = if neg = true then -(m : Int) else (m : Int) := by
  obtain ⟨sg, ds, m, rfl, hsg, hds, hall, rfl, hv⟩ := intLiteral_shape ht
  have hs := ByteList.eq_append_of_take hin
  have hstop : hd (mem.drop (off + (sg ++ ds).length)) (digitOK 10) = false :=
    hd_false_of_head? fun x hx => by
      rw [digitOK_ten]; exact Bool.eq_false_iff.2 (mt (ByteClass.isDigit_iff x).1 (hnext x hx))
  rw [List.drop_drop, List.append_assoc] at hs
  refine ⟨decide (sg = [45]), _, ?_, ?_, by simpa using hv⟩
  · rw [strtoSyntax_list, hs, syn_digits 10 sg ds _ hsg hds
      (fun b hb => (digit_table b).ten.trans (hall b hb)) hstop (fun h => absurd h (by decide)), List.length_append]
    rfl
  · have : 0 < ds.length := List.length_pos_iff.2 hds
    simp; omega

theorem integer_exact_signed (w : Nat) (hw : w = 32 ∨ w = 64) (mem : Bytes) (off : Nat) (t : Bytes) (v : Int)
    (ht : Params.intLiteral t = some v) (hin : (mem.drop off).take t.length = t)
    (hnext : ∀ b, (mem.drop (off + t.length)).head? = some b → ¬ (48 ≤ b ∧ b ≤ 57))
    (hr : -(2^(w-1) : Int) ≤ v ∧ v < 2^(w-1)) :
    Prim.strtolTo w mem off 10 = (t.length, v) := by
  obtain ⟨neg, m, hsyn, hpos, hv⟩ := strtoSyntax_lit mem off t v ht hin hnext
  rw [hv] at hr ⊢
  exact strtolTo_of_syntax w (by omega) mem off 10 _ m neg hsyn hpos hr

theorem integer_exact_unsigned (w : Nat) (hw : w = 32 ∨ w = 64) (mem : Bytes) (off : Nat) (t : Bytes) (v : Int)
    (ht : Params.intLiteral t = some v) (hin : (mem.drop off).take t.length = t)
    (hnext : ∀ b, (mem.drop (off + t.length)).head? = some b → ¬ (48 ≤ b ∧ b ≤ 57))
    (hr : 0 ≤ v ∧ v < 2^w) :
    Prim.strtoulTo w mem off 10 = (t.length, v.toNat) := by
  obtain ⟨neg, m, hsyn, hpos, hv⟩ := strtoSyntax_lit mem off t v ht hin hnext
  have hneg : neg = true → m = 0 := by
    rintro rfl; simp only [if_true] at hv; omega
  have hvm : v.toNat = m := by
    cases neg <;> simp only [Bool.false_eq_true, if_false, if_true] at hv <;> omega
  rw [hvm]
  refine strtoulTo_of_syntax w (by omega) mem off 10 _ m neg hsyn hpos ?_ hneg
  have : (m : Int) < 2^w := by omega
  exact_mod_cast this

/-- the digit value `Params.nondecimalValue` uses -/
def ndDigit (b : UInt8) : Nat :=
  if 48 ≤ b ∧ b ≤ 57 then b.toNat - 48 else if 97 ≤ b ∧ b ≤ 102 then b.toNat - 87 else if 65 ≤ b ∧ b ≤ 70 then b.toNat - 55 else 0

theorem ndDigit_eq : ∀ b : UInt8, digitOK 16 b = true → (Prim.digitVal b).getD 0 = ndDigit b := by
  apply ByteList.forall_byte
  decide +kernel

theorem nondecimalValue_eq (ty : TokType) (ds : Bytes) :
    Params.nondecimalValue ty ds =
      ds.foldl (fun a b => a * (if ty == .hexnum then 16 else if ty == .octnum then 8 else 2) + ndDigit b) 0 := rfl

theorem nondecimal_exact (w : Nat) (hw : w = 32 ∨ w = 64) (ty : TokType) (base : Nat)
    (hb : (ty = .hexnum ∧ base = 16) ∨ (ty = .octnum ∧ base = 8) ∨ (ty = .binnum ∧ base = 2))
    (mem : Bytes) (off : Nat) (ds : Bytes) (hds : ds ≠ [])
    (hdig : ∀ b ∈ ds, match Prim.digitVal b with | some d => d < base | none => False)
    (hin : (mem.drop off).take ds.length = ds)
    (hnext : ∀ b, (mem.drop (off + ds.length)).head? = some b → (match Prim.digitVal b with | some d => ¬ d < base | none => True) ∧ b ≠ 120 ∧ b ≠ 88)
    (hr : Params.nondecimalValue ty ds < 2^w) :
    Prim.strtoulTo w mem off base = (ds.length, Params.nondecimalValue ty ds) := by
  have hb16 : base ≤ 16 := by rcases hb with ⟨_, rfl⟩ | ⟨_, rfl⟩ | ⟨_, rfl⟩ <;> omega
  have hbase : (if ty == .hexnum then 16 else if ty == .octnum then 8 else 2) = base := by
    rcases hb with ⟨rfl, rfl⟩ | ⟨rfl, rfl⟩ | ⟨rfl, rfl⟩ <;> rfl
  have hall : ∀ b ∈ ds, digitOK base b = true := by
    intro b hb'
    have := hdig b hb'
    cases hdv : Prim.digitVal b with
    | none => rw [hdv] at this; exact this.elim
    | some d => rw [hdv] at this; exact (digitOK_some hdv).trans (decide_eq_true this)
  have hs := ByteList.eq_append_of_take hin
  rw [List.drop_drop] at hs
  generalize mem.drop (off + ds.length) = rest at hs hnext
  have hrest : hd rest (digitOK base) = false ∧ hd rest (fun b => b == 120 || b == 88) = false := by
    refine ⟨hd_false_of_head? fun x hx => ?_, hd_false_of_head? fun x hx => by simp [(hnext x hx).2]⟩
    have := (hnext x hx).1
    cases hdv : Prim.digitVal x with
    | none => exact digitOK_none hdv
    | some d => rw [hdv] at this; exact (digitOK_some hdv).trans (decide_eq_false this)
  have hsyn : Prim.strtoSyntax mem off base = (([] : Bytes).length + ds.length, decide (([] : Bytes) = [45]), digVal base ds 0) := by
    rw [strtoSyntax_list, hs]; exact syn_digits base [] ds rest (.inl rfl) hds hall hrest.1 (fun _ => hrest.2)
  -- the value: both sides fold the same digits, each with its own table of digit values
  have hval : digVal base ds 0 = ds.foldl (fun a b => a * base + ndDigit b) 0 :=
    List.foldl_rel (r := Eq) rfl fun b hb' a a' e => by rw [e, ndDigit_eq b (digitOK_mono hb16 (hall b hb'))]
  rw [hval, ← hbase, ← nondecimalValue_eq, hbase] at hsyn
  exact strtoulTo_of_syntax w (by omega) mem off base _ _ false
    (by simpa using hsyn) (List.length_pos_iff.2 hds) hr (by simp)

theorem lvSign_eq (s : Bytes) : lvSign s = (hd s (· == 45), s.drop (sgn s)) := by
  unfold lvSign
  split
  · rfl
  · rfl
  · rename_i h1 h2
    cases s with
    | nil => rfl
    | cons b r =>
      have h45 : b ≠ 45 := fun h => h1 r (by rw [h])
      have h43 : b ≠ 43 := fun h => h2 r (by rw [h])
      simp [sgn, isPlusMn, h45, h43]

/-- the lexer's exponent (with the white space 488.2 allows), relative to the end of the mantissa -/
def eX (u : Bytes) : Nat :=
  if (decimalExp (u.drop (tw isWs u))).2 ≠ 0 then tw isWs u + (decimalExp (u.drop (tw isWs u))).1 else 0

theorem decimalTotal_eq {s : Bytes} (hnd : (decimalMant s).2 ≠ 0) :
    decimalTotal s = (decimalMant s).1 + eX (s.drop (decimalMant s).1) := by
  unfold decimalTotal eX
  rw [if_pos hnd]
  split
  · omega
  · rfl

theorem mant_of_total_pos {s : Bytes} (h : 0 < decimalTotal s) : (decimalMant s).2 ≠ 0 := by
  intro h0
  unfold decimalTotal at h
  rw [if_neg (by simpa using h0)] at h; omega

/-- what `litValue` leaves behind the exponent is what the lexer leaves -/
theorem lvExp_rest (s : Bytes) : (lvExp s).2 = s.drop (eX s) := by
  unfold lvExp eX
  rw [apply_ite (fun n => List.drop n s), ← List.drop_drop, List.drop_zero]
  simp only [dropWhile_eq_drop_tw]
  generalize s.drop (tw isWs s) = s'
  cases s' with
  | nil => simp [decimalExp]
  | cons c r =>
    simp only []
    have hE : ((c == 101) = true ∨ (c == 69) = true) ↔ isE c = true := by simp [isE]
    by_cases hc : isE c = true
    · rw [if_pos (hE.2 hc)]
      simp only [lvSign_eq, isEmpty_takeWhile, length_takeWhile]
      unfold decimalExp
      simp only [hd_cons, hc, if_true, List.drop_succ_cons, List.drop_zero]
      have : (if hd (List.drop (tw isWs r) r) isPlusMn = true then 1 else 0) = sgn (List.drop (tw isWs r) r) := rfl
      rw [this]
      generalize hr' : List.drop (tw isWs r) r = r'
      generalize hr'' : List.drop (sgn r') r' = r''
      by_cases hd0 : tw isDigit r'' = 0
      · simp [hd0]
      · simp only [hd0, decide_false, Bool.false_eq_true, if_false, ne_eq, not_false_eq_true, if_true]
        have : ∀ a b c : Nat, 1 + a + b + c = (a + b + c) + 1 := by omega
        rw [this, List.drop_succ_cons, ← hr'', ← hr']
        simp only [List.drop_drop]
    · rw [if_neg (fun h => hc (hE.1 h))]
      simp [decimalExp, hc]

/-- the mantissa stage of `litValue` is the lexer's: the same text is left behind it, as many digits are counted -/
theorem lv_mant (t : Bytes) : ∃ ip fp, lv t = lvTail (hd t (· == 45)) ip fp (t.drop (decimalMant t).1) ∧
    ip.length + fp.length = (decimalMant t).2 := by
  unfold lv decimalMant
  simp only [lvSign_eq, lvFrac_eq, List.drop_drop, length_takeWhile]
  unfold sgn
  generalize (if hd t isPlusMn = true then 1 else 0) = g
  split
  · exact ⟨_, _, by rw [← Nat.add_assoc], rfl⟩
  · exact ⟨_, _, rfl, rfl⟩

theorem lvTail_isSome {neg : Bool} {ip fp s : Bytes} (hne : ip.length + fp.length ≠ 0) (hrest : s.drop (eX s) = []) :
    (lvTail neg ip fp s).isSome = true := by
  unfold lvTail
  rw [if_neg (by simp only [List.isEmpty_iff, ← List.length_eq_zero_iff]; omega), lvExp_rest, hrest]
  exact lvFin_isSome _ _ _ _

theorem literal_facts {s t : Bytes} (h : (specToken .decimal s).map (fun e => s.take e.consumed) = some t) :
    0 < decimalTotal s ∧ decimalTotal s ≤ s.length ∧ t = s.take (decimalTotal s) := by
  have e := specToken_decimal s
  by_cases hn : 0 < decimalTotal s
  · rw [if_pos hn] at e
    rw [e] at h
    simp only [Option.map_some, Option.some.injEq] at h
    exact ⟨hn, PM_le (decimal_total_mem hn), h.symm⟩
  · rw [if_neg hn] at e
    rw [e] at h; cases h

theorem decimalTotal_take {s : Bytes} (hn : 0 < decimalTotal s) :
    decimalTotal (s.take (decimalTotal s)) = decimalTotal s := by
  have hle := PM_le (decimal_total_mem hn)
  have h1 : PM decimal (s.take (decimalTotal s)) (decimalTotal s) :=
    (Lemmas.Params.PM_take hle).2 ⟨decimal_total_mem hn, Nat.le_refl _⟩
  have h2 := decimal_total_max h1
  have h3 : 0 < decimalTotal (s.take (decimalTotal s)) := by omega
  have h4 := ((Lemmas.Params.PM_take hle).1 (decimal_total_mem h3)).2
  omega

theorem literal_has_value (s t : Bytes) (h : (specToken .decimal s).map (fun e => s.take e.consumed) = some t) :
    (Spec.Float.litValue t).isSome = true := by
  obtain ⟨hn, hle, rfl⟩ := literal_facts h
  have hT := decimalTotal_take hn
  have hlen : (s.take (decimalTotal s)).length = decimalTotal s := by simp [Nat.min_eq_left hle]
  rw [litValue_eq]
  generalize s.take (decimalTotal s) = t at hT hlen
  rw [← hT] at hlen hn
  have hnd := mant_of_total_pos hn
  obtain ⟨ip, fp, e, hl⟩ := lv_mant t
  rw [e]
  refine lvTail_isSome (hl ▸ hnd) ?_
  rw [List.drop_drop, ← decimalTotal_eq hnd]
  exact List.drop_eq_nil_of_le (by omega)

theorem ws_facts {x : Bytes} (h : hd x isWs = true) :
    hd x isE = false ∧ sgn x = 0 ∧ tw isDigit x = 0 :=
  ⟨hd_disj (fun b hb => (ByteClass.ws_excl b hb).e) h,
    if_neg (by rw [hd_disj (fun b hb => (ByteClass.ws_excl b hb).sign) h]; decide),
    tw_eq_zero_iff.2 (hd_disj (fun b hb => (ByteClass.ws_excl b hb).digit) h)⟩

/-- without white space at the two places where the lexer allows it, its exponent is strtod's -/
theorem eX_noWs {u : Bytes} (h0 : hd u isWs = false) (h1 : hd (u.drop 1) isWs = false) : eX u = eT u := by
  unfold eX eT decimalExp
  rw [tw_eq_zero_iff.2 h0, List.drop_zero]
  by_cases hE : hd u isE = true
  · simp only [hE, if_true, tw_eq_zero_iff.2 h1, Nat.add_zero, Nat.zero_add, List.drop_drop]
    rw [ite_not]; rfl
  · simp only [hE]; rfl

/-- strtod takes no exponent across white space -/
theorem eT_ws {u : Bytes} (h : hd u isWs = true ∨ hd (u.drop 1) isWs = true) : eT u = 0 := by
  unfold eT
  rcases h with h | h
  · rw [(ws_facts h).1]; rfl
  · obtain ⟨-, f2, f3⟩ := ws_facts h
    rw [f2, Nat.add_zero, f3, if_pos rfl]; exact ite_self 0

theorem eX_pos {u : Bytes} (h : eX u ≠ 0) : 1 < eX u := by
  unfold eX at h ⊢
  have hn : (decimalExp (u.drop (tw isWs u))).2 ≠ 0 := fun h0 => h (if_neg (not_not_intro h0))
  have hE := (decimal_exp_len_pos hn).1
  rw [if_pos hn]
  unfold decimalExp at hn ⊢
  rw [if_pos hE] at hn ⊢
  dsimp only at hn ⊢
  omega

theorem eT_eq_eX (u : Bytes) (hws : ∀ k, k < eX u → hd (u.drop k) isWs = false) : eT u = eX u := by
  have key : ∀ k, k ≤ 1 → hd (u.drop k) isWs = true → eX u = 0 := fun k hk hw =>
    Decidable.byContradiction fun hx => by
      rw [hws k (by have := eX_pos hx; omega)] at hw; cases hw
  by_cases h0 : hd u isWs = true
  · rw [eT_ws (.inl h0), key 0 (by omega) h0]
  · by_cases h1 : hd (u.drop 1) isWs = true
    · rw [eT_ws (.inr h1), key 1 (by omega) h1]
    · exact (eX_noWs (by simpa using h0) (by simpa using h1)).symm

theorem zx_total (pre : Bytes) (hpre : pre = [] ∨ pre = [43] ∨ pre = [45]) (x : UInt8) (hx : x = 120 ∨ x = 88) (r : Bytes) :
    decimalTotal (pre ++ 48 :: x :: r) = pre.length + 1 := by
  rcases hpre with rfl | rfl | rfl <;> rcases hx with rfl | rfl <;>
    simp +decide [decimalTotal, decimalMant, decimalExp, tw_cons, hd]

/-- the hexadecimal-constant test of strtod fails unless the literal is `0` (with optional sign) followed by `x`/`X` -/
theorem not_hex (mem : Bytes) (off : Nat) (t : Bytes)
    (ht : t = (mem.drop off).take (decimalTotal (mem.drop off)))
    (hx : (t = [48] ∨ t = [43, 48] ∨ t = [45, 48]) →
      ∀ b, (mem.drop (off + t.length)).head? = some b → b ≠ 120 ∧ b ≠ 88) :
    ¬ dHexCond mem (off + sgn (mem.drop off)) := by
  intro hc
  obtain ⟨h48, hxx'⟩ := dHexCond_hd hc
  rw [drop_add] at h48
  rw [Nat.add_assoc, drop_add] at hxx'
  have hx' : (t = [48] ∨ t = [43, 48] ∨ t = [45, 48]) →
      ∀ b, ((mem.drop off).drop t.length).head? = some b → b ≠ 120 ∧ b ≠ 88 := by
    intro h b hb; rw [← drop_add] at hb; exact hx h b hb
  clear hx
  generalize mem.drop off = s at *
  have h1 := hd_eq_cons h48
  obtain ⟨x, hx1, hx2⟩ := hd_cons_drop hxx'
  have hx1' : x = 120 ∨ x = 88 := by simpa using hx1
  rw [← List.drop_drop] at hx2
  rw [hx2] at h1
  obtain ⟨pre, hpre, -, hs⟩ := sgn_split s
  rw [h1] at hs
  generalize List.drop 1 (List.drop 1 (List.drop (sgn s) s)) = r at hs
  have htot := zx_total pre hpre x hx1' r
  rw [← hs] at htot
  rw [htot] at ht
  have ht' : t = pre ++ [48] := by
    rw [ht, hs]
    rcases hpre with rfl | rfl | rfl <;> rfl
  have hlen : t.length = pre.length + 1 := by rw [ht']; simp
  have := hx' (by rw [ht']; rcases hpre with rfl | rfl | rfl <;> simp) x (by
    rw [hlen, hs]; simp)
  rcases hx1' with rfl | rfl
  · exact this.1 rfl
  · exact this.2 rfl

/-- strtod converts exactly the decimal literal the lexer delimits when the literal has no inner white space (strtod's
exponent is then the lexer's) and is no `0x` -/
theorem strtodLen_decimal (mem : Bytes) (off : Nat) (hnd : (decimalMant (mem.drop off)).2 ≠ 0)
    (hhex : ¬ dHexCond mem (off + sgn (mem.drop off)))
    (hws : ∀ b ∈ (mem.drop off).take (decimalTotal (mem.drop off)), isWs b = false) :
    Prim.strtodLen mem off = decimalTotal (mem.drop off) := by
  rw [strtodLen_closed mem off hnd hhex, decimalTotal_eq hnd, eT_eq_eX]
  intro k hk
  rw [List.drop_drop]
  exact hd_drop_of_take hws (by rw [decimalTotal_eq hnd]; omega)

theorem conversion_sees_literal_partial (mem : Bytes) (off : Nat) (t : Bytes)
    (h : (specToken .decimal (mem.drop off)).map (fun e => (mem.drop off).take e.consumed) = some t)
    (hws : ∀ b ∈ t, b ≠ 32 ∧ b ≠ 9)
    (hx : (t = [48] ∨ t = [43, 48] ∨ t = [45, 48]) →
      ∀ b, (mem.drop (off + t.length)).head? = some b → b ≠ 120 ∧ b ≠ 88) :
    Prim.strtodLen mem off = t.length := by
  obtain ⟨hn, hle, ht⟩ := literal_facts h
  rw [strtodLen_decimal mem off (mant_of_total_pos hn) (not_hex mem off t ht hx) (fun b hb => by
    have := hws b (ht ▸ hb); simp [isWs, this.1, this.2]), ht, List.length_take, Nat.min_eq_left hle]

/-- no unit name starts with 'x' / 'X' (in either case): a suffix that makes strtod see a hexadecimal constant is
never a known unit, so SCPI_ParamNumber reports -131 and discards the converted value -/
theorem unit_names_no_x : ∀ u ∈ Gen.unitsDef, ∀ s : Bytes, Pattern.ciEq s u.1.toUTF8.toList = true →
    s.head? ≠ some 120 ∧ s.head? ≠ some 88 := by
  have key : ∀ u ∈ Gen.unitsDef, (u.1.toUTF8.toList.map Pattern.lower).head? ≠ some 120 := by
    simp only [ByteList.toList_eq_data]; decide +kernel
  intro u hu s hs
  have hk := key u hu
  rw [← (Lemmas.Match.ciEq_iff _ _).1 hs] at hk
  cases s with
  | nil => simp
  | cons b r =>
    simp only [List.map_cons, List.head?_cons, ne_eq, Option.some.injEq] at hk ⊢
    constructor
    · intro hb; rw [hb] at hk; exact hk (by decide)
    · intro hb; rw [hb] at hk; exact hk (by decide)

/-- the literal "0" followed by 'x' and a hexadecimal digit: the token specification delimits "0", strtod
converts "0x1" (a hexadecimal floating constant) -/
theorem hexfloat_counterexample :
    (specToken .decimal [48, 120, 49]).map (fun e => ([48, 120, 49] : Bytes).take e.consumed) = some [48] ∧
    Prim.strtodLen [48, 120, 49] 0 = 3 := by decide +kernel

end ScpiVerif.Lemmas.Numeric
