/-
The register functions GENERATED from libscpi/src/ieee488.c (Gen/RegsC.lean) against the hand model of Model/Regs.lean, for
Props/C11Gen.lean and Props/C12Gen.lean.  One iteration of the generated loop of SCPI_RegSet is one iteration of the model
(`loop_succ`), for any context; every iteration goes on with a register of smaller `rank`, so the whole walk is the model's
walk and the fuel the translator emits suffices (`regSet_eq`); the refinement statements are read off `regSet_eq`.
-/
import ScpiVerif.Model.Regs
import ScpiVerif.Lemmas.Regs
import ScpiVerif.Gen.RegsC

/- The simp sets also name what only other spellings of the same C text need (tools/c2lean_regs_experiments.py). -/
set_option linter.unusedSimpArgs false
namespace ScpiVerif.Lemmas.RegsC
open ScpiVerif ScpiVerif.Regs ScpiVerif.Gen.RegsC
open ScpiVerif.Lemmas.Regs (bare touch next recomp addSrq summ latch regSetLoop_succ regSetLoop_frame regSetLoop_length
  touch_length get_eq STB_eq SRE_eq)

def srqOf (log : List (Nat × Reg)) : List Reg := (log.filter (fun e => e.1 == SCPI_CTRL_SRQ)).map (·.2)

@[simp] theorem srqOf_append (l1 l2 : List (Nat × Reg)) : srqOf (l1 ++ l2) = srqOf l1 ++ srqOf l2 := by
  simp [srqOf]
@[simp] theorem srqOf_nil : srqOf [] = [] := rfl

theorem srqOf_map (l : List Reg) : srqOf (l.map (fun v => (SCPI_CTRL_SRQ, v))) = l := by
  induction l with
  | nil => rfl
  | cons a l ih => simp [srqOf, List.filter_cons] at ih ⊢; exact ih

def toSt (c : CCtx) (b : St) : St :=
  { regs := c.registers, qn := b.qn, cap := b.cap, srq := srqOf c.ctrlLog, errcb := b.errcb }

@[simp] theorem clsSTB_eq : clsSTB = 0 := by decide
@[simp] theorem clsSRE_eq : clsSRE = 1 := by decide
@[simp] theorem clsEVEN_eq : clsEVEN = 2 := by decide
@[simp] theorem clsENAB_eq : clsENAB = 3 := by decide
@[simp] theorem clsCOND_eq : clsCOND = 4 := by decide
@[simp] theorem regNone_eq : regNone = 11 := by decide
@[simp] theorem stbSRQ_eq : stbSRQ = 64#16 := by decide

theorem det_type (n : Nat) : (scpi_reg_details_at n).type_c = (detailOf n).1 := rfl
theorem det_group (n : Nat) : (scpi_reg_details_at n).group = (detailOf n).2 := rfl

theorem grp_eq (g : Nat) : scpi_reg_group_details_at g =
    ⟨(groupOf g).event, (groupOf g).enable, (groupOf g).condition, (groupOf g).ptfilt, (groupOf g).ntfilt,
     (groupOf g).parentReg, (groupOf g).parentBit⟩ := by
  unfold scpi_reg_group_details_at groupOf
  cases Gen.regGroups[g]? with
  | none => rfl
  | some r => rfl

/-- table fact: every class in `scpi_reg_details[]` (and the all-zero row the model uses outside the table) is one of
STB, SRE, EVEN, ENAB, COND; the switch of SCPI_RegSet has no default label, so another class would leave the switch
and repeat the loop, where the hand model returns -/
theorem cls_le (n : Nat) : (detailOf n).1 ≤ 4 := by
  by_cases h : n < 10
  · revert n; decide
  · simp [detailOf, List.getD_eq_getElem?_getD, List.getElem?_eq_none (show Gen.regDetails.length ≤ n from Nat.le_of_not_lt h)]

/-- table fact: the enable and filter registers of every row of `scpi_reg_group_details[]` (and of the row the model uses
outside the table) are registers or SCPI_REG_NONE.  SCPI_RegSet reads them only when they are not SCPI_REG_NONE, so the
range test of SCPI_RegGet never fails there: `SCPI_RegGet(context, i)` and `context->registers[i]` are interchangeable -/
theorem idx_ok (k : Nat) : ((groupOf k).enable = 11 ∨ (groupOf k).enable < 10) ∧
    ((groupOf k).ptfilt = 11 ∨ (groupOf k).ptfilt < 10) ∧ ((groupOf k).ntfilt = 11 ∨ (groupOf k).ntfilt < 10) := by
  by_cases h : k < 4
  · revert k; decide
  · simp only [groupOf, List.getElem?_eq_none (show Gen.regGroups.length ≤ k from Nat.le_of_not_lt h)]; decide

theorem idx_ite {α : Type} {i : Nat} (h : i = 11 ∨ i < 10) (a x z : α) :
    (if i = 11 then a else if i < 10 then x else z) = if i = 11 then a else x := by
  rcases h with h | h
  · rw [if_pos h, if_pos h]
  · rw [if_pos h]

theorem loop_ite {c : Prop} {_ : Decidable c} (n : Nat) (x y : CCtx) (name : Nat) (val : Reg) :
    SCPI_RegSet_loop1 n (if c then x else y) name val =
      if c then SCPI_RegSet_loop1 n x name val else SCPI_RegSet_loop1 n y name val := by split <;> rfl
theorem fst_ite {α β : Type} {c : Prop} {_ : Decidable c} (x y : α × β) : (if c then x else y).1 = if c then x.1 else y.1 := by
  split <;> rfl
theorem elim_ite {α β : Type} {c : Prop} {_ : Decidable c} (a b : Option α) (x : β) (f : α → β) :
    (if c then a else b).elim x f = if c then a.elim x f else b.elim x f := by split <;> rfl
/-- SCPI_RegSet tests `parent_reg == SCPI_REG_NONE` in the ENAB case and again in the loop condition -/
theorem ite_else_ite {α : Type} {p : Prop} {_ : Decidable p} (a b c : α) :
    (if p then a else if p then b else c) = if p then a else c := by split <;> rfl

/-- `if (ptrans & val)` and `if (ptrans)` are the same test -/
theorem and_and_self' (x v : Reg) : x &&& v &&& v = x &&& v := by
  ext i hi; simp

/-- `(x & k) & (y & k) = (x & k) & y`: once the status byte is masked (k = ~STB_SRQ), masking SRE as well changes
nothing, and the other way round (stated for any mask: `simp` evaluates `~~~64#16` to a literal) -/
theorem and_mask_right (x y k : Reg) : (x &&& k) &&& (y &&& k) = (x &&& k) &&& y := by
  ext i hi; simp; cases x[i] <;> cases y[i] <;> cases k[i] <;> simp
theorem and_mask_left (x y k : Reg) : x &&& (y &&& k) = (x &&& k) &&& y := by
  ext i hi; simp; cases x[i] <;> cases y[i] <;> cases k[i] <;> simp


macro "fin" ih:ident hlen:ident : tactic =>
  `(tactic| ((try simp only [toSt_ite, loop_ite, hand_ite])
             (try simp (disch := simp only [List.length_set, $hlen:ident]) [Regs.get, put, and_and_self', getD_guard, and_mask_right, and_mask_left])
             repeat' split
             all_goals (try simp (disch := simp only [List.length_set, $hlen:ident]) only [$ih:ident])
             all_goals (try simp [toSt])))

/-! ### one iteration

What one iteration of the generated loop does to ANY context (whatever the interface pointers, a register file of any
length): it is the iteration of the hand model on the registers (`Regs.touch`, `Regs.next` on `bare c.registers`), with the service requests
appended to the log when the callback is installed.  This is the only place where the generated body is compared with the
model; the theorems about the whole walk are inductions over this equation. -/

/-- the control callback is installed (`context->interface` and `context->interface->control` are not NULL): what the
hand model assumes throughout -/
def CB (c : CCtx) : Prop := c.hasInterface = true ∧ c.hasControl = true

/-- the context after the model has gone from `bare c.registers` to `t` -/
def upd (c : CCtx) (t : St) : CCtx :=
  if c.hasInterface = true ∧ c.hasControl = true then
    { c with registers := t.regs, ctrlLog := c.ctrlLog ++ t.srq.map (fun v => (SCPI_CTRL_SRQ, v)) }
  else { c with registers := t.regs }

theorem upd_recomp (c : CCtx) (s : St) (old val : Reg) : upd c (recomp s old val) =
    if (Regs.get s STB &&& ~~~stbSRQ) &&& (Regs.get s SRE &&& ~~~stbSRQ) ≠ 0 then
      if ((old ^^^ val) &&& val) &&& val ≠ 0 then
        upd c (addSrq (put s STB (Regs.get s STB ||| stbSRQ)) (Regs.get (put s STB (Regs.get s STB ||| stbSRQ)) STB))
      else upd c (put s STB (Regs.get s STB ||| stbSRQ))
    else upd c (put s STB (Regs.get s STB &&& ~~~stbSRQ)) := by
  simp only [recomp, addSrq]
  split
  · split <;> rfl
  · rfl

theorem loop_succ (n : Nat) (c : CCtx) (name : Nat) (val : Reg) :
    SCPI_RegSet_loop1 (n+1) c name val =
      (next (bare c.registers) name val).elim (upd c (touch (bare c.registers) name val))
        (fun p => SCPI_RegSet_loop1 n (upd c (touch (bare c.registers) name val)) p.1 p.2) := by
  obtain ⟨regs, hi, hc, log, ret, oof⟩ := c
  simp only [regsC, next, touch, bare, det_type, det_group, grp_eq]
  have hcls := cls_le name
  generalize detailOf name = d at hcls
  obtain ⟨cls, grp⟩ := d
  simp only at hcls
  obtain ⟨i1, i2, i3⟩ := idx_ok grp
  generalize groupOf grp = g at i1 i2 i3 ⊢
  simp only [clsSTB_eq, clsSRE_eq, clsEVEN_eq, clsENAB_eq, clsCOND_eq, regNone_eq]
  have hcase : (cls = 0 ∨ cls = 1) ∨ cls = 2 ∨ cls = 3 ∨ cls = 4 := by omega
  -- in each case both sides become nested `if`s with the same tests in the same order and structure literals at the
  -- leaves: dead branches are pruned, the `if`s are moved out of the arguments, then the leaves are normalised
  by_cases h0 : regs.getD name 0 = val <;> rcases hcase with hA | rfl | rfl | rfl <;>
    simp only [*, ↓reduceIte, beq_iff_eq, bne_iff_ne, ne_eq, Bool.or_eq_true, Bool.and_eq_true, decide_eq_true_eq,
      not_true_eq_false, not_false_eq_true, Nat.reduceEqDiff, Bool.and_self, Bool.true_and, Bool.and_true, or_self, and_self] <;>
    simp only [upd_recomp, loop_ite, fst_ite, elim_ite, false_or, true_or, Option.elim_none, Option.elim_some, ite_not] <;>
    simp only [upd, put, addSrq, summ, latch, get_eq, STB_eq, SRE_eq, stbSRQ_eq, regNone_eq, SCPI_CTRL_SRQ,
      BitVec.ofNat_eq_ofNat] <;>
    simp only [and_and_self', and_mask_right, and_mask_left, idx_ite i1, idx_ite i2, idx_ite i3, Nat.reduceLT, ↓reduceIte,
      List.map_cons, List.map_nil, List.append_nil, List.nil_append, ite_self, loop_ite, ite_not, ite_else_ite]

theorem upd_bare (c : CCtx) : upd c (bare c.registers) = c := by
  unfold upd; split <;> simp [bare]

theorem upd_registers (c : CCtx) (t : St) : (upd c t).registers = t.regs := by
  unfold upd; split <;> rfl

theorem upd_ctrlLog (c : CCtx) (t : St) : (upd c t).ctrlLog =
    c.ctrlLog ++ if c.hasInterface = true ∧ c.hasControl = true then t.srq.map (fun v => (SCPI_CTRL_SRQ, v)) else [] := by
  unfold upd; split <;> simp [*]

theorem upd_oof (c : CCtx) (t : St) : (upd c t).oof = c.oof := by
  unfold upd; split <;> rfl

/-! ### fuel: the walk up the register hierarchy is at most three iterations for the generated tables -/

/-- iterations that can follow the one for `name`: a condition register is followed by its event register, an event or
enable register by the parent (the status byte), the status byte / SRE by nothing -/
def rank (n : Nat) : Nat :=
  if (detailOf n).1 = 4 then 2 else if (detailOf n).1 = 2 ∨ (detailOf n).1 = 3 then 1 else 0

/-- table fact (all rows of the generated tables, and the rows the model uses outside them): where one iteration of
SCPI_RegSet continues, it continues with a register of smaller rank -/
theorem table_desc (n : Nat) :
    (((detailOf n).1 = 0 ∨ (detailOf n).1 = 1) → (groupOf (detailOf n).2).parentReg = 11) ∧
    ((detailOf n).1 = 2 → rank (groupOf (detailOf n).2).parentReg < rank n) ∧
    ((detailOf n).1 = 3 → rank (groupOf (detailOf n).2).parentReg < rank n) ∧
    ((detailOf n).1 = 4 → rank (groupOf (detailOf n).2).event < rank n) := by
  by_cases h : n < 10
  · revert n; decide
  · have e : detailOf n = (0, 0) := by
      simp [detailOf, List.getD_eq_getElem?_getD, List.getElem?_eq_none (show Gen.regDetails.length ≤ n from Nat.le_of_not_lt h)]
    rw [e]; exact ⟨fun _ => by decide, fun h => absurd h (by decide), fun h => absurd h (by decide), fun h => absurd h (by decide)⟩

theorem next_rank {s : St} {name : Nat} {val : Reg} {p : Nat × Reg} (h : next s name val = some p) :
    rank p.1 < rank name := by
  obtain ⟨t1, t2, t3, t4⟩ := table_desc name
  simp only [next, clsSTB_eq, clsSRE_eq, clsEVEN_eq, clsENAB_eq, clsCOND_eq, regNone_eq] at h
  generalize rank name = r at *
  generalize detailOf name = d at *
  generalize groupOf d.2 = g at *
  split at h
  · cases h
  rename_i hp
  split at h
  · exact absurd (t1 ‹_›) (fun e => hp (Or.inr e))
  split at h
  · cases h; exact t2 ‹_›
  split at h
  · cases h; exact t4 ‹_›
  split at h
  · cases h; exact t3 ‹_›
  · cases h

theorem hand_fuel : ∀ (f1 f2 : Nat) (s : St) (name : Nat) (val : Reg), rank name < f1 → rank name < f2 →
    regSetLoop f1 s name val = regSetLoop f2 s name val := by
  intro f1
  induction f1 with
  | zero => intros; omega
  | succ n ih =>
    intro f2 s name val h1 h2
    obtain ⟨m, rfl⟩ : ∃ m, f2 = m + 1 := ⟨f2 - 1, by omega⟩
    rw [regSetLoop_succ, regSetLoop_succ]
    cases h : next s name val with
    | none => rfl
    | some p => have := next_rank h; exact ih m _ _ _ (by omega) (by omega)

def flags (c : CCtx) : Bool × Bool × Int := (c.hasInterface, c.hasControl, c.ctrlRet)

macro "finoof" ih:ident : tactic =>
  `(tactic| ((try simp only [oof_ite, fst_ite, loop_ite])
             repeat' split
             all_goals (first | rfl | (simp (disch := omega) only [$ih:ident]))))

/-- The generated walk, for any fuel and any context, is the model's walk on the registers as `upd` reports it: registers
and log follow the model, interface pointers and the callback's answer are left alone.  Only `oof` can differ, and it does
not when the walk starts at a register of rank below the fuel. -/
theorem loop_eq : ∀ (fuel : Nat) (c : CCtx) (name : Nat) (val : Reg),
    ∃ o, SCPI_RegSet_loop1 fuel c name val = { upd c (regSetLoop fuel (bare c.registers) name val) with oof := o } ∧
      (rank name < fuel → o = c.oof) := by
  intro fuel
  induction fuel with
  | zero => intro c _ _; exact ⟨true, by rw [regSetLoop, upd_bare]; rfl, fun h => absurd h (Nat.not_lt_zero _)⟩
  | succ n ih =>
    intro c name val
    rw [loop_succ, regSetLoop_succ]
    cases h : next (bare c.registers) name val with
    | none => exact ⟨c.oof, by rw [← upd_oof c]; rfl, fun _ => rfl⟩
    | some p =>
      obtain ⟨o, e, ho⟩ := ih (upd c (touch (bare c.registers) name val)) p.1 p.2
      refine ⟨o, ?_, fun _ => (ho (by have := next_rank h; omega)).trans (upd_oof _ _)⟩
      -- the model's walk from `touch …` is its walk from the bare registers of `touch …`, with the requests of `touch …` in front
      rw [Option.elim_some, Option.elim_some, e, upd_registers, regSetLoop_frame n (touch _ _ _)]
      unfold upd; split <;> simp [*]

theorem loop_oof : ∀ (fuel : Nat) (c : CCtx) (name : Nat) (val : Reg), rank name < fuel →
    (SCPI_RegSet_loop1 fuel c name val).oof = c.oof := by
  intro fuel c name val h
  obtain ⟨o, e, ho⟩ := loop_eq fuel c name val
  rw [e]; exact ho h

theorem rank_le (n : Nat) : rank n ≤ 2 := by unfold rank; split <;> (try split) <;> omega

theorem fuel_ok (name : Nat) : rank name < SCPI_RegSet_loop1_fuel ∧ rank name < 8 := by
  have := rank_le name
  have : 3 ≤ SCPI_RegSet_loop1_fuel := by decide
  omega

theorem regSet_unfold (c : CCtx) (name : Nat) (val : Reg) :
    SCPI_RegSet c name val = if name < 10 then SCPI_RegSet_loop1 SCPI_RegSet_loop1_fuel c name val else c := by
  by_cases hn : name < 10
  · have hn' : ¬ 10 ≤ name := by omega
    simp [SCPI_RegSet, hn, hn']
  · have hn' : 10 ≤ name := by omega
    simp [SCPI_RegSet, hn, hn']

/-- SCPI_RegSet on any context (callback installed or not, register file of any length), any name and value; the fuel of
the translator (11) and of the hand model (8) both exceed every rank -/
theorem regSet_eq (c : CCtx) (name : Nat) (val : Reg) :
    SCPI_RegSet c name val = upd c (regSet (bare c.registers) name val) := by
  rw [regSet_unfold, regSet]
  by_cases hn : name < 10
  · rw [if_pos hn, if_neg (by simpa using hn), hand_fuel 8 _ _ _ _ (fuel_ok name).2 (fuel_ok name).1]
    obtain ⟨o, e, ho⟩ := loop_eq SCPI_RegSet_loop1_fuel c name val
    rw [e, ho (fuel_ok name).1, ← upd_oof c]
  · rw [if_neg hn, if_pos (by simpa using hn), upd_bare]

/-- with the callback installed, `upd` of a walk from the bare registers reads as that walk from `toSt c b` -/
theorem toSt_upd (c : CCtx) (b t : St) (hcb : CB c) :
    toSt (upd c t) b = { toSt c b with regs := t.regs, srq := (toSt c b).srq ++ t.srq } := by
  simp only [toSt, upd_registers, upd_ctrlLog, hcb.1, hcb.2, srqOf_append, srqOf_map, and_self, ↓reduceIte]

theorem loop_refines (b : St) : ∀ (fuel : Nat) (regs : List Reg) (log : List (Nat × Reg)) (ret : Int) (oof : Bool) (name : Nat) (val : Reg),
    regs.length = 10 →
    toSt (SCPI_RegSet_loop1 fuel ⟨regs, true, true, log, ret, oof⟩ name val) b =
      regSetLoop fuel ⟨regs, b.qn, b.cap, srqOf log, b.errcb⟩ name val := by
  intro fuel regs log ret oof name val _
  obtain ⟨o, e, -⟩ := loop_eq fuel ⟨regs, true, true, log, ret, oof⟩ name val
  rw [regSetLoop_frame, e]
  exact toSt_upd _ b _ ⟨rfl, rfl⟩

theorem regSet_refines (c : CCtx) (b : St) (name : Nat) (val : Reg) (hcb : CB c) (hlen : c.registers.length = regCount) :
    toSt (SCPI_RegSet c name val) b = regSet (toSt c b) name val := by
  rw [regSet_eq, Lemmas.Regs.regSet_frame (toSt c b)]
  exact toSt_upd c b _ hcb

theorem regSet_fuel (c : CCtx) (name : Nat) (val : Reg) :
    (SCPI_RegSet c name val).oof = c.oof ∧ flags (SCPI_RegSet c name val) = flags c := by
  rw [regSet_eq]; unfold upd; split <;> exact ⟨rfl, rfl⟩

theorem regSet_length (c : CCtx) (name : Nat) (val : Reg) (hlen : c.registers.length = regCount) :
    (SCPI_RegSet c name val).registers.length = regCount := by
  rw [regSet_eq, upd_registers]
  exact (Lemmas.Regs.regSet_same _ _ _).1.trans hlen

theorem regSet_cb (c : CCtx) (name : Nat) (val : Reg) (h : CB c) : CB (SCPI_RegSet c name val) := by
  have := (regSet_fuel c name val).2
  simp only [flags, Prod.mk.injEq] at this
  exact ⟨this.1.trans h.1, this.2.1.trans h.2⟩

theorem regGet_refines (c : CCtx) (b : St) (name : Nat) : SCPI_RegGet c name = Regs.get (toSt c b) name := by
  simp only [regsC, get_eq, toSt, decide_eq_true_eq]
  rfl

theorem regSetBits_refines (c : CCtx) (b : St) (name : Nat) (bits : Reg) (hcb : CB c) (hlen : c.registers.length = regCount) :
    toSt (SCPI_RegSetBits c name bits) b = regSetBits (toSt c b) name bits := by
  simp only [SCPI_RegSetBits, regSetBits, regSet_refines _ _ _ _ hcb hlen, regGet_refines c b]

theorem regClearBits_refines (c : CCtx) (b : St) (name : Nat) (bits : Reg) (hcb : CB c) (hlen : c.registers.length = regCount) :
    toSt (SCPI_RegClearBits c name bits) b = regClearBits (toSt c b) name bits := by
  simp only [SCPI_RegClearBits, regClearBits, regSet_refines _ _ _ _ hcb hlen, regGet_refines c b]

/-- SCPI_RegSet without an installed callback: the registers are those of the model, no control call is made -/
theorem regSet_nocb (c : CCtx) (b : St) (name : Nat) (val : Reg) (h : ¬ CB c) (hlen : c.registers.length = regCount) :
    (SCPI_RegSet c name val).registers = (regSet (toSt c b) name val).regs ∧
    (SCPI_RegSet c name val).ctrlLog = c.ctrlLog := by
  rw [regSet_eq, upd_registers, upd_ctrlLog, Lemmas.Regs.regSet_frame (toSt c b), if_neg (show ¬(_ ∧ _) from h), List.append_nil]
  exact ⟨rfl, rfl⟩

def ofSt (s : St) : CCtx :=
  { registers := s.regs, hasInterface := true, hasControl := true, ctrlLog := s.srq.map (fun v => (SCPI_CTRL_SRQ, v)),
    ctrlRet := 0, oof := false }

theorem toSt_ofSt (s : St) : toSt (ofSt s) s = s := by
  simp only [toSt, ofSt, srqOf_map]
theorem cb_ofSt (s : St) : CB (ofSt s) := ⟨rfl, rfl⟩

end ScpiVerif.Lemmas.RegsC
