/-
Helper lemmas for C20 (circular string heap of utils.c and the error queue on top of it).

The model's memcpy and memset write a block into a list (`splice`).  scpiheap_strndup and scpiheap_free each write one block
circularly (`cw`; `strndup_eq`, `free_eq`), and the invariant `HInv`, which reads the buffer circularly from the oldest text,
sees that block replaced (`dat_cw`) and is rebuilt from that in one place for every operation (`hinv_cw`).  The queue over
the heap is tied to the specification by a ghost queue of the stored texts: `G` is kept by each ring operation together with
the heap call that goes with it (`g_add`, `g_removeLast`, `g_pop`), `Rel` compares the ghost queue with the specification's
(`step_sim`).
-/
import ScpiVerif.Model.Heap
import ScpiVerif.Lemmas.Fifo
import ScpiVerif.Lemmas.ByteList

/- Props/C20.lean opens only `ScpiVerif` and `ScpiVerif.Heap` and writes `Bytes` (which lives in
`ScpiVerif.Fifo`; Model/Heap.lean opens it locally).  Make the name visible there too. -/
namespace ScpiVerif.Heap
export ScpiVerif.Fifo (Bytes)
end ScpiVerif.Heap

namespace ScpiVerif.Lemmas.Heap
open ScpiVerif ScpiVerif.Heap
open ScpiVerif.Fifo (Bytes Fifo)
open ScpiVerif.Lemmas.Fifo (mod_wrap)

theorem store_lt (h : Heap) (i : Nat) (b : UInt8) (hi : i < h.size) :
    store h i b = { h with data := h.data.set i b } := by
  simp [store, hi]

/-- the fold of `storeAll`, with the running index made explicit -/
def storeFrom (h : Heap) (at_ k : Nat) (src : List UInt8) : Heap :=
  (src.zipIdx k).foldl (fun h (b, i) => store h (at_ + i) b) h

theorem storeAll_eq_storeFrom (h : Heap) (at_ : Nat) (src : List UInt8) :
    storeAll h at_ src = storeFrom h at_ 0 src := rfl

theorem storeFrom_nil (h : Heap) (at_ k : Nat) : storeFrom h at_ k [] = h := rfl

theorem storeFrom_cons (h : Heap) (at_ k : Nat) (b : UInt8) (src : List UInt8) :
    storeFrom h at_ k (b :: src) = storeFrom (store h (at_ + k) b) at_ (k + 1) src := by
  simp [storeFrom, List.zipIdx_cons]

def splice (d : List UInt8) (a : Nat) (src : List UInt8) : List UInt8 := d.take a ++ src ++ d.drop (a + src.length)

theorem length_splice {d src : List UInt8} {a : Nat} (h : a + src.length ≤ d.length) : (splice d a src).length = d.length := by
  simp only [splice, List.length_append, List.length_take, List.length_drop]; omega

theorem getElem?_splice {d src : List UInt8} {a : Nat} (h : a ≤ d.length) (j : Nat) :
    (splice d a src)[j]? = if a ≤ j ∧ j < a + src.length then src[j - a]? else d[j]? := by
  unfold splice
  by_cases h1 : j < a
  · rw [if_neg (by omega), List.append_assoc, List.getElem?_append_left (by simp; omega), List.getElem?_take_of_lt h1]
  · by_cases h2 : j < a + src.length
    · rw [if_pos (by omega), List.getElem?_append_left (by simp; omega), List.getElem?_append_right (by simp; omega)]
      simp [Nat.min_eq_left h]
    · rw [if_neg (by omega), List.getElem?_append_right (by simp; omega), List.getElem?_drop]
      congr 1; simp; omega

theorem splice_set (d : List UInt8) (i : Nat) (b : UInt8) (src : List UInt8) (hi : i < d.length) :
    splice (d.set i b) (i + 1) src = splice d i (b :: src) := by
  have h1 : (d.set i b).take (i + 1) = d.take i ++ [b] := by
    rw [List.take_set, List.take_succ_eq_append_getElem hi, List.set_append_right _ _ (by simp; omega)]
    simp [Nat.min_eq_left (Nat.le_of_lt hi)]
  rw [splice, splice, h1, List.drop_set_of_lt (by omega), List.length_cons,
    show i + 1 + src.length = i + (src.length + 1) by omega]
  simp

theorem storeFrom_eq (src : List UInt8) (h : Heap) (at_ k : Nat) (hlen : h.data.length = h.size)
    (hfit : at_ + k + src.length ≤ h.size) :
    storeFrom h at_ k src = { h with data := splice h.data (at_ + k) src } := by
  induction src generalizing h k with
  | nil => simp [storeFrom, splice]
  | cons b src ih =>
    simp only [List.length_cons] at hfit
    rw [storeFrom_cons, store_lt h _ b (by omega), ih _ _ (by simpa using hlen) (by simp only; omega)]
    simp only [← Nat.add_assoc, splice_set _ _ b src (show at_ + k < h.data.length by omega)]

theorem storeAll_eq (h : Heap) (at_ : Nat) (src : List UInt8) (hlen : h.data.length = h.size)
    (hfit : at_ + src.length ≤ h.size) : storeAll h at_ src = { h with data := splice h.data at_ src } :=
  storeFrom_eq src h at_ 0 hlen hfit

theorem splice_comm {d x y : List UInt8} {a b : Nat} (hb : b + y.length ≤ a) (ha : a + x.length ≤ d.length) :
    splice (splice d b y) a x = splice (splice d a x) b y := by
  apply List.ext_getElem?
  intro j
  rw [getElem?_splice (by rw [length_splice (by omega)]; omega), getElem?_splice (by omega),
    getElem?_splice (by rw [length_splice ha]; omega), getElem?_splice (by omega)]
  by_cases h1 : a ≤ j ∧ j < a + x.length
  · rw [if_pos h1, if_neg (by omega), if_pos h1]
  · rw [if_neg h1, if_neg h1]

theorem zero_eq (h : Heap) (at_ n : Nat) (hlen : h.data.length = h.size) (hfit : at_ + n ≤ h.size) :
    zero h at_ n = { h with data := splice h.data at_ (List.replicate n 0) } :=
  storeAll_eq h at_ _ hlen (by simpa using hfit)

/-- `b` written over `d` from offset `off`, continuing at offset 0 when the end is reached: the two memcpy calls of
scpiheap_strndup -/
def cw (d : List UInt8) (off : Nat) (b : List UInt8) : List UInt8 :=
  if b.length ≥ d.length - off then splice (splice d off (b.take (d.length - off))) 0 (b.drop (d.length - off))
  else splice d off b

theorem length_cw {d b : List UInt8} {off : Nat} (hoff : off ≤ d.length) (hb : b.length ≤ d.length) :
    (cw d off b).length = d.length := by
  unfold cw
  split
  · have h1 : (splice d off (b.take (d.length - off))).length = d.length :=
      length_splice (by simp only [List.length_take]; omega)
    rw [length_splice (by simp only [List.length_drop, h1]; omega), h1]
  · exact length_splice (by omega)

theorem getElem?_cw {d b : List UInt8} {off : Nat} (hoff : off < d.length) (hb : b.length ≤ d.length) (k : Nat)
    (hk : k < d.length) :
    (cw d off b)[(off + k) % d.length]? = if k < b.length then b[k]? else d[(off + k) % d.length]? := by
  unfold cw
  by_cases hw : b.length ≥ d.length - off
  · rw [if_pos hw, getElem?_splice (Nat.zero_le _), getElem?_splice (Nat.le_of_lt hoff)]
    simp only [List.length_take, List.length_drop, Nat.zero_add, Nat.zero_le, true_and, Nat.sub_zero, List.getElem?_drop]
    by_cases h1 : off + k < d.length
    · rw [Nat.mod_eq_of_lt h1, if_neg (by omega), if_pos (by omega), if_pos (by omega), List.getElem?_take_of_lt (by omega),
        Nat.add_sub_cancel_left]
    · rw [Lemmas.Fifo.mod_sub (by omega) (by omega)]
      by_cases h2 : k < b.length
      · rw [if_pos (by omega), if_pos h2]; congr 1; omega
      · rw [if_neg (by omega), if_neg (by omega), if_neg h2]
  · rw [if_neg hw, getElem?_splice (Nat.le_of_lt hoff)]
    by_cases h2 : k < b.length
    · rw [Nat.mod_eq_of_lt (by omega), if_pos (by omega), if_pos h2, Nat.add_sub_cancel_left]
    · rw [if_neg h2, if_neg]
      rw [mod_wrap (show off + k < d.length + d.length by omega)]
      split <;> omega

def Good (t : Bytes) : Prop := t ≠ [] ∧ ∀ b ∈ t, b ≠ 0

/-- `t` followed by a NUL is stored at `off`, wrapping at `size` -/
def Holds (h : Heap) (off : Nat) (t : Bytes) : Prop :=
  ∀ k, k ≤ t.length → h.data[(off + k) % h.size]? = (t ++ [0])[k]?

theorem takeWhile_text (t rest : Bytes) (ht : ∀ b ∈ t, b ≠ 0) :
    (t ++ 0 :: rest).takeWhile (· ≠ 0) = t := by
  rw [List.takeWhile_append_of_pos (by simpa using ht)]; simp

/-- read from `off` to the end of the buffer and on from its start, the text and its NUL come first -/
theorem holds_read {h : Heap} {off : Nat} {t : Bytes} (hlen : h.data.length = h.size) (hoff : off < h.size)
    (hfit : t.length + 1 ≤ h.size) (hh : Holds h off t) : (h.data.drop off ++ h.data).take (t.length + 1) = t ++ [0] := by
  apply List.ext_getElem?
  intro k
  rw [List.getElem?_take]
  split
  · rw [← hh k (by omega), mod_wrap (by omega)]
    split
    · rw [List.getElem?_append_left (by rw [List.length_drop]; omega), List.getElem?_drop]
    · rw [List.getElem?_append_right (by rw [List.length_drop]; omega), List.length_drop]
      congr 1; omega
  · rw [eq_comm, List.getElem?_eq_none_iff, List.length_append, List.length_singleton]; omega

theorem getParts_of_holds (h : Heap) (off : Nat) (t : Bytes) (hlen : h.data.length = h.size)
    (hoff : off < h.size) (hfit : t.length + 1 ≤ h.size) (hg : Good t) (hh : Holds h off t) :
    getParts h off = some (if off + t.length < h.size then (t.length, false, 0)
       else (h.size - off, true, t.length - (h.size - off))) ∧ textAt h off = some t := by
  obtain ⟨hne, hnz⟩ := hg
  have hr := holds_read hlen hoff hfit hh
  have hdl : (h.data.drop off).length = h.size - off := by rw [List.length_drop, hlen]
  have h0 : h.data.getD off 0 ≠ 0 := by
    have := hh 0 (by omega)
    rw [Nat.add_zero, Nat.mod_eq_of_lt hoff] at this
    cases t with
    | nil => exact absurd rfl hne
    | cons a t' =>
      simp at this
      rw [List.getD_eq_getElem?_getD, this]
      simpa using hnz a (by simp)
  by_cases hc : off + t.length < h.size
  · -- the text and its NUL lie in one piece from `off`
    rw [List.take_append_of_le_length (by omega)] at hr
    obtain ⟨rest, hd⟩ : ∃ rest, h.data.drop off = t ++ 0 :: rest :=
      ⟨_, by rw [← List.singleton_append, ← List.append_assoc, ← hr, List.take_append_drop]⟩
    have hl1 : strnlenAt h off (h.size - off) = t.length := by
      rw [strnlenAt, List.take_of_length_le (by omega), hd, takeWhile_text _ _ hnz]
    have hgp : getParts h off = some (t.length, false, 0) := by
      simp only [getParts, if_neg h0, hl1, if_neg (Nat.ne_of_lt hc)]
    refine ⟨by rw [hgp, if_pos hc], ?_⟩
    rw [textAt, hgp]
    simp [hd]
  · -- the first `size - off` bytes of the text reach the end of the buffer, the rest and the NUL lie from offset 0
    have hr' : h.size - off ≤ t.length := by omega
    rw [List.take_append, List.take_of_length_le (by omega), hdl] at hr
    have hd1 : h.data.drop off = t.take (h.size - off) := by
      have := congrArg (List.take (h.size - off)) hr
      rwa [List.take_left' hdl, List.take_append_of_le_length hr'] at this
    have hd2 : h.data.take (t.length + 1 - (h.size - off)) = t.drop (h.size - off) ++ [0] := by
      have := congrArg (List.drop (h.size - off)) hr
      rwa [List.drop_left' hdl, List.drop_append_of_le_length hr'] at this
    have hl1 : strnlenAt h off (h.size - off) = h.size - off := by
      rw [strnlenAt, List.take_of_length_le (by omega),
        ByteList.takeWhile_nz _ (fun b hb => hnz b (List.mem_of_mem_take (hd1 ▸ hb))), hdl]
    have hl2 : strnlenAt h 0 h.size = t.length - (h.size - off) := by
      rw [strnlenAt, List.drop_zero, List.take_of_length_le (by omega),
        ← List.take_append_drop (t.length + 1 - (h.size - off)) h.data, hd2, List.append_assoc, List.singleton_append,
        takeWhile_text _ _ (fun b hb => hnz b (List.mem_of_mem_drop hb)), List.length_drop]
    have hgp : getParts h off = some (h.size - off, true, t.length - (h.size - off)) := by
      simp only [getParts, if_neg h0, hl1, hl2, if_pos (show off + (h.size - off) = h.size by omega)]
    refine ⟨by rw [hgp, if_neg hc], ?_⟩
    simp only [textAt, hgp, if_true]
    have hd3 := congrArg (List.take (t.length - (h.size - off))) hd2
    rw [List.take_take, Nat.min_eq_left (by omega), List.take_left' (by rw [List.length_drop])] at hd3
    rw [List.take_of_length_le (by omega), hd1, hd3, List.take_append_drop]

theorem free_eq (h : Heap) (off : Nat) (t : Bytes) (rb : Bool) (hlen : h.data.length = h.size)
    (hoff : off < h.size) (hfit : t.length + 1 ≤ h.size) (hg : Good t) (hh : Holds h off t) :
    free h (some off) rb =
      { h with count := h.count + (t.length + 1),
               wr := if h.count + (t.length + 1) = h.size then 0
                     else if rb then (if t.length + 1 > h.wr then h.wr + h.size else h.wr) - (t.length + 1) else h.wr,
               data := cw h.data off (List.replicate (t.length + 1) 0) } := by
  have hgp := (getParts_of_holds h off t hlen hoff hfit hg hh).1
  by_cases hc : off + t.length < h.size
  · have hd : cw h.data off (List.replicate (t.length + 1) 0) = splice h.data off (List.replicate (t.length + 1) 0) := by
      unfold cw
      split
      · rw [List.take_of_length_le (by simp; omega), List.drop_of_length_le (by simp; omega)]
        simp [splice]
      · rfl
    rw [if_pos hc] at hgp
    simp only [free, hgp, Bool.false_eq_true, if_false, zero_eq h off _ hlen (show off + (t.length + 1) ≤ h.size by omega), hd,
      Nat.add_zero]
    split
    · rfl
    · split <;> rfl
  · have e : t.length + 1 - (h.size - off) = t.length - (h.size - off) + 1 := by omega
    have hd : cw h.data off (List.replicate (t.length + 1) 0) =
        splice (splice h.data 0 (List.replicate (t.length - (h.size - off) + 1) 0)) off (List.replicate (h.size - off) 0) := by
      rw [cw, hlen, if_pos (by simp; omega), List.take_replicate, List.drop_replicate, Nat.min_eq_left (by omega), e]
      exact (splice_comm (by simp; omega) (by simp; omega)).symm
    rw [if_neg hc] at hgp
    simp only [free, hgp, if_true, zero_eq h 0 _ hlen (show 0 + (t.length - (h.size - off) + 1) ≤ h.size by omega)]
    rw [zero_eq _ off _ (by simp only; rw [length_splice (by simp; omega), hlen]) (by simp only; omega)]
    simp only [← hd, show h.count + (t.length - (h.size - off) + 1) + (h.size - off) = h.count + (t.length + 1) by omega,
      show h.size - off + (t.length - (h.size - off) + 1) = t.length + 1 by omega]
    split
    · rfl
    · split <;> rfl

theorem set_same (l : List UInt8) (i : Nat) (b : UInt8) (hb : l[i]? = some b) : l.set i b = l := by
  obtain ⟨hi, rfl⟩ := List.getElem?_eq_some_iff.mp hb
  exact List.set_getElem_self hi

theorem store_same (h : Heap) (i : Nat) (b : UInt8) (hi : i < h.size) (hb : h.data[i]? = some b) :
    store h i b = h := by
  rw [store_lt h i b hi, set_same _ _ _ hb]

/-- where scpiheap_strndup puts the forced NUL: the byte before the new write offset -/
theorem last_index {wr len n : Nat} (hwr : wr < n) (hl : 1 ≤ len) (hle : len ≤ n) :
    (if (wr + len) % n > 0 then (wr + len) % n - 1 else n - 1) = (wr + (len - 1)) % n := by
  rcases Nat.lt_trichotomy (wr + len) n with h | h | h
  · rw [Nat.mod_eq_of_lt h, if_pos (by omega), Nat.mod_eq_of_lt (by omega)]; omega
  · rw [h, Nat.mod_self, if_neg (Nat.lt_irrefl 0), Nat.mod_eq_of_lt (by omega)]; omega
  · rw [Lemmas.Fifo.mod_sub (by omega) (by omega), if_pos (by omega), Lemmas.Fifo.mod_sub (by omega) (by omega)]; omega

theorem strndup_eq (h : Heap) (s : Bytes) (n : Nat) (hlen : h.data.length = h.size) (hwr : h.wr < h.size)
    (h0 : h.data.getD h.wr 0 = 0) (hs : cstr s ≠ [])
    (hfit : ((cstr s).take n).length + 1 ≤ h.count) (hcnt : h.count ≤ h.size) :
    strndup h s n = ({ h with wr := (h.wr + (((cstr s).take n).length + 1)) % h.size,
                              count := h.count - (((cstr s).take n).length + 1),
                              data := cw h.data h.wr ((cstr s).take n ++ [0]) }, some h.wr) := by
  generalize ht : (cstr s).take n = t at hfit ⊢
  have e1 : ¬ h.size = 0 := by omega
  have e2 : ¬ (h.data.getD h.wr 0 ≠ 0) := fun hc => hc h0
  have e3 : ¬ ((cstr s).isEmpty = true) := by simpa using hs
  have e4 : ¬ (t.length + 1 > h.count) := by omega
  -- the forced NUL overwrites the NUL that was copied
  have hlast : ∀ w c, (if (h.wr + (t.length + 1)) % h.size > 0 then
        store ⟨w, c, h.size, cw h.data h.wr (t ++ [0]), h.oob⟩ ((h.wr + (t.length + 1)) % h.size - 1) 0
      else store ⟨w, c, h.size, cw h.data h.wr (t ++ [0]), h.oob⟩ (h.size - 1) 0) =
      ⟨w, c, h.size, cw h.data h.wr (t ++ [0]), h.oob⟩ := by
    intro w c
    have := getElem?_cw (d := h.data) (b := t ++ [0]) (off := h.wr) (by omega) (by simp; omega) t.length (by omega)
    rw [hlen, if_pos (by simp), List.getElem?_append_right (Nat.le_refl _), Nat.sub_self] at this
    rw [← apply_ite (fun i => store _ i 0), last_index hwr (by omega) (by omega)]
    exact store_same _ _ _ (Nat.mod_lt _ (by omega)) this
  by_cases hw : t.length + 1 ≥ h.size - h.wr
  · have hl1 : (splice h.data h.wr ((t ++ [0]).take (h.size - h.wr))).length = h.size := by
      rw [length_splice (by simp; omega), hlen]
    have hm : t.length + 1 - (h.size - h.wr) = (h.wr + (t.length + 1)) % h.size := by
      rw [Lemmas.Fifo.mod_sub (by omega) (by omega)]; omega
    simp only [strndup, if_neg e1, if_neg e2, if_neg e3, ht, if_neg e4, if_pos hw]
    rw [storeAll_eq h h.wr _ hlen (by simp; omega)]
    simp only []
    rw [storeAll_eq _ 0 _ hl1 (by simp; omega)]
    simp only [Nat.zero_add, hm, show h.count - (h.size - h.wr) - (h.wr + (t.length + 1)) % h.size = h.count - (t.length + 1) by omega]
    have hcw : cw h.data h.wr (t ++ [0]) =
        splice (splice h.data h.wr ((t ++ [0]).take (h.size - h.wr))) 0 ((t ++ [0]).drop (h.size - h.wr)) := by
      rw [cw, hlen, if_pos (by simpa using hw)]
    rw [← hcw, hlast]
  · simp only [strndup, if_neg e1, if_neg e2, if_neg e3, ht, if_neg e4, if_neg hw]
    rw [storeAll_eq h h.wr _ hlen (by simp; omega)]
    simp only []
    have hcw : cw h.data h.wr (t ++ [0]) = splice h.data h.wr (t ++ [0]) := by
      rw [cw, hlen, if_neg (by simpa using hw)]
    rw [← hcw, ← Nat.mod_eq_of_lt (show h.wr + (t.length + 1) < h.size by omega), hlast, Nat.mod_mod]

/-- the four early returns of scpiheap_strndup -/
theorem strndup_none {h : Heap} {s : Bytes} {n : Nat}
    (hx : h.size = 0 ∨ h.data.getD h.wr 0 ≠ 0 ∨ (cstr s).isEmpty = true ∨ ((cstr s).take n).length + 1 > h.count) :
    strndup h s n = (h, none) := by
  by_cases e1 : h.size = 0
  · simp only [strndup, if_pos e1]
  by_cases e2 : h.data.getD h.wr 0 ≠ 0
  · simp only [strndup, if_neg e1, if_pos e2]
  by_cases e3 : (cstr s).isEmpty = true
  · simp only [strndup, if_neg e1, if_neg e2, if_pos e3]
  · simp only [strndup, if_neg e1, if_neg e2, if_neg e3, if_pos (((hx.resolve_left e1).resolve_left e2).resolve_left e3)]

theorem strndup_cases (h : Heap) (s : Bytes) (n : Nat) :
    strndup h s n = (h, none) ∨
    (h.size ≠ 0 ∧ h.data.getD h.wr 0 = 0 ∧ cstr s ≠ [] ∧ ((cstr s).take n).length + 1 ≤ h.count) := by
  by_cases hx : h.size = 0 ∨ h.data.getD h.wr 0 ≠ 0 ∨ (cstr s).isEmpty = true ∨ ((cstr s).take n).length + 1 > h.count
  · exact .inl (strndup_none hx)
  · simp only [not_or] at hx
    exact .inr ⟨hx.1, Classical.not_not.mp hx.2.1, by simpa using hx.2.2.1, Nat.le_of_not_lt hx.2.2.2⟩

theorem strndup_init (N : Nat) (s : Bytes) (n : Nat) (hs : cstr s ≠ []) (hfit : ((cstr s).take n).length < N) :
    ∃ h', strndup (Heap.init N) s n = (h', some 0) :=
  ⟨_, strndup_eq (Heap.init N) s n (by simp [Heap.init]) (by simp only [Heap.init]; omega)
    (by simp only [Heap.init]; rw [List.getD_eq_getElem?_getD, List.getElem?_replicate]; split <;> rfl)
    hs (by simp only [Heap.init]; omega) (by simp [Heap.init])⟩

/-- the stored form of the live texts, oldest first -/
def enc : List Bytes → Bytes
  | [] => []
  | t :: ts => t ++ 0 :: enc ts

theorem enc_append (a b : List Bytes) : enc (a ++ b) = enc a ++ enc b := by
  induction a with
  | nil => rfl
  | cons t a ih => simp [enc, ih]

theorem enc_single (t : Bytes) : enc [t] = t ++ [0] := rfl

/-- `st` is the offset of the oldest live text; the live texts follow each other from there, then
`count` free (zero) bytes up to `st` again -/
structure HInv (h : Heap) (st : Nat) (ts : List Bytes) : Prop where
  len : h.data.length = h.size
  oob : h.oob = false
  st_lt : st < h.size ∨ (h.size = 0 ∧ st = 0)
  wr_eq : h.wr = (st + (enc ts).length) % h.size
  cnt : h.count + (enc ts).length = h.size
  good : ∀ t ∈ ts, Good t
  dat : ∀ i, i < h.size → h.data[(st + i) % h.size]? = (enc ts ++ List.replicate h.count 0)[i]?
  empty : h.count = h.size → h.wr = 0

theorem hinv_init (n : Nat) : HInv (Heap.init n) 0 [] := by
  refine ⟨by simp [Heap.init], rfl, ?_, by simp [Heap.init, enc], by simp [Heap.init, enc], by simp, ?_, fun _ => rfl⟩
  · show 0 < n ∨ (n = 0 ∧ 0 = 0); omega
  · intro i hi
    simp only [Heap.init] at hi ⊢
    simp [enc, Nat.mod_eq_of_lt hi]

theorem circ_idx (st E k i n : Nat) (h : E + k = i ∨ E + k = i + n) :
    ((st + E) % n + k) % n = (st + i) % n := by
  rw [Nat.mod_add_mod]
  rcases h with h | h
  · rw [Nat.add_assoc, h]
  · rw [Nat.add_assoc, h, ← Nat.add_assoc, Nat.add_mod_right]

theorem hinv_wr_lt {h : Heap} {st : Nat} {ts : List Bytes} (hi : HInv h st ts) (hs : h.size ≠ 0) : h.wr < h.size := by
  rw [hi.wr_eq]; exact Nat.mod_lt _ (by omega)

theorem hinv_holds {h : Heap} {st : Nat} {ts1 ts2 : List Bytes} {t : Bytes} (hi : HInv h st (ts1 ++ t :: ts2)) :
    Holds h ((st + (enc ts1).length) % h.size) t ∧ (st + (enc ts1).length) % h.size < h.size ∧
    t.length + 1 ≤ h.size ∧ Good t := by
  have hc := hi.cnt
  rw [enc_append] at hc
  simp only [enc, List.length_append, List.length_cons] at hc
  refine ⟨?_, Nat.mod_lt _ (by omega), by omega, hi.good t (by simp)⟩
  intro k hk
  rw [circ_idx st _ k ((enc ts1).length + k) _ (Or.inl rfl), hi.dat _ (by omega), enc_append]
  simp only [enc]
  rw [List.append_assoc, List.getElem?_append_right (by omega)]
  rw [show (t ++ 0 :: enc ts2) ++ List.replicate h.count 0 = (t ++ [0]) ++ (enc ts2 ++ List.replicate h.count 0) by simp]
  rw [List.getElem?_append_left (by simp; omega)]
  congr 1; omega

theorem hinv_free_at {h : Heap} {st : Nat} {ts1 ts2 : List Bytes} {t : Bytes} (hi : HInv h st (ts1 ++ t :: ts2)) (rb : Bool) :
    free h (some ((st + (enc ts1).length) % h.size)) rb =
      { h with count := h.count + (t.length + 1),
               wr := if h.count + (t.length + 1) = h.size then 0
                     else if rb then (if t.length + 1 > h.wr then h.wr + h.size else h.wr) - (t.length + 1) else h.wr,
               data := cw h.data ((st + (enc ts1).length) % h.size) (List.replicate (t.length + 1) 0) } := by
  obtain ⟨hh, hoff, hfit, hg⟩ := hinv_holds hi
  exact free_eq h _ t rb hi.len hoff hfit hg hh

theorem good_take (s : Bytes) (n : Nat) (hn : 1 ≤ n) (hs : cstr s ≠ []) : Good ((cstr s).take n) := by
  refine ⟨fun h => (List.take_eq_nil_iff.mp h).elim (by omega) hs, fun b hb => ?_⟩
  have := List.all_eq_true.mp (List.all_takeWhile (p := (· ≠ 0)) (l := s)) b (List.mem_of_mem_take hb)
  simpa using this

theorem getElem?_append3 (A M B : List UInt8) (i : Nat) :
    (A ++ M ++ B)[i]? = if i < A.length then A[i]? else if i < A.length + M.length then M[i - A.length]?
      else B[i - A.length - M.length]? := by
  rw [List.getElem?_append, List.length_append, List.getElem?_append]
  split
  · split <;> rfl
  · rw [Nat.sub_add_eq, if_neg (by omega)]

/-- the content of `d` read circularly from `st` is `A ++ X ++ B`; writing `b` circularly where `X` lies replaces `X` by `b` -/
theorem dat_cw {d A X B b : List UInt8} {n st : Nat} (hlen : d.length = n) (hn : A.length + X.length + B.length = n)
    (hb : b.length = X.length) (hd : ∀ i, i < n → d[(st + i) % n]? = (A ++ X ++ B)[i]?) (i : Nat) (hi : i < n) :
    (cw d ((st + A.length) % n) b)[(st + i) % n]? = (A ++ b ++ B)[i]? := by
  subst hlen
  have hoff : (st + A.length) % d.length < d.length := Nat.mod_lt _ (by omega)
  rw [getElem?_append3]
  by_cases h1 : i < A.length
  · rw [if_pos h1, ← circ_idx st A.length (i + d.length - A.length) i _ (Or.inr (by omega)),
      getElem?_cw hoff (by omega) _ (by omega), if_neg (by omega),
      circ_idx st A.length (i + d.length - A.length) i _ (Or.inr (by omega)), hd i hi, getElem?_append3, if_pos h1]
  · rw [if_neg h1, ← circ_idx st A.length (i - A.length) i _ (Or.inl (by omega)),
      getElem?_cw hoff (by omega) _ (by omega)]
    by_cases h2 : i - A.length < b.length
    · rw [if_pos h2, if_pos (by omega)]
    · rw [if_neg h2, if_neg (by omega), circ_idx st A.length (i - A.length) i _ (Or.inl (by omega)), hd i hi,
        getElem?_append3, if_neg h1, if_neg (by omega), hb]

theorem dat_rotate {d X Y : List UInt8} {n st : Nat} (hn : X.length + Y.length = n)
    (hd : ∀ i, i < n → d[(st + i) % n]? = (X ++ Y)[i]?) (i : Nat) (hi : i < n) :
    d[((st + X.length) % n + i) % n]? = (Y ++ X)[i]? := by
  by_cases h1 : i < Y.length
  · rw [circ_idx st X.length i (X.length + i) _ (Or.inl rfl), hd _ (by omega), List.getElem?_append_right (by omega),
      List.getElem?_append_left h1, Nat.add_sub_cancel_left]
  · rw [circ_idx st X.length i (i - Y.length) _ (Or.inr (by omega)), hd _ (by omega), List.getElem?_append_left (by omega),
      List.getElem?_append_right (by omega)]

/-- Every heap operation is one circular write.  The ring read from `st` is `A ++ X ++ B`; `b` is written over `X`; of
the result the first `k` bytes are zero, and from then on they count as free space behind the texts: the anchor moves
by `k`. -/
theorem hinv_cw {h : Heap} {st : Nat} {ts ts' : List Bytes} (hi : HInv h st ts) (hst : st < h.size)
    {A X B b : List UInt8} {k c w off st' : Nat}
    (hold : enc ts ++ List.replicate h.count 0 = A ++ X ++ B) (hb : b.length = X.length)
    (hnew : A ++ b ++ B = List.replicate k 0 ++ (enc ts' ++ List.replicate (c - k) 0)) (hk : k ≤ c)
    (hc : c + (enc ts').length = h.size) (hg : ∀ t ∈ ts', Good t)
    (hoff : off = (st + A.length) % h.size) (hst' : st' = (st + k) % h.size)
    (hw : w = (st + k + (enc ts').length) % h.size) (he : c = h.size → w = 0) :
    HInv { h with count := c, wr := w, data := cw h.data off b } st' ts' := by
  have hn : A.length + X.length + B.length = h.size := by
    have := congrArg List.length hold
    simp only [List.length_append, List.length_replicate] at this
    have := hi.cnt; omega
  subst hoff hst'
  refine ⟨(length_cw (by rw [hi.len]; exact Nat.le_of_lt (Nat.mod_lt _ (by omega))) (by rw [hi.len]; omega)).trans hi.len,
    hi.oob, Or.inl (Nat.mod_lt _ (by omega)), by rw [hw]; exact (Nat.mod_add_mod _ _ _).symm, hc, hg, ?_, he⟩
  intro i (hi' : i < h.size)
  have := dat_rotate (d := cw h.data ((st + A.length) % h.size) b) (X := List.replicate k 0)
    (Y := enc ts' ++ List.replicate (c - k) 0) (n := h.size) (st := st) (by simp; omega)
    (fun j hj => by rw [dat_cw hi.len hn hb (fun j hj => by rw [hi.dat j hj, hold]) j hj, hnew]) i hi'
  rw [List.length_replicate] at this
  rw [this, List.append_assoc, List.replicate_append_replicate, Nat.sub_add_cancel hk]

theorem hinv_strndup {h : Heap} {st : Nat} {ts : List Bytes} (hi : HInv h st ts) (s : Bytes) (n : Nat)
    (hn : 1 ≤ n) :
    strndup h s n = (h, none) ∨
    ∃ h', strndup h s n = (h', some ((st + (enc ts).length) % h.size)) ∧ cstr s ≠ [] ∧ h'.size = h.size ∧
      HInv h' st (ts ++ [(cstr s).take n]) := by
  rcases strndup_cases h s n with hnone | ⟨e1, e2, e3, e4⟩
  · exact Or.inl hnone
  · right
    have hcnt := hi.cnt
    have hst : st < h.size := by have := hi.st_lt; omega
    have heq := strndup_eq h s n hi.len (hinv_wr_lt hi e1) e2 e3 e4 (by omega)
    have hgood := good_take s n hn e3
    generalize (cstr s).take n = t at *
    have hE : enc (ts ++ [t]) = enc ts ++ (t ++ [0]) := by rw [enc_append, enc_single]
    rw [← hi.wr_eq]
    refine ⟨_, heq, e3, rfl, hinv_cw hi hst (X := List.replicate (t.length + 1) 0)
      (B := List.replicate (h.count - (t.length + 1)) 0) (k := 0) ?_ (by simp) (by simp [hE]) (Nat.zero_le _) ?_
      (fun t' ht' => (List.mem_append.mp ht').elim (hi.good t') fun h1 => List.mem_singleton.mp h1 ▸ hgood)
      hi.wr_eq (Nat.mod_eq_of_lt hst).symm ?_ fun hc => by omega⟩
    · rw [List.append_assoc, List.replicate_append_replicate]; congr 2; omega
    · rw [hE]; simp; omega
    · rw [hE, hi.wr_eq, Nat.mod_add_mod]; simp [Nat.add_assoc]

theorem zeros_anchor (h : Heap) (a : Nat) (ha : a < h.size)
    (hz : ∀ i, i < h.size → h.data[(a + i) % h.size]? = some 0) :
    ∀ j, j < h.size → h.data[j]? = some 0 := by
  intro j hj
  by_cases h1 : a ≤ j
  · have := hz (j - a) (by omega)
    rwa [show a + (j - a) = j by omega, Nat.mod_eq_of_lt hj] at this
  · have := hz (j + h.size - a) (by omega)
    rwa [show a + (j + h.size - a) = j + h.size by omega, Nat.add_mod_right, Nat.mod_eq_of_lt hj] at this

theorem enc_length_pos {ts : List Bytes} (h : ts ≠ []) : 1 ≤ (enc ts).length := by
  cases ts with
  | nil => exact absurd rfl h
  | cons t ts => simp [enc]; omega

theorem rollback_wr {T len n wr : Nat} (hT : T < n) (hl : len ≤ n) (hwr : wr = (T + len) % n) :
    (if len > wr then wr + n else wr) - len = T := by
  rw [mod_wrap (by omega)] at hwr
  split at hwr <;> split <;> omega

theorem hinv_free_last {h : Heap} {st : Nat} {t : Bytes} (hi : HInv h st [t]) (rb : Bool) :
    HInv (free h (some st) rb) 0 [] ∧ (free h (some st) rb).size = h.size := by
  have hst : st < h.size := by have := hi.st_lt; have := hi.cnt; simp [enc] at this; omega
  have hcnt := hi.cnt
  have e := hinv_free_at (ts1 := []) hi rb
  simp only [enc, List.length_nil, Nat.add_zero, Nat.mod_eq_of_lt hst, List.length_append, List.length_cons] at e hcnt
  rw [e]
  refine ⟨hinv_cw hi hst (A := []) (X := t ++ [0]) (B := List.replicate h.count 0) (k := h.size - st) (by simp [enc])
    (by simp) ?_ (by omega) (by simp [enc]; omega) (by simp) (by simp [Nat.mod_eq_of_lt hst])
    (by rw [Nat.add_sub_cancel' (Nat.le_of_lt hst), Nat.mod_self]) ?_ fun _ => if_pos (by omega), rfl⟩
  · simp [enc, List.replicate_append_replicate]; omega
  · rw [if_pos (by omega)]; simp [enc, Nat.add_sub_cancel' (Nat.le_of_lt hst)]

theorem hinv_free_newest {h : Heap} {st : Nat} {t : Bytes} {ts : List Bytes} (hi : HInv h st (ts ++ [t])) :
    ∃ st', HInv (free h (some ((st + (enc ts).length) % h.size)) true) st' ts ∧
      (free h (some ((st + (enc ts).length) % h.size)) true).size = h.size ∧ (ts = [] ∨ st' = st) := by
  have hcnt := hi.cnt
  have hwr := hi.wr_eq
  have hE : enc (ts ++ [t]) = enc ts ++ (t ++ [0]) := by rw [enc_append, enc_single]
  rw [hE] at hcnt hwr
  simp only [List.length_append, List.length_singleton] at hcnt hwr
  have hst : st < h.size := by have := hi.st_lt; omega
  by_cases hts : ts = []
  · subst hts
    rw [show (st + (enc ([] : List Bytes)).length) % h.size = st from Nat.mod_eq_of_lt hst]
    exact ⟨0, (hinv_free_last hi true).1, (hinv_free_last hi true).2, Or.inl rfl⟩
  have hpos := enc_length_pos hts
  rw [hinv_free_at hi true]
  refine ⟨st, hinv_cw hi hst (X := t ++ [0]) (B := List.replicate h.count 0) (k := 0) (by rw [hE, List.append_assoc])
    (by simp) ?_ (Nat.zero_le _) (by omega) (fun t' ht' => hi.good t' (by simp [ht'])) rfl
    (Nat.mod_eq_of_lt hst).symm ?_ fun hc => by omega, rfl, Or.inr rfl⟩
  · simp [List.replicate_append_replicate, Nat.add_comm]
  · rw [if_neg (by omega), if_pos rfl]
    exact rollback_wr (Nat.mod_lt _ (by omega)) (by omega) (by rw [hwr, Nat.mod_add_mod]; congr 1; omega)

theorem hinv_free_oldest {h : Heap} {st : Nat} {t : Bytes} {ts : List Bytes} (hi : HInv h st (t :: ts)) :
    ∃ st', HInv (free h (some st) false) st' ts ∧ (free h (some st) false).size = h.size ∧
      (ts = [] ∨ st' = (st + t.length + 1) % h.size) := by
  by_cases hts : ts = []
  · subst hts
    exact ⟨0, (hinv_free_last hi false).1, (hinv_free_last hi false).2, Or.inl rfl⟩
  have hcnt := hi.cnt
  have hwr := hi.wr_eq
  have hst : st < h.size := by have := hi.st_lt; simp [enc] at hcnt; omega
  have e := hinv_free_at (ts1 := []) hi false
  simp only [enc, List.length_nil, Nat.add_zero, Nat.mod_eq_of_lt hst, List.length_append, List.length_cons] at e hcnt hwr
  have hpos := enc_length_pos hts
  rw [e]
  refine ⟨_, hinv_cw hi hst (A := []) (X := t ++ [0]) (B := enc ts ++ List.replicate h.count 0) (k := t.length + 1)
    (by simp [enc]) (by simp) (by simp) (by omega) (by omega) (fun t' ht' => hi.good t' (by simp [ht']))
    (by simp [Nat.mod_eq_of_lt hst]) rfl ?_ fun hc => by omega, rfl, Or.inr (by rw [Nat.add_assoc])⟩
  rw [if_neg (by omega), if_neg (by decide), hwr]
  congr 1; omega

/-- (code, stored text or nothing) per queue entry, oldest first -/
abbrev GQ := List (Int × Option Bytes)

def texts (g : GQ) : List Bytes := g.filterMap (·.2)

theorem texts_append (a b : GQ) : texts (a ++ b) = texts a ++ texts b := by simp [texts]

/-- the queue entries that `g` denotes when the oldest text starts at offset `p` -/
def layout (size : Nat) : Nat → GQ → List Entry
  | _, [] => []
  | p, (c, none) :: g => ⟨c, none⟩ :: layout size p g
  | p, (c, some t) :: g => ⟨c, some (p % size)⟩ :: layout size (p + t.length + 1) g

theorem layout_length (n p : Nat) (g : GQ) : (layout n p g).length = g.length := by
  induction g generalizing p with
  | nil => rfl
  | cons a g ih =>
    obtain ⟨c, o⟩ := a
    cases o <;> simp [layout, ih]

/-- the offset of the oldest text matters only modulo the size, and only if there is a text -/
theorem layout_anchor (n : Nat) (g : GQ) (p p' : Nat) (h : texts g = [] ∨ p % n = p' % n) :
    layout n p g = layout n p' g := by
  induction g generalizing p p' with
  | nil => rfl
  | cons a g ih =>
    obtain ⟨c, o⟩ := a
    cases o with
    | none => simp only [layout]; rw [ih p p' h]
    | some t =>
      have h := h.resolve_left (by simp [texts])
      simp only [layout]
      rw [h, ih (p + t.length + 1) (p' + t.length + 1) (.inr (by
        rw [Nat.add_assoc, Nat.add_assoc, Nat.add_mod, h, ← Nat.add_mod]))]

theorem layout_append (n : Nat) (g1 g2 : GQ) (p : Nat) :
    layout n p (g1 ++ g2) = layout n p g1 ++ layout n (p + (enc (texts g1)).length) g2 := by
  induction g1 generalizing p with
  | nil => simp [layout, texts, enc]
  | cons a g ih =>
    obtain ⟨c, o⟩ := a
    cases o with
    | none =>
      simp only [List.cons_append, layout, ih]
      simp [texts]
    | some t =>
      simp only [List.cons_append, layout, ih]
      have : p + t.length + 1 + (enc (texts g)).length = p + (enc (texts ((c, some t) :: g))).length := by
        simp [texts, enc]; omega
      rw [this]

/-- the ghost queue `g` describes ring and heap: the heap holds exactly the texts of `g`, the oldest at `st` (`HInv`), and
the entries of the ring are those of `g` with each text replaced by its offset (`layout`) -/
structure G (cap hs : Nat) (f : Fifo Entry) (h : Heap) (st : Nat) (g : GQ) : Prop where
  finv : Fifo.Inv f
  fsz : f.size = cap
  hsz : h.size = hs
  hinv : HInv h st (texts g)
  lay : Fifo.abs f = layout hs st g

theorem G.count {cap hs : Nat} {f : Fifo Entry} {h : Heap} {st : Nat} {g : GQ} (hg : G cap hs f h st g) :
    f.count = g.length := by
  rw [← Lemmas.Fifo.abs_length f hg.finv, hg.lay, layout_length]

theorem G.reanchor {cap hs : Nat} {f : Fifo Entry} {h h' : Heap} {st st' : Nat} {g : GQ} (hg : G cap hs f h st g)
    (hh : HInv h' st' (texts g)) (hs' : h'.size = hs) (hst : texts g = [] ∨ st' = st) : G cap hs f h' st' g :=
  ⟨hg.finv, hg.fsz, hs', hh, hg.lay.trans (layout_anchor _ _ _ _ (hst.imp_right fun e => by rw [e]))⟩

def effLen (info : Option Bytes) (l : Nat) : Nat :=
  match info with
  | some s => if l = 0 then Fifo.strnlen s 255 else l
  | none => l

/-- the strndup call of SCPI_ErrorPushEx -/
def dup (h : Heap) (info : Option Bytes) (l : Nat) : Heap × Option Nat :=
  match info with
  | some s => strndup h s (effLen info l)
  | none => (h, none)

/-- the text that the push leaves in the heap, if any -/
def stored (h : Heap) (info : Option Bytes) (l : Nat) : Option Bytes :=
  match info with
  | some s => if (dup h info l).2.isSome then some ((cstr s).take (effLen info l)) else none
  | none => none

theorem push_eq (q : EQH) (c : Int) (info : Option Bytes) (l : Nat) :
    q.push c info l =
      if q.fifo.count = q.fifo.size then
        (⟨(Fifo.add (Fifo.removeLast q.fifo).1 ⟨Fifo.overflowCode, none⟩).1,
          free (free (dup q.heap info l).1 (dup q.heap info l).2 true)
            (match (Fifo.removeLast q.fifo).2 with
              | some e => e.info
              | none => (dup q.heap info l).2) true⟩, [c, Fifo.overflowCode])
      else (⟨(Fifo.add q.fifo ⟨c, (dup q.heap info l).2⟩).1, (dup q.heap info l).1⟩, [c]) := by
  cases info with
  | none =>
    by_cases hf : q.fifo.count = q.fifo.size <;>
      (simp [EQH.push, dup, Fifo.add, Fifo.isFull, hf]; try rfl)
  | some s =>
    by_cases hf : q.fifo.count = q.fifo.size <;>
      (simp [EQH.push, dup, effLen, Fifo.add, Fifo.isFull, hf]; try rfl)

theorem stored_weak (h : Heap) (info : Option Bytes) (l : Nat) :
    stored h info l = none ∨ stored h info l = Fifo.specText true info l true := by
  cases info with
  | none => exact Or.inl rfl
  | some s =>
    by_cases hd : (dup h (some s) l).2.isSome = true
    · right; simp [stored, hd, Fifo.specText, effLen, cstr]
    · left; simp [stored, hd]

/-- SCPI_ErrorPushEx never asks for zero bytes of a non-empty text -/
theorem effLen_pos {s : Bytes} (hs : cstr s ≠ []) (l : Nat) : 1 ≤ effLen (some s) l := by
  have : 0 < (cstr s).length := List.length_pos_iff.mpr hs
  simp only [effLen, Fifo.strnlen]
  unfold cstr at this
  split <;> omega

theorem dup_spec {h : Heap} {st : Nat} {ts : List Bytes} (hi : HInv h st ts) (info : Option Bytes) (l : Nat) :
    ∃ h', dup h info l = (h', (stored h info l).map fun _ => (st + (enc ts).length) % h.size) ∧ h'.size = h.size ∧
      HInv h' st (ts ++ (stored h info l).toList) := by
  have hnone : dup h info l = (h, none) → ∃ h', dup h info l = (h', (stored h info l).map fun _ =>
      (st + (enc ts).length) % h.size) ∧ h'.size = h.size ∧ HInv h' st (ts ++ (stored h info l).toList) := by
    intro hd
    have : stored h info l = none := by cases info <;> simp [stored, hd]
    exact ⟨h, by rw [hd, this]; rfl, rfl, by simpa [this] using hi⟩
  cases info with
  | none => exact hnone rfl
  | some s =>
    rcases strndup_cases h s (effLen (some s) l) with h1 | ⟨_, _, hc, _⟩
    · exact hnone h1
    rcases hinv_strndup hi s (effLen (some s) l) (effLen_pos hc l) with h1 | ⟨h', he, _, hsz, hi'⟩
    · exact hnone h1
    · have hd : dup h (some s) l = (h', some ((st + (enc ts).length) % h.size)) := he
      have : stored h (some s) l = some ((cstr s).take (effLen (some s) l)) := by simp [stored, hd]
      exact ⟨h', by rw [hd, this]; rfl, hsz, by rw [this]; exact hi'⟩

theorem texts_single (c : Int) (o : Option Bytes) : texts [(c, o)] = o.toList := by cases o <;> rfl

theorem layout_single (n p : Nat) (c : Int) (o : Option Bytes) :
    layout n p [(c, o)] = [⟨c, o.map fun _ => p % n⟩] := by cases o <;> rfl

/-- releasing what the newest queue entry holds: nothing, or the newest text (with rollback) -/
theorem hinv_free_entry {h : Heap} {st : Nat} {ts : List Bytes} (o : Option Bytes) (hi : HInv h st (ts ++ o.toList)) :
    ∃ st', HInv (free h (o.map fun _ => (st + (enc ts).length) % h.size) true) st' ts ∧
      (free h (o.map fun _ => (st + (enc ts).length) % h.size) true).size = h.size ∧ (ts = [] ∨ st' = st) := by
  cases o with
  | none => exact ⟨st, (by simpa using hi : HInv h st ts), rfl, Or.inr rfl⟩
  | some t => exact hinv_free_newest hi

/-- `fifo_add` on a ring that is not full: the entry appended, the heap already holding its text -/
theorem g_add {cap hs : Nat} {f : Fifo Entry} {h h' : Heap} {st : Nat} {g : GQ} (hg : G cap hs f h st g)
    (hf : f.count ≠ f.size) (c : Int) (o : Option Bytes) (hsz : h'.size = hs) (hi : HInv h' st (texts g ++ o.toList)) :
    G cap hs (Fifo.add f ⟨c, o.map fun _ => (st + (enc (texts g)).length) % hs⟩).1 h' st (g ++ [(c, o)]) :=
  ⟨Lemmas.Fifo.inv_add _ _ hg.finv, by simpa using hg.fsz, hsz, by rw [texts_append, texts_single]; exact hi,
    by rw [Lemmas.Fifo.abs_add_notfull _ _ hg.finv hf, hg.lay, layout_append, layout_single]⟩

/-- `fifo_remove_last` and the release of what the entry holds, with rollback -/
theorem g_removeLast {cap hs : Nat} {f : Fifo Entry} {h : Heap} {st : Nat} {g : GQ} {c : Int} {o : Option Bytes}
    (hg : G cap hs f h st (g ++ [(c, o)])) :
    (Fifo.removeLast f).2 = some ⟨c, o.map fun _ => (st + (enc (texts g)).length) % hs⟩ ∧
    ∃ st', G cap hs (Fifo.removeLast f).1 (free h (o.map fun _ => (st + (enc (texts g)).length) % hs) true) st' g := by
  obtain ⟨hr1, hr2⟩ := Lemmas.Fifo.abs_removeLast f hg.finv
  rw [hg.lay, layout_append, layout_single] at hr1 hr2
  have hi := hg.hinv
  rw [texts_append, texts_single] at hi
  obtain ⟨st', hi', hsz', hst'⟩ := hinv_free_entry o hi
  rw [hg.hsz] at hi' hsz'
  refine ⟨hr1.trans List.getLast?_concat, st', Lemmas.Fifo.inv_removeLast _ hg.finv, by simpa using hg.fsz, hsz', hi', ?_⟩
  rw [hr2, List.dropLast_concat]
  exact layout_anchor _ _ _ _ (hst'.imp_right fun e => by rw [e])

/-- the overflow path after the fresh text has been rolled back: drop the newest entry, free its
text with rollback, append the overflow marker -/
theorem overflow_tail {cap hs : Nat} {f : Fifo Entry} {h : Heap} {st : Nat} {g : GQ} (hg : G cap hs f h st g)
    (hcap : 1 ≤ cap) (hf : f.count = f.size) (ptr : Option Nat) :
    ∃ st', G cap hs (Fifo.add (Fifo.removeLast f).1 ⟨Fifo.overflowCode, none⟩).1
      (free h (match (Fifo.removeLast f).2 with | some e => e.info | none => ptr) true) st'
      (g.dropLast ++ [(Fifo.overflowCode, none)]) := by
  have hfsz := hg.fsz
  have hgne : g ≠ [] := by intro h0; have := hg.count; rw [h0] at this; simp at this; omega
  obtain ⟨g0, ⟨c, o⟩, rfl⟩ : ∃ g0 a, g = g0 ++ [a] := ⟨_, _, (List.dropLast_concat_getLast hgne).symm⟩
  obtain ⟨he, st', hg'⟩ := g_removeLast hg
  rw [he, List.dropLast_concat]
  exact ⟨st', g_add hg' (by rw [Lemmas.Fifo.count_removeLast, Lemmas.Fifo.size_removeLast]; omega) _ none hg'.hsz
    (by simpa using hg'.hinv)⟩

theorem g_push {cap hs : Nat} {q : EQH} {st : Nat} {g : GQ} (hg : G cap hs q.fifo q.heap st g) (hcap : 1 ≤ cap)
    (c : Int) (info : Option Bytes) (l : Nat) :
    ∃ st', G cap hs (q.push c info l).1.fifo (q.push c info l).1.heap st'
        (Fifo.specPush cap g (c, stored q.heap info l)) ∧
      (q.push c info l).2 = if g.length < cap then [c] else [c, Fifo.overflowCode] := by
  rw [push_eq]
  have hcnt := hg.count
  have hfsz := hg.fsz
  have hle := hg.finv.count_le
  obtain ⟨h', hd, hsz, hi'⟩ := dup_spec hg.hinv info l
  rw [hd]
  by_cases hf : q.fifo.count = q.fifo.size
  · have hnl : ¬ g.length < cap := by omega
    simp only [if_pos hf, Fifo.specPush, if_neg hnl, and_true]
    obtain ⟨st1, hi1, hsz1, hst1⟩ := hinv_free_entry _ hi'
    rw [hsz] at hi1 hsz1
    exact overflow_tail (G.reanchor hg hi1 (hsz1.trans hg.hsz) hst1) hcap hf _
  · have hnl : g.length < cap := by omega
    simp only [if_neg hf, Fifo.specPush, if_pos hnl, and_true]
    rw [hg.hsz]
    exact ⟨st, g_add hg hf c _ (hsz.trans hg.hsz) hi'⟩

theorem sysErrNext_eq (q : EQH) :
    q.sysErrNext = (⟨(Fifo.remove q.fifo).1, free q.heap ((Fifo.remove q.fifo).2.getD ⟨0, none⟩).info false⟩,
      ((Fifo.remove q.fifo).2.getD ⟨0, none⟩).code,
      match ((Fifo.remove q.fifo).2.getD ⟨0, none⟩).info with | some s => textAt q.heap s | none => none) := rfl

theorem clear_eq (q : EQH) :
    q.clear = ⟨Fifo.clear (EQH.clearLoop q.fifo.count q.fifo q.heap).1,
      (EQH.clearLoop q.fifo.count q.fifo q.heap).2⟩ := rfl

/-- releasing what the oldest queue entry holds: nothing, or the oldest text (without rollback) -/
theorem hinv_free_head {h : Heap} {st : Nat} {ts : List Bytes} (o : Option Bytes) (hi : HInv h st (o.toList ++ ts)) :
    ∃ st', HInv (free h (o.map fun _ => st % h.size) false) st' ts ∧
      (free h (o.map fun _ => st % h.size) false).size = h.size ∧
      (ts = [] ∨ (st + (enc o.toList).length) % h.size = st' % h.size) := by
  cases o with
  | none => exact ⟨st, hi, rfl, Or.inr rfl⟩
  | some t =>
    obtain ⟨st', h1, h2, h3⟩ := hinv_free_oldest (t := t) (ts := ts) hi
    rw [Nat.mod_eq_of_lt (by have := hi.st_lt; have := (hinv_holds (ts1 := []) hi).2.2.1; omega)]
    refine ⟨st', h1, h2, h3.imp_right fun e => ?_⟩
    rw [e, Nat.mod_mod, Nat.add_assoc]; simp [enc]

theorem g_pop {cap hs : Nat} {f : Fifo Entry} {h : Heap} {st : Nat} {g : GQ} (hg : G cap hs f h st g) :
    ∃ st', G cap hs (Fifo.remove f).1 (free h ((Fifo.remove f).2.getD ⟨0, none⟩).info false) st' g.tail ∧
      ((Fifo.remove f).2.getD ⟨0, none⟩).code = (g.head?.getD (0, none)).1 ∧
      (match ((Fifo.remove f).2.getD ⟨0, none⟩).info with | some s => textAt h s | none => none) =
        (g.head?.getD (0, none)).2 ∧
      ((Fifo.remove f).2 = none ↔ g = []) := by
  obtain ⟨hr1, hr2⟩ := hg.lay ▸ Lemmas.Fifo.abs_remove f hg.finv
  have hfin := Lemmas.Fifo.inv_remove f hg.finv
  have hfsz : (Fifo.remove f).1.size = cap := by simpa using hg.fsz
  cases g with
  | nil =>
    rw [hr1]
    exact ⟨st, ⟨hfin, hfsz, hg.hsz, hg.hinv, hr2⟩, rfl, rfl, by simp [layout]⟩
  | cons a g' =>
    obtain ⟨c, o⟩ := a
    obtain rfl := hg.hsz
    have hi : HInv h st (o.toList ++ texts g') := by rw [← texts_single c o, ← texts_append]; exact hg.hinv
    rw [← List.singleton_append, layout_append, layout_single, texts_single] at hr1 hr2
    rw [hr1]
    obtain ⟨st', hi', hsz', hst'⟩ := hinv_free_head o hi
    refine ⟨st', ⟨hfin, hfsz, hsz', hi', hr2.trans (layout_anchor _ _ _ _ hst')⟩, rfl, ?_, by simp⟩
    cases o with
    | none => rfl
    | some t =>
      obtain ⟨hh, hoff, hfit, hgd⟩ := hinv_holds (ts1 := []) hi
      exact (getParts_of_holds h _ t hi.len hoff hfit hgd hh).2

theorem g_clearLoop {cap hs : Nat} (n : Nat) (f : Fifo Entry) (h : Heap) (st : Nat) (g : GQ)
    (hg : G cap hs f h st g) (hn : g.length = n) :
    ∃ st', G cap hs (EQH.clearLoop n f h).1 (EQH.clearLoop n f h).2 st' [] := by
  induction n generalizing f h st g with
  | zero =>
    have : g = [] := List.eq_nil_of_length_eq_zero hn
    subst this
    exact ⟨st, hg⟩
  | succ n ih =>
    obtain ⟨st', hg', _, _, hiff⟩ := g_pop hg
    unfold EQH.clearLoop
    cases hr : Fifo.remove f with
    | mk f' o =>
      rw [hr] at hg' hiff
      cases o with
      | none =>
        have := hiff.mp rfl
        subst this
        simp at hn
      | some e =>
        simp only [Option.getD_some] at hg'
        exact ih f' _ st' g.tail hg' (by simp [hn])

theorem g_clear {cap hs : Nat} {q : EQH} {st : Nat} {g : GQ} (hg : G cap hs q.fifo q.heap st g) :
    ∃ st', G cap hs q.clear.fifo q.clear.heap st' [] := by
  rw [clear_eq]
  obtain ⟨st', hg'⟩ := g_clearLoop q.fifo.count q.fifo q.heap st g hg hg.count.symm
  refine ⟨st', Lemmas.Fifo.inv_clear _ hg'.finv, by simpa using hg'.fsz, hg'.hsz, hg'.hinv, ?_⟩
  simp only [Lemmas.Fifo.abs_clear]; rfl

/-- an entry of the ghost queue against the specification's entry: the same code, and the text intact or absent -/
def W (a b : Int × Option Bytes) : Prop := a.1 = b.1 ∧ (a.2 = none ∨ a.2 = b.2)

inductive Rel : GQ → Fifo.SpecQ → Prop
  | nil : Rel [] []
  | cons {a b : Int × Option Bytes} {g : GQ} {s : Fifo.SpecQ} : W a b → Rel g s → Rel (a :: g) (b :: s)

theorem rel_length {g : GQ} {s : Fifo.SpecQ} (h : Rel g s) : g.length = s.length := by
  induction h with
  | nil => rfl
  | cons _ _ ih => rw [List.length_cons, List.length_cons, ih]

theorem rel_concat {g : GQ} {s : Fifo.SpecQ} {a b : Int × Option Bytes} (h : Rel g s) (hw : W a b) :
    Rel (g ++ [a]) (s ++ [b]) := by
  induction h with
  | nil => exact .cons hw .nil
  | cons h1 _ ih => exact .cons h1 ih

theorem rel_dropLast {g : GQ} {s : Fifo.SpecQ} (h : Rel g s) : Rel g.dropLast s.dropLast := by
  induction h with
  | nil => exact .nil
  | cons h1 h2 ih =>
    cases h2 with
    | nil => exact .nil
    | cons _ _ => exact .cons h1 ih

theorem rel_tail {g : GQ} {s : Fifo.SpecQ} (h : Rel g s) : Rel g.tail s.tail := by
  cases h with
  | nil => exact .nil
  | cons _ h2 => exact h2

theorem rel_head {g : GQ} {s : Fifo.SpecQ} (h : Rel g s) :
    W (g.head?.getD (0, none)) (s.head?.getD (0, none)) := by
  cases h with
  | nil => exact ⟨rfl, Or.inl rfl⟩
  | cons h1 _ => exact h1

def R (cap hs : Nat) (q : EQH) (sq : Fifo.SpecQ) : Prop := ∃ st g, G cap hs q.fifo q.heap st g ∧ Rel g sq

theorem step_sim (cap hs : Nat) (hcap : 1 ≤ cap) (q : EQH) (sq : Fifo.SpecQ) (op : Op) (h : R cap hs q sq) :
    R cap hs (EQH.step q op).1 (specStep cap sq op).1 ∧ obsOK (EQH.step q op).2 (specStep cap sq op).2 = true := by
  obtain ⟨st, g, hg, hrel⟩ := h
  have hlen := rel_length hrel
  cases op with
  | push c i l =>
    obtain ⟨st', hg', hcb⟩ := g_push hg hcap c i l
    simp only [EQH.step, specStep]
    refine ⟨⟨st', _, hg', ?_⟩, ?_⟩
    · unfold Fifo.specPush
      rw [hlen]
      split
      · exact rel_concat hrel ⟨rfl, stored_weak _ _ _⟩
      · exact rel_concat (rel_dropLast hrel) ⟨rfl, Or.inl rfl⟩
    · rw [hcb, hlen]
      simp [obsOK]
  | sysErr =>
    obtain ⟨st', hg', hc, ht, _⟩ := g_pop hg
    simp only [EQH.step, specStep, sysErrNext_eq, Fifo.specPop]
    refine ⟨⟨st', _, hg', rel_tail hrel⟩, ?_⟩
    obtain ⟨w1, w2⟩ := rel_head hrel
    simp only [obsOK, hc, ht, w1]
    rcases w2 with w2 | w2
    · simp [w2]
    · simp [w2]
  | clear =>
    obtain ⟨st', hg'⟩ := g_clear hg
    simp only [EQH.step, specStep]
    exact ⟨⟨st', [], hg', .nil⟩, by simp [obsOK]⟩
  | count =>
    simp only [EQH.step, specStep, EQH.count]
    refine ⟨⟨st, g, hg, hrel⟩, ?_⟩
    rw [hg.count, hlen]
    simp [obsOK]

theorem run_nil {σ : Type} (step : σ → Op → σ × Obs) (s : σ) : run step s [] = (s, []) := rfl
theorem run_cons {σ : Type} (step : σ → Op → σ × Obs) (s : σ) (op : Op) (ops : List Op) :
    run step s (op :: ops) =
      ((run step (step s op).1 ops).1, (step s op).2 :: (run step (step s op).1 ops).2) := rfl

theorem run_sim (cap hs : Nat) (hcap : 1 ≤ cap) (ops : List Op) (q : EQH) (sq : Fifo.SpecQ) (h : R cap hs q sq) :
    (run EQH.step q ops).2.length = (run (specStep cap) sq ops).2.length ∧
    (∀ p ∈ (run EQH.step q ops).2.zip (run (specStep cap) sq ops).2, obsOK p.1 p.2 = true) ∧
    R cap hs (run EQH.step q ops).1 (run (specStep cap) sq ops).1 := by
  induction ops generalizing q sq with
  | nil => exact ⟨rfl, by simp [run_nil], h⟩
  | cons op ops ih =>
    obtain ⟨h1, h2⟩ := step_sim cap hs hcap q sq op h
    obtain ⟨i1, i2, i3⟩ := ih _ _ h1
    simp only [run_cons]
    refine ⟨by simp [i1], ?_, i3⟩
    intro p hp
    simp only [List.zip_cons_cons, List.mem_cons] at hp
    rcases hp with rfl | hp
    · exact h2
    · exact i2 p hp

theorem R_init (cap hs : Nat) (hcap : 1 ≤ cap) : R cap hs (EQH.init cap hs) [] :=
  ⟨0, [], ⟨Lemmas.Fifo.inv_init cap _ hcap, rfl, rfl, hinv_init hs, by
    simp only [EQH.init, Lemmas.Fifo.abs_init]; rfl⟩, .nil⟩

theorem text_intact_or_absent (cap heapSize : Nat) (hcap : 1 ≤ cap) (ops : List Op)
    (_hwf : ∀ op ∈ ops, op.wf = true) :
    let impl := run EQH.step (EQH.init cap heapSize) ops
    let spec := run (specStep cap) [] ops
    impl.2.length = spec.2.length ∧
    (∀ p ∈ impl.2.zip spec.2, obsOK p.1 p.2 = true) ∧
    impl.1.heap.oob = false ∧ impl.1.heap.data.length = heapSize ∧ impl.1.heap.size = heapSize := by
  obtain ⟨h1, h2, st, g, hg, _⟩ := run_sim cap heapSize hcap ops _ _ (R_init cap heapSize hcap)
  exact ⟨h1, h2, hg.hinv.oob, by rw [hg.hinv.len, hg.hsz], hg.hsz⟩

theorem empty_means_reusable (cap heapSize : Nat) (hcap : 1 ≤ cap) (ops : List Op)
    (_hwf : ∀ op ∈ ops, op.wf = true) :
    let q := (run EQH.step (EQH.init cap heapSize) ops).1
    q.fifo.count = 0 → q.heap.count = heapSize ∧ q.heap.wr = 0 ∧ q.heap.data = List.replicate heapSize 0 := by
  obtain ⟨_, _, st, g, hg, _⟩ := run_sim cap heapSize hcap ops _ _ (R_init cap heapSize hcap)
  intro q hc
  have hg0 : g = [] := List.eq_nil_of_length_eq_zero (by rw [← hg.count]; exact hc)
  subst hg0
  have hi : HInv q.heap st [] := hg.hinv
  have hsz : q.heap.size = heapSize := hg.hsz
  have hcnt : q.heap.count = q.heap.size := by simpa [enc] using hi.cnt
  refine ⟨by rw [hcnt, hsz], hi.empty hcnt, ?_⟩
  apply List.ext_getElem?
  intro j
  rw [List.getElem?_replicate]
  by_cases hj : j < heapSize
  · rw [if_pos hj]
    have hst : st < q.heap.size := by have := hi.st_lt; omega
    apply zeros_anchor q.heap st hst _ j (by omega)
    intro i hi'
    rw [hi.dat i hi']
    simp [enc, hcnt, hi']
  · rw [if_neg hj, List.getElem?_eq_none_iff, hi.len]; omega

theorem fits_means_stored (cap heapSize : Nat) (hcap : 1 ≤ cap) (c : Int) (s : Bytes)
    (hs : s.all (· ≠ 0) = true) (hne : s ≠ []) (hfit : s.length < heapSize) (h255 : s.length ≤ 255) :
    (run EQH.step (EQH.init cap heapSize) [.push c (some s) 0, .sysErr]).2 =
      [.pushed [c], .popped c (some s)] := by
  have hnz : ∀ b ∈ s, b ≠ 0 := by simpa using hs
  have hcs : cstr s = s := ByteList.takeWhile_nz s hnz
  have hel : effLen (some s) 0 = s.length := by
    have : Fifo.strnlen s 255 = min (cstr s).length 255 := rfl
    simp only [effLen, if_true, this, hcs]; omega
  obtain ⟨st0, g0, hG0, _⟩ := R_init cap heapSize hcap
  have hg0 : g0 = [] := List.eq_nil_of_length_eq_zero (by rw [← hG0.count]; rfl)
  subst hg0
  obtain ⟨st', hg', hcb⟩ := g_push hG0 hcap c (some s) 0
  have hst : stored (EQH.init cap heapSize).heap (some s) 0 = some s := by
    obtain ⟨h', he⟩ := strndup_init heapSize s (effLen (some s) 0) (by rw [hcs]; exact hne)
      (by rw [hcs, hel, List.take_of_length_le (Nat.le_refl _)]; exact hfit)
    have hd : dup (EQH.init cap heapSize).heap (some s) 0 = (h', some 0) := he
    simp [stored, hd, hcs, hel]
  rw [hst] at hg'
  have hsp : Fifo.specPush cap [] (c, some s) = [(c, some s)] := by
    simp [Fifo.specPush]; omega
  rw [hsp] at hg'
  obtain ⟨_, _, hc, ht, _⟩ := g_pop hg'
  simp only [run_cons, run_nil, EQH.step, sysErrNext_eq]
  rw [hcb, hc, ht]
  simp; omega

end ScpiVerif.Lemmas.Heap
