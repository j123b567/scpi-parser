/-
C08, top level.  Two runs of `SCPI_Input` over the same byte stream, one of which has received a prefix of what the
other has, stay in step (`Sim`): at every message the scan finds the same message in both (`scan_append`) and
`SCPI_Parse` does the same on it whatever lies behind it in the buffer (`parse_local`).  The one exception is a chunk
that ends in the CR of a CR LF: the CR ends the message and the LF that arrives next is parsed as an empty message of
its own, while the run that has both bytes parses one message ending in CR LF; `parse_crlf` shows that the two parses
do the same, so only the `parseMsg` markers differ.  The theorems are therefore stated for a view `f` of the event log:
for one that forgets the `parseMsg` markers (`uvis`, what `UserObservable` compares) they hold for any partition, for
`vis` (what `Observable` compares) for partitions that do not cut directly after a CR.
-/
import ScpiVerif.Lemmas.ChunkingLoop
import ScpiVerif.Lemmas.ChunkingUnit
import ScpiVerif.Lemmas.ParseLocal

namespace ScpiVerif.Lemmas.Chunking
open ScpiVerif ScpiVerif.Ctx ScpiVerif.Lexer ScpiVerif.Props.C08
open ScpiVerif.Lemmas.ParseLocalAux (outReset)
open ScpiVerif.Lemmas.Stage (stepCore)

def vis (es : List Ev) : List Ev := es.filter (fun e => match e with | .input _ => false | _ => true)

structure Q (c1 c2 : Ctx) : Prop where
  pers : Pers c1 c2
  wf1 : WF c1
  wf2 : WF c2
  ev : vis c1.events = vis c2.events

def R (c1 c2 : Ctx) : Prop := Q c1 c2 ∧ content c1 = content c2

/-- what `SCPI_Parse` resets first -/
def resetc (c : Ctx) : Ctx := { c with out := outReset c.out }

theorem parse_reset (c : Ctx) (base len : Nat) : parse (resetc c) base len = parse c base len := by
  rw [ParseLocalAux.parse_eq, ParseLocalAux.parse_eq]
  rfl

def PersU (c1 c2 : Ctx) : Prop := Pers (resetc c1) (resetc c2)

theorem PersU.of_pers {c1 c2 : Ctx} (h : Pers c1 c2) : PersU c1 c2 := by
  have := congrArg resetc h
  exact this

theorem PersU.upd {c1 c2 : Ctx} (h : PersU c1 c2) (b1 : Bytes) (p1 : Nat) (e1 : List Ev) (b2 : Bytes) (p2 : Nat) (e2 : List Ev) :
    PersU { c1 with buf := b1, position := p1, events := e1 } { c2 with buf := b2, position := p2, events := e2 } :=
  Pers.upd (c1 := resetc c1) (c2 := resetc c2) h b1 p1 e1 b2 p2 e2

theorem PersU.resetl {c1 c2 : Ctx} (h : PersU c1 c2) : PersU (resetc c1) c2 := h

def uvis (es : List Ev) : List Ev :=
  es.filter (fun e => match e with | .input _ => false | .parseMsg _ => false | _ => true)

structure QU (c1 c2 : Ctx) : Prop where
  pers : PersU c1 c2
  wf1 : WF c1
  wf2 : WF c2
  ev : uvis c1.events = uvis c2.events

def RU (c1 c2 : Ctx) : Prop := QU c1 c2 ∧ content c1 = content c2

theorem RU.of_R {c1 c2 : Ctx} (h : R c1 c2) : RU c1 c2 := by
  obtain ⟨⟨hp, w1, w2, hev⟩, hc⟩ := h
  refine ⟨⟨PersU.of_pers hp, w1, w2, ?_⟩, hc⟩
  have : ∀ es, uvis es = (vis es).filter (fun e => match e with | .parseMsg _ => false | _ => true) := by
    intro es
    unfold uvis vis
    rw [List.filter_filter]
    apply List.filter_congr
    intro e _
    cases e <;> rfl
  rw [this, this, hev]

/-- a view of the event log that forgets the return-value marker of each call -/
structure View (f : List Ev → List Ev) : Prop where
  append : ∀ a b, f (a ++ b) = f a ++ f b
  input : ∀ r, f [.input r] = []

theorem view_vis : View vis := ⟨fun a b => by simp [vis], fun _ => rfl⟩
theorem view_uvis : View uvis := ⟨fun a b => by simp [uvis], fun _ => rfl⟩
theorem uvis_parseMsg (m : Bytes) : uvis [.parseMsg m] = [] := rfl

structure Sim (f : List Ev → List Ev) (c1 c2 : Ctx) : Prop where
  pers : PersU c1 c2
  wf1 : WF c1
  wf2 : WF c2
  ev : f c1.events = f c2.events

def Same (f : List Ev → List Ev) (c1 c2 : Ctx) : Prop := Sim f c1 c2 ∧ content c1 = content c2

theorem Same.refl {f : List Ev → List Ev} {c : Ctx} (h : WF c) : Same f c c := ⟨⟨Pers.refl _, h, h, rfl⟩, rfl⟩
theorem Same.symm {f : List Ev → List Ev} {c1 c2 : Ctx} (h : Same f c1 c2) : Same f c2 c1 :=
  ⟨⟨Pers.symm h.1.pers, h.1.wf2, h.1.wf1, h.1.ev.symm⟩, h.2.symm⟩
theorem Same.trans {f : List Ev → List Ev} {c1 c2 c3 : Ctx} (h1 : Same f c1 c2) (h2 : Same f c2 c3) : Same f c1 c3 :=
  ⟨⟨Pers.trans h1.1.pers h2.1.pers, h1.1.wf1, h2.1.wf2, h1.1.ev.trans h2.1.ev⟩, h1.2.trans h2.2⟩

/-- what `Observable` and `UserObservable` take from a context besides the event log -/
theorem Same.rest {f : List Ev → List Ev} {c1 c2 : Ctx} (h : Same f c1 c2) :
    (c1.out.written, c1.out.flushes, c1.regs.regs, Fifo.EQ.abs c1.eq, c1.buf.take c1.position) =
      (c2.out.written, c2.out.flushes, c2.regs.regs, Fifo.EQ.abs c2.eq, c2.buf.take c2.position) :=
  -- the first four components are fields of `rest c`, the fifth is `content c`
  (congr (congrArg (fun (r : Ctx) (t : Bytes) => (r.out.written, r.out.flushes, r.regs.regs, Fifo.EQ.abs r.eq, t))
    (pers_iff.1 h.1.pers).symm) h.2 :)

theorem Same.obs {c1 c2 : Ctx} (h : Same vis c1 c2) : Observable c1 = Observable c2 :=
  Prod.ext h.1.ev h.rest

theorem Same.uobs {c1 c2 : Ctx} (h : Same uvis c1 c2) : UserObservable c1 = UserObservable c2 :=
  Prod.ext h.1.ev h.rest

theorem step_events (c : Ctx) (k : Nat) : (step c k).events = (parse c 0 k).1.events := by
  unfold step
  generalize (parse c 0 k).1 = d
  rfl

theorem step_reset (c : Ctx) (k : Nat) : step (resetc c) k = step c k := by
  unfold step
  rw [parse_reset]

theorem Sim.next_of {f : List Ev → List Ev} (hf : View f) {c1 c2 : Ctx} (h : Sim f c1 c2) {k1 k2 : Nat}
    (h1 : k1 ≤ c1.position) (h2 : k2 ≤ c2.position) (hp : Pers (parse c1 0 k1).1 (parse c2 0 k2).1) {e1 e2 : List Ev}
    (he1 : (parse c1 0 k1).1.events = c1.events ++ e1) (he2 : (parse c2 0 k2).1.events = c2.events ++ e2)
    (he : f e1 = f e2) : Sim f (step c1 k1) (step c2 k2) := by
  refine ⟨?_, (step_content c1 k1 h.wf1 h1).1, (step_content c2 k2 h.wf2 h2).1, ?_⟩
  · exact PersU.upd (PersU.of_pers hp) _ _ (parse c1 0 k1).1.events _ _ (parse c2 0 k2).1.events
  · rw [step_events, step_events, he1, he2, hf.append, hf.append, h.ev, he]

theorem Sim.next {f : List Ev → List Ev} (hf : View f) {c1 c2 : Ctx} (h : Sim f c1 c2) (k : Nat) (h1 : k ≤ c1.position)
    (h2 : k ≤ c2.position) (hm : c1.buf.take k = c2.buf.take k)
    (hl : (c1.buf.take k).getLast? = some 10 ∨ (c1.buf.take k).getLast? = some 13) : Sim f (step c1 k) (step c2 k) := by
  obtain ⟨a, es, e1, e2⟩ := parse_local (resetc c1) (resetc c2) k h.pers h.wf1.1 h.wf2.1
    (by have := h.wf1.2.1; show k < c1.bufLen; omega) hm hl
  simp only [parse_reset] at a e1 e2
  exact h.next_of hf h1 h2 a e1 e2 rfl

open ScpiVerif.Lemmas.ParseLocalAux in
/-- the first context holds `m ++ [CR, LF]`, the second `m ++ [CR]`, which is what the scan of `SCPI_Input` cuts out as
one message (`hs`) -/
theorem parse_crlf (c1 c2 : Ctx) (k : Nat) (hp : Pers c1 c2)
    (hl1 : c1.buf.length = c1.bufLen) (hl2 : c2.buf.length = c2.bufLen) (hk : k + 1 < c1.bufLen) (ho : c1.oob = false)
    (ht : c1.buf.take k = c2.buf.take k) (hlf : c1.buf[k]? = some 10) (hq : QuotesLineLocal (c1.buf.take (k + 1)))
    (hcr : (c1.buf.take k).getLast? = some 13) (hs : scan (c1.buf.take k) = some k) :
    Pers (parse c1 0 (k + 1)).1 (parse c2 0 k).1 ∧
    ∃ es, (parse c1 0 (k + 1)).1.events = c1.events ++ Ev.parseMsg (c1.buf.take (k + 1)) :: es ∧
      (parse c2 0 k).1.events = c2.events ++ Ev.parseMsg (c2.buf.take k) :: es := by
  obtain ⟨g', hs⟩ := scan_exists (k + 1) (by rw [List.length_take]; omega) hs
  rw [parse_eq, parse_eq]
  simp only [List.drop_zero]
  have hkl : (c1.buf.take k).length = k := by rw [List.length_take]; omega
  have hws : c1.buf.take (k + 1) = c1.buf.take k ++ [10] := by rw [List.take_add_one, hlf]; rfl
  rw [parseLoop_crlf (c1.buf.take k) (hws ▸ hq) hcr (k + 1) (k + 1 + 2) (k + 2)
    (emit { c1 with out := outReset c1.out } (.parseMsg (c1.buf.take (k + 1)))) 0 0 k none true g' (by rw [hkl, Nat.zero_add])
    (by show (c1.buf.drop 0).take _ = _; rw [List.drop_zero]; exact hws)
    (by show 0 + _ + 1 ≤ c1.buf.length; omega) (by rw [hkl]; exact hs) ho (by intro pp pl h; cases h) (by omega) (by omega)]
  have hp' : Pers (emit { c1 with out := outReset c1.out } (.parseMsg (c1.buf.take (k + 1))))
      (emit { c2 with out := outReset c2.out } (.parseMsg (c2.buf.take k))) :=
    Pers.upd (PersU.of_pers hp) c1.buf c1.position _ c2.buf c2.position _
  obtain ⟨a, es, e1, e2⟩ := parseLoop_local _ _ k (k + 2) hp' hl1 hl2 (by show k < c1.bufLen; omega) ht (Or.inr hcr)
  refine ⟨a, es, ?_, ?_⟩
  · rw [e1]; simp [emit]
  · rw [e2]; simp [emit]

theorem Sim.next_crlf {f : List Ev → List Ev} (hf : View f) (hpm : ∀ m, f [.parseMsg m] = []) {cs cw : Ctx}
    (h : Sim f cs cw) (k : Nat) (h1 : k ≤ cs.position) (h2 : k + 1 ≤ cw.position)
    (hm : cw.buf.take k = cs.buf.take k) (hlf : cw.buf[k]? = some 10) (hq : QuotesLineLocal (cw.buf.take (k + 1)))
    (hcr : (cw.buf.take k).getLast? = some 13) (hs : scan (cw.buf.take k) = some k) :
    Sim f (step cs k) (step cw (k + 1)) := by
  obtain ⟨a, es, e1, e2⟩ := parse_crlf (resetc cw) (resetc cs) k (Pers.symm h.pers) h.wf2.1 h.wf1.1
    (by have := h.wf2.2.1; show k + 1 < cw.bufLen; omega) h.wf2.2.2 hm hlf hq hcr hs
  simp only [parse_reset] at a e1 e2
  refine h.next_of hf h1 h2 (Pers.symm a) e2 e1 ?_
  rw [← List.singleton_append, hf.append, hpm, ← List.singleton_append (l := es), hf.append, hpm]

theorem parse_lf (c : Ctx) (h : c.buf.take 1 = [10]) : (parse c 0 1).1 = emit (resetc c) (.parseMsg [10]) := by
  rw [ParseLocalAux.parse_eq]
  simp only [List.drop_zero, h]
  rw [Stage.parseLoop_succ]
  have hw : (((emit { c with out := outReset c.out } (Ev.parseMsg [10])).buf.drop 0).take 1) = [10] := by
    show (c.buf.drop 0).take 1 = [10]
    rw [List.drop_zero]; exact h
  rw [hw]
  obtain ⟨d1, d2, d3⟩ := detect_lf
  have hs : ∀ (x : Ctx), stepCore x 0 none true (Parser.detectUnit [10]) = (x, none, true) := by
    intro x
    unfold stepCore
    have d2' : (Parser.detectUnit [10]).header.type ≠ TokType.invalid := d2
    simp only [d1, beq_iff_eq, d2', if_false, Int.lt_irrefl, false_and]
  rw [hs, d3, if_neg (by omega)]
  rfl

theorem Sim.next_lf {f : List Ev → List Ev} (hf : View f) (hpm : ∀ m, f [.parseMsg m] = []) {c1 c2 : Ctx}
    (h : Sim f c1 c2) (h1 : 1 ≤ c1.position) (hb : c1.buf.take 1 = [10]) : Sim f (step c1 1) c2 := by
  refine ⟨?_, (step_content c1 1 h.wf1 h1).1, h.wf2, ?_⟩
  · unfold step
    rw [parse_lf c1 hb]
    exact PersU.upd (c1 := c1) (c2 := c2) h.pers _ _ _ c2.buf c2.position c2.events
  · rw [step_events, parse_lf c1 hb]
    show f (c1.events ++ [.parseMsg [10]]) = _
    rw [hf.append, hpm, List.append_nil, h.ev]

/-- the end of one call and the start of the next in the first run -/
theorem Sim.store_input {f : List Ev → List Ev} (hf : View f) {d1 d2 : Ctx} (h : Sim f d1 d2) (r0 : Bool) (y : Bytes)
    (hfit : d1.position + y.length + 1 ≤ d1.bufLen) : Sim f (store (emit d1 (.input r0)) y) d2 := by
  refine ⟨?_, (store_content (emit d1 (.input r0)) y (Bounds.wf_emit _ h.wf1) hfit).1, h.wf2, ?_⟩
  · exact PersU.upd h.pers _ _ _ d2.buf d2.position d2.events
  · show f (d1.events ++ [.input r0]) = f d2.events
    rw [hf.append, hf.input, List.append_nil, h.ev]

theorem Same.emit {f : List Ev → List Ev} (hf : View f) {c1 c2 : Ctx} (h : Same f c1 c2) (r1 r2 : Bool) :
    Same f (emit c1 (.input r1)) (emit c2 (.input r2)) := by
  refine ⟨⟨?_, Bounds.wf_emit _ h.1.wf1, Bounds.wf_emit _ h.1.wf2, ?_⟩, h.2⟩
  · exact PersU.upd h.1.pers c1.buf c1.position _ c2.buf c2.position _
  · show f (c1.events ++ [.input r1]) = f (c2.events ++ [.input r2])
    rw [hf.append, hf.append, hf.input, hf.input, h.1.ev]

theorem drain_same {f : List Ev → List Ev} (hf : View f) {c1 c2 : Ctx} (h : Same f c1 c2) :
    Same f (drain c1) (drain c2) := by
  have hw := h.1.wf1
  revert c2
  revert c1
  refine @msg_ind _ ?_ ?_
  · intro c1 _ hs c2 ⟨hq, hc⟩
    rw [drain_none hq.wf1 hs, drain_none hq.wf2 (hc ▸ hs)]; exact ⟨hq, hc⟩
  · intro c1 k _ hs hk1 ih c2 ⟨hq, hc⟩
    have hk2 : k ≤ c2.position := by rw [← content_length hq.wf2, ← hc]; exact (scan_some hs).2
    rw [drain_some hq.wf1 hs, drain_some hq.wf2 (hc ▸ hs)]
    obtain ⟨_, s1, _, _⟩ := step_content c1 k hq.wf1 hk1
    obtain ⟨_, s2, _, _⟩ := step_content c2 k hq.wf2 hk2
    have hm : c1.buf.take k = c2.buf.take k := by rw [← content_take c1 k hk1, ← content_take c2 k hk2, hc]
    exact ih ⟨hq.next hf k hk1 hk2 hm (by rw [← content_take c1 k hk1]; exact scan_last hs), by rw [s1, s2, hc]⟩

/-- the first run has the message `m CR` pending and then receives `LF y`; the second has `m CR LF y` -/
theorem drain_crlf {f : List Ev → List Ev} (hf : View f) (hpm : ∀ m, f [.parseMsg m] = []) {c1 c2 : Ctx} {y : Bytes}
    (r0 : Bool) (hq : Sim f c1 c2) (hc : content c2 = content c1 ++ 10 :: y) (hg : QuotesLineLocal (content c2))
    (hfit : c1.position + (10 :: y).length + 1 ≤ c1.bufLen) (h13 : (content c1).getLast? = some 13)
    (hs : scan (content c1) = some c1.position) :
    Same f (drain (store (emit (drain c1) (.input r0)) (10 :: y))) (drain c2) := by
  have hl1 := content_length hq.wf1
  have hl2 := content_length hq.wf2
  have hlen2 : c2.position = c1.position + (y.length + 1) := by rw [← hl2, hc, List.length_append, hl1]; rfl
  have hg' : QuotesLineLocal (content c1 ++ 10 :: y) := hc ▸ hg
  -- the first run: the message, then nothing pending
  obtain ⟨sw1, s1, s1p, s1b⟩ := step_content c1 c1.position hq.wf1 (Nat.le_refl _)
  have hnil : content (step c1 c1.position) = [] := by rw [s1, ← hl1, List.drop_length]
  rw [drain_some hq.wf1 hs, drain_none sw1 (by rw [hnil]; rfl)]
  -- the second run: the message with its CR LF
  have hs2 : scan (content c2) = some (c1.position + 1) := by
    rw [hc, ← hl1]; exact scan_crlf _ _ hg' h13 (by rw [hl1]; exact hs)
  rw [drain_some hq.wf2 hs2]
  have hk2 : c1.position + 1 ≤ c2.position := by omega
  have hbk1 : c2.buf.take (c1.position + 1) = (content c1 ++ 10 :: y).take (c1.position + 1) := by
    rw [← content_take c2 _ hk2, hc]
  have hbk : c2.buf.take c1.position = content c1 := by
    rw [← content_take c2 _ (by omega), hc, ← hl1, List.take_left]
  have hlf : c2.buf[c1.position]? = some 10 := by
    have := congrArg (fun l => l[c1.position]?) hbk1
    simp only [List.getElem?_take, Nat.lt_succ_self, if_true] at this
    rw [this, List.getElem?_append_right (by omega), hl1, Nat.sub_self]
    rfl
  have hQ := hq.next_crlf hf hpm c1.position (Nat.le_refl _) hk2 hbk hlf (by rw [hbk1]; exact qll_take hg' _)
    (by rw [hbk]; exact h13) (by rw [hbk]; exact hs)
  -- then the line feed alone in the first run
  have hfit' : (step c1 c1.position).position + (10 :: y).length + 1 ≤ (step c1 c1.position).bufLen := by
    rw [s1p, s1b]; omega
  obtain ⟨t1, t2, t3⟩ := store_content (emit (step c1 c1.position) (.input r0)) (10 :: y) (Bounds.wf_emit _ sw1)
    (by rw [emit_position, emit_bufLen]; exact hfit')
  have hc3 : content (store (emit (step c1 c1.position) (.input r0)) (10 :: y)) = 10 :: y := by
    rw [t2, content_emit, hnil]; rfl
  have hp3 : 1 ≤ (store (emit (step c1 c1.position) (.input r0)) (10 :: y)).position := by
    rw [t3]; exact Nat.le_add_left _ _
  rw [drain_some t1 (by rw [hc3]; exact scan_lf y (qll_right hg'))]
  obtain ⟨_, u1, u1p, _⟩ := step_content _ 1 t1 hp3
  obtain ⟨_, u2, _, _⟩ := step_content c2 (c1.position + 1) hq.wf2 hk2
  refine drain_same hf ⟨(hQ.store_input hf r0 (10 :: y) hfit').next_lf hf hpm hp3
    (by rw [← content_take _ 1 hp3, hc3]; rfl), ?_⟩
  rw [u1, u2, hc3, hc, ← hl1, List.drop_length_add_append]

theorem drain_split {f : List Ev → List Ev} (hf : View f) : ∀ c1, WF c1 → ∀ (c2 : Ctx) (y : Bytes) (r0 : Bool),
    Sim f c1 c2 → content c2 = content c1 ++ y → QuotesLineLocal (content c2) →
    c1.position + y.length + 1 ≤ c1.bufLen → ((∀ m, f [.parseMsg m] = []) ∨ (content c1).getLast? ≠ some 13) →
    Same f (drain (store (emit (drain c1) (.input r0)) y)) (drain c2) := by
  refine msg_ind ?_ ?_
  · intro c1 _ hs c2 y r0 hq hc hg hfit hcut
    rw [drain_none hq.wf1 hs]
    obtain ⟨_, t2, _⟩ := store_content (emit c1 (.input r0)) y (Bounds.wf_emit _ hq.wf1) hfit
    exact drain_same hf ⟨hq.store_input hf r0 y hfit, by rw [t2, hc]; rfl⟩
  · intro c1 k _ hs hk1 ih c2 y r0 hq hc hg hfit hcut
    have hl1 := content_length hq.wf1
    have hl2 := content_length hq.wf2
    have kl := (scan_some hs).2
    by_cases hx : k < (content c1).length ∨ (content c1).getLast? ≠ some 13 ∨ y.head? ≠ some 10
    · -- the message found in the pending bytes is the message found when `y` has arrived too
      have hs2 : scan (content c2) = some k := by rw [hc]; exact scan_stable' _ _ _ (hc ▸ hg) hx hs
      have hk2 : k ≤ c2.position := by rw [← hl2, hc, List.length_append]; omega
      rw [drain_some hq.wf1 hs, drain_some hq.wf2 hs2]
      obtain ⟨_, s1, s1p, s1b⟩ := step_content c1 k hq.wf1 hk1
      obtain ⟨_, s2, _, _⟩ := step_content c2 k hq.wf2 hk2
      have hm : c1.buf.take k = c2.buf.take k := by
        rw [← content_take c1 k hk1, ← content_take c2 k hk2, hc, List.take_append_of_le_length kl]
      exact ih _ y r0
        (hq.next hf k hk1 hk2 hm (by rw [← content_take c1 k hk1]; exact scan_last hs))
        (by rw [s1, s2, hc, List.drop_append_of_le_length kl]) (by rw [s2]; exact qll_drop hg _)
        (by rw [s1p, s1b]; omega) (hcut.imp_right (fun h => by rw [s1]; exact ByteList.getLast?_drop_ne h))
    · -- the pending bytes are one message ending in CR, and `y` starts with the LF of that CR LF
      have hx2 : (content c1).getLast? = some 13 :=
        Classical.byContradiction fun h => hx (Or.inr (Or.inl h))
      obtain ⟨y', rfl⟩ : ∃ y', y = 10 :: y' := by
        cases y with
        | nil => exact absurd (Or.inr (Or.inr (by simp))) hx
        | cons b t =>
          have : b = 10 := Classical.byContradiction fun h => hx (Or.inr (Or.inr (by simpa using h)))
          exact ⟨t, by rw [this]⟩
      have hk : k = c1.position := by
        have : ¬ k < (content c1).length := fun h => hx (Or.inl h)
        omega
      exact drain_crlf hf (hcut.resolve_right (fun h => h hx2)) r0 hq hc hg hfit hx2 (hk ▸ hs)

/-- splitting one chunk in two: nothing changes for a view that forgets the `parseMsg` markers, and nothing
at all unless the cut is directly after a CR -/
theorem input_split {f : List Ev → List Ev} (hf : View f) (c : Ctx) (h : WF c) (a b : Bytes) (ha : a ≠ []) (hb : b ≠ [])
    (hfit : Fits c (a.length + b.length)) (hg : QuotesLineLocal (content c ++ a ++ b))
    (hcut : (∀ m, f [.parseMsg m] = []) ∨ a.getLast? ≠ some 13) :
    Same f (input (input c a) b) (input c (a ++ b)) := by
  unfold Fits at hfit
  have hab : a ++ b ≠ [] := fun he => ha (List.append_eq_nil_iff.1 he).1
  have hfa : c.position + a.length + 1 ≤ c.bufLen := by omega
  have hfab : c.position + (a ++ b).length + 1 ≤ c.bufLen := by rw [List.length_append]; omega
  obtain ⟨t1, t2, t3⟩ := store_content c a h hfa
  obtain ⟨u1, u2, _⟩ := store_content c (a ++ b) h hfab
  obtain ⟨d1, d2, j, _, d3⟩ := drain_content (store c a) t1
  obtain ⟨ra, ea⟩ := input_eq c a h ha hfa
  obtain ⟨rab, eab⟩ := input_eq c (a ++ b) h hab hfab
  have hpos : (drain (store c a)).position ≤ c.position + a.length := by
    rw [← content_length d1, d3, List.length_drop, content_length t1, t3]; omega
  obtain ⟨rb, eb⟩ := input_eq (input c a) b (Bounds.input_wf c a h) hb
    (by rw [ea, emit_position, emit_bufLen, d2, store_bufLen]; omega)
  rw [eb, eab, ea]
  refine (drain_split hf (store c a) t1 (store c (a ++ b)) b ra
    ⟨PersU.upd (Pers.refl _) _ _ c.events _ _ c.events, t1, u1, rfl⟩ (by rw [t2, u2, List.append_assoc])
    (by rw [u2, ← List.append_assoc]; exact hg) (by rw [t3, store_bufLen]; omega) ?_).emit hf _ _
  refine hcut.imp_right (fun h13 => ?_)
  rw [t2, List.getLast?_append]
  cases hh : a.getLast? with
  | none => exact absurd (List.getLast?_eq_none_iff.1 hh) ha
  | some x => rw [hh] at h13; simpa using h13

/-- every partition into non-empty chunks against the whole stream in one call -/
theorem chunks {f : List Ev → List Ev} (hf : View f) : ∀ (cs : List Bytes) (c : Ctx), WF c →
    cs ≠ [] → (∀ x ∈ cs, x ≠ []) → Fits c cs.flatten.length → QuotesLineLocal (content c ++ cs.flatten) →
    ((∀ m, f [.parseMsg m] = []) ∨ ∀ x ∈ cs, x.getLast? ≠ some 13) →
    Same f (cs.foldl input c) (input c cs.flatten) := by
  intro cs
  induction cs with
  | nil => intro c _ h; exact absurd rfl h
  | cons x rest ih =>
    intro c h _ hne hfit hg hcut
    cases rest with
    | nil =>
      simp only [List.foldl_cons, List.foldl_nil, List.flatten_cons, List.flatten_nil, List.append_nil]
      exact Same.refl (Bounds.input_wf c x h)
    | cons y rest =>
      have hx : x ≠ [] := hne x (by simp)
      have hy : y ≠ [] := hne y (by simp)
      have hfl : (x :: y :: rest).flatten = x ++ (y :: rest).flatten := by simp
      have hrne : (y :: rest).flatten ≠ [] := by
        intro he
        rw [List.flatten_cons] at he
        exact hy (List.append_eq_nil_iff.1 he).1
      unfold Fits at hfit
      rw [hfl, List.length_append] at hfit
      obtain ⟨i2, j, i4, i3⟩ := input_facts c x h hx (by omega)
      have hpos : (input c x).position ≤ c.position + x.length := by
        rw [← content_length (Bounds.input_wf c x h), i3, List.length_drop, List.length_append, content_length h]; omega
      rw [List.foldl_cons]
      have hg' : QuotesLineLocal (content c ++ x ++ (y :: rest).flatten) := by
        rw [List.append_assoc, ← hfl]; exact hg
      have h1 := ih (input c x) (Bounds.input_wf c x h) (by simp) (fun z hz => hne z (by simp [hz]))
        (by unfold Fits; rw [i2]; omega)
        (by rw [i3, ← List.drop_append_of_le_length i4]
            exact qll_drop hg' _)
        (hcut.imp_right (fun hc z hz => hc z (by simp [hz])))
      have h2 := input_split hf c h x (y :: rest).flatten hx hrne (by unfold Fits; omega) hg'
        (hcut.imp_right (fun hc => hc x (by simp)))
      rw [hfl]
      exact h1.trans h2

theorem flatten_ne_nil_of {cs cs' : List Bytes} (hne : ∀ x ∈ cs, x ≠ []) (hs : cs.flatten = cs'.flatten) (hcs : cs ≠ []) :
    cs' ≠ [] := by
  intro h0
  subst h0
  cases cs with
  | nil => exact hcs rfl
  | cons x rest =>
    have hx := hne x (by simp)
    simp at hs
    exact hx hs.1

theorem partitions {f : List Ev → List Ev} (hf : View f) (c : Ctx) (h : WF c) (cs cs' : List Bytes)
    (hne : (∀ x ∈ cs, x ≠ []) ∧ (∀ x ∈ cs', x ≠ [])) (hs : cs.flatten = cs'.flatten) (hcs : cs ≠ [])
    (hfit : Fits c cs.flatten.length) (hq : QuotesLineLocal (content c ++ cs.flatten))
    (hcut : (∀ m, f [.parseMsg m] = []) ∨ ((∀ x ∈ cs, x.getLast? ≠ some 13) ∧ (∀ x ∈ cs', x.getLast? ≠ some 13))) :
    Same f (cs.foldl input c) (cs'.foldl input c) := by
  have h1 := chunks hf cs c h hcs hne.1 hfit hq (hcut.imp_right And.left)
  have h2 := chunks hf cs' c h (flatten_ne_nil_of hne.1 hs hcs) hne.2 (hs ▸ hfit) (hs ▸ hq) (hcut.imp_right And.right)
  rw [← hs] at h2
  exact h1.trans h2.symm

theorem noCR_chunks {p : Bytes} {cs : List Bytes} (h : NoCR (p ++ cs.flatten)) : ∀ x ∈ cs, x.getLast? ≠ some 13 := by
  intro x hx h13
  exact h 13 (List.mem_append_right _ (List.mem_flatten.2 ⟨x, hx, List.mem_of_getLast? h13⟩)) rfl

/-- `Observable` (message boundaries included): splitting one chunk in two, not directly after a CR -/
theorem input_split_cr_quotes (c : Ctx) (h : WF c) (a b : Bytes) (ha : a ≠ []) (hb : b ≠ [])
    (hfit : Fits c (a.length + b.length)) (hq : QuotesLineLocal (c.buf.take c.position ++ a ++ b))
    (hcut : a.getLast? ≠ some 13) :
    Observable (input (input c a) b) = Observable (input c (a ++ b)) :=
  (input_split view_vis c h a b ha hb hfit hq (Or.inr hcut)).obs

/-- two partitions of the same stream, neither of which cuts directly after a CR -/
theorem chunking_invariant_cr_quotes (c : Ctx) (h : WF c) (cs cs' : List Bytes)
    (hne : (∀ x ∈ cs, x ≠ []) ∧ (∀ x ∈ cs', x ≠ [])) (hs : cs.flatten = cs'.flatten) (hcs : cs ≠ [])
    (hfit : Fits c cs.flatten.length) (hq : QuotesLineLocal (c.buf.take c.position ++ cs.flatten))
    (hcut : (∀ x ∈ cs, x.getLast? ≠ some 13) ∧ (∀ x ∈ cs', x.getLast? ≠ some 13)) :
    Observable (cs.foldl input c) = Observable (cs'.foldl input c) :=
  (partitions view_vis c h cs cs' hne hs hcs hfit hq (Or.inr hcut)).obs

/-- ANY two partitions of a stream in which no quoted string contains a line terminator: a user of the
library sees no difference -/
theorem chunking_invariant_quotes (c : Ctx) (h : WF c) (cs cs' : List Bytes)
    (hne : (∀ x ∈ cs, x ≠ []) ∧ (∀ x ∈ cs', x ≠ [])) (hs : cs.flatten = cs'.flatten) (hcs : cs ≠ [])
    (hfit : Fits c cs.flatten.length) (hq : QuotesLineLocal (c.buf.take c.position ++ cs.flatten)) :
    UserObservable (cs.foldl input c) = UserObservable (cs'.foldl input c) :=
  (partitions view_uvis c h cs cs' hne hs hcs hfit hq (Or.inl uvis_parseMsg)).uobs

/-- ANY two partitions of a quote-free stream: a user of the library sees no difference -/
theorem chunking_invariant_noquote (c : Ctx) (h : WF c) (cs cs' : List Bytes)
    (hne : (∀ x ∈ cs, x ≠ []) ∧ (∀ x ∈ cs', x ≠ [])) (hs : cs.flatten = cs'.flatten) (hcs : cs ≠ [])
    (hfit : Fits c cs.flatten.length) (hq : NoQuotes (c.buf.take c.position ++ cs.flatten)) :
    UserObservable (cs.foldl input c) = UserObservable (cs'.foldl input c) :=
  chunking_invariant_quotes c h cs cs' hne hs hcs hfit (noQuotes_qll hq)

theorem input_split_partial (hloc : ParseLocal) (c : Ctx) (h : WF c) (a b : Bytes) (ha : a ≠ []) (hb : b ≠ [])
    (hfit : Fits c (a.length + b.length)) (hq : NoQuotes (c.buf.take c.position ++ a ++ b))
    (hcr : NoCR (c.buf.take c.position ++ a ++ b)) :
    Observable (input (input c a) b) = Observable (input c (a ++ b)) :=
  have _ := hloc
  input_split_cr_quotes c h a b ha hb hfit (noQuotes_qll hq)
    (fun h13 => hcr 13 (List.mem_append_left _ (List.mem_append_right _ (List.mem_of_getLast? h13))) rfl)

theorem chunking_invariant_partial (hloc : ParseLocal) (c : Ctx) (h : WF c) (cs : List Bytes) (hne : ∀ x ∈ cs, x ≠ [])
    (hcs : cs ≠ []) (hfit : Fits c cs.flatten.length) (hq : NoQuotes (c.buf.take c.position ++ cs.flatten))
    (hcr : NoCR (c.buf.take c.position ++ cs.flatten)) :
    Observable (cs.foldl input c) = Observable (input c cs.flatten) :=
  have _ := hloc
  (chunks view_vis cs c h hcs hne hfit (noQuotes_qll hq) (Or.inr (noCR_chunks hcr))).obs

end ScpiVerif.Lemmas.Chunking
