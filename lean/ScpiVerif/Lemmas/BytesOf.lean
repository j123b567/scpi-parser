/-
The bytes of a `ByteArray` as a list, without the index loop of `ByteArray.toList`: for the kernel an
index into the array is a walk from the front of its list, so evaluating `ByteArray.toList` (and with it
`Result.bytesOf s`, which is `s.toUTF8.toList`) is quadratic in the length; `.data.toList` is the same list and costs
nothing beyond the encoding.  Tables of strings and test vectors that are evaluated by `decide +kernel` are stated, or
first rewritten (`toList_eq_data`, `bytesOf_eq_data`), with the right-hand side.
There is no namespace `BytesOf`: `toList_eq_data` continues `Lemmas.ByteList`, `bytesOf_eq_data` stands next to
`Result.bytesOf` in `ScpiVerif.Result`.
-/
import ScpiVerif.Model.Result
import ScpiVerif.Lemmas.ByteList

namespace ScpiVerif.Lemmas.ByteList

theorem toList_loop (bs : ByteArray) (i : Nat) (r : List UInt8) :
    ByteArray.toList.loop bs i r = r.reverse ++ bs.data.toList.drop i := by
  fun_induction ByteArray.toList.loop bs i r with
  | case1 i r hi ih =>
    have : i < bs.data.toList.length := by simpa using hi
    rw [ih, List.reverse_cons, List.append_assoc, List.drop_eq_getElem_cons this]
    simp [ByteArray.get!, hi]
  | case2 i r hi =>
    have : bs.data.toList.length ≤ i := by simpa using hi
    rw [List.drop_of_length_le this, List.append_nil]

theorem toList_eq_data (bs : ByteArray) : bs.toList = bs.data.toList := toList_loop bs 0 []

end ScpiVerif.Lemmas.ByteList

theorem ScpiVerif.Result.bytesOf_eq_data (s : String) : bytesOf s = s.toUTF8.data.toList :=
  Lemmas.ByteList.toList_eq_data _
