/-
The quoted string.  `string_SQ q t e` says where the scan of the body stops: at the only place where a closing quote can stand;
`skipQuote` computes it (`string_skipQuote`), `longestString` of the specification finds its candidates there
(`string_longest`), hence `string_eq`.
-/
import ScpiVerif.Lemmas.LexCalc

namespace ScpiVerif.Lemmas.Lexer
open ScpiVerif ScpiVerif.Lexer ScpiVerif.Spec ScpiVerif.Lemmas.Regex
open ScpiVerif.Spec.Re (opt plus nullable deriv longest)

def string_item (q : UInt8) : Re := .alt (.chr (fun b => isAscii7 b && b != q)) (.seq (Re.c q) (Re.c q))
def string_body (q : UInt8) : Re := .star (string_item q)

theorem string_quoted_eq (q : UInt8) : quoted q = .seq (Re.c q) (.seq (string_body q) (Re.c q)) := rfl

theorem string_PM_item {q b : UInt8} {t : Bytes} {i : Nat} :
    PM (string_item q) (b :: t) i ↔
      (i = 1 ∧ (isAscii7 b && b != q) = true) ∨ (i = 2 ∧ (b == q) = true ∧ hd t (· == q) = true) := by
  unfold string_item
  rw [PM_alt, PM_chr, PM_seq]
  simp only [Re.c, PM_chr]
  constructor
  · rintro (⟨rfl, h⟩ | ⟨i, j, rfl, ⟨rfl, h1⟩, ⟨rfl, h2⟩⟩)
    · left; exact ⟨rfl, h⟩
    · right; exact ⟨rfl, h1, h2⟩
  · rintro (⟨rfl, h⟩ | ⟨rfl, h1, h2⟩)
    · left; exact ⟨rfl, h⟩
    · right; exact ⟨1, 1, rfl, ⟨rfl, h1⟩, ⟨rfl, h2⟩⟩

theorem string_PM_body_zero (q : UInt8) (t : Bytes) : PM (string_body q) t 0 := PM_star.2 (.inl rfl)

theorem string_PM_body_cons {q b : UInt8} {t : Bytes} {j : Nat} :
    PM (string_body q) (b :: t) j ↔
      j = 0 ∨ ((isAscii7 b && b != q) = true ∧ ∃ k, j = k + 1 ∧ PM (string_body q) t k) ∨
      ((b == q) = true ∧ hd t (· == q) = true ∧ ∃ k, j = k + 2 ∧ PM (string_body q) (t.drop 1) k) := by
  unfold string_body
  rw [PM_star]
  constructor
  · rintro (rfl | ⟨i, k, rfl, _, hi, hk⟩)
    · left; rfl
    · rw [string_PM_item] at hi
      rcases hi with ⟨rfl, h⟩ | ⟨rfl, h1, h2⟩
      · right; left; exact ⟨h, k, by omega, hk⟩
      · right; right; exact ⟨h1, h2, k, by omega, hk⟩
  · rintro (rfl | ⟨h, k, rfl, hk⟩ | ⟨h1, h2, k, rfl, hk⟩)
    · left; rfl
    · right; exact ⟨1, k, by omega, by omega, string_PM_item.2 (.inl ⟨rfl, h⟩), hk⟩
    · right; exact ⟨2, k, by omega, by omega, string_PM_item.2 (.inr ⟨rfl, h1, h2⟩), hk⟩

theorem string_nonq_ne {q b : UInt8} (h : (isAscii7 b && b != q) = true) : (b == q) = false := by
  simp at h ⊢; exact h.2

def string_SQ (q : UInt8) (t : Bytes) (e : Nat) : Prop :=
  PM (string_body q) t e ∧
  (hd (t.drop e) (· == q) = true → hd (t.drop (e + 1)) (· == q) = false) ∧
  ∀ j, PM (string_body q) t j → hd (t.drop j) (· == q) = true → hd (t.drop (j + 1)) (· == q) = false → j = e

theorem string_SQ_nil (q : UInt8) : string_SQ q [] 0 :=
  ⟨string_PM_body_zero q [], by simp, fun j _ h => by simp at h⟩

theorem string_SQ_stop {q b : UInt8} {t : Bytes} (h1 : (isAscii7 b && b != q) = false)
    (h2 : (b == q) = true → hd t (· == q) = false) : string_SQ q (b :: t) 0 := by
  refine ⟨string_PM_body_zero q _, fun h => h2 h, ?_⟩
  intro j hj ha hb
  rw [string_PM_body_cons] at hj
  rcases hj with rfl | ⟨h, _⟩ | ⟨h3, h4, _⟩
  · rfl
  · rw [h1] at h; exact absurd h (by simp)
  · rw [h2 h3] at h4; exact absurd h4 (by simp)

theorem string_SQ_step1 {q b : UInt8} {t : Bytes} {e : Nat} (h : (isAscii7 b && b != q) = true)
    (hs : string_SQ q t e) : string_SQ q (b :: t) (e + 1) := by
  refine ⟨string_PM_body_cons.2 (.inr (.inl ⟨h, e, rfl, hs.1⟩)), hs.2.1, ?_⟩
  intro j hj ha hb
  rw [string_PM_body_cons] at hj
  rcases hj with rfl | ⟨_, k, rfl, hk⟩ | ⟨h3, _⟩
  · have : (b == q) = true := ha
    rw [string_nonq_ne h] at this; exact absurd this (by simp)
  · rw [hs.2.2 k hk ha hb]
  · rw [string_nonq_ne h] at h3; exact absurd h3 (by simp)

theorem string_SQ_step2 {q b c : UInt8} {t : Bytes} {e : Nat} (hb : (b == q) = true) (hc : (c == q) = true)
    (hs : string_SQ q t e) : string_SQ q (b :: c :: t) (e + 2) := by
  refine ⟨string_PM_body_cons.2 (.inr (.inr ⟨hb, hc, e, rfl, hs.1⟩)), hs.2.1, ?_⟩
  intro j hj ha hb'
  rw [string_PM_body_cons] at hj
  rcases hj with rfl | ⟨h, _⟩ | ⟨_, _, k, rfl, hk⟩
  · have : (c == q) = false := hb'
    rw [hc] at this; exact absurd this (by simp)
  · rw [string_nonq_ne h] at hb; exact absurd hb (by simp)
  · rw [hs.2.2 k hk ha hb']

theorem string_skipQuote (buf : Bytes) (q : UInt8) (fuel p : Nat) (h : (buf.drop p).length ≤ fuel) :
    ∃ e, skipQuote buf q fuel p = p + e ∧ string_SQ q (buf.drop p) e := by
  induction fuel generalizing p with
  | zero =>
    have : buf.drop p = [] := List.length_eq_zero_iff.1 (by omega)
    exact ⟨0, rfl, this ▸ string_SQ_nil q⟩
  | succ fuel ih =>
    rw [skipQuote, getElem?_eq_head_drop]
    simp only [peekP_eq]
    have e1 : buf.drop (p + 1) = (buf.drop p).drop 1 := drop_add ..
    have e2 : buf.drop (p + 2) = (buf.drop p).drop 2 := drop_add ..
    have ih1 := ih (p + 1)
    have ih2 := ih (p + 2)
    rw [e1] at ih1 ⊢
    rw [e2] at ih2
    generalize buf.drop p = t at *
    cases t with
    | nil => exact ⟨0, rfl, string_SQ_nil q⟩
    | cons b t =>
      simp only [List.head?_cons]
      by_cases hb : (isAscii7 b && b != q) = true
      · rw [if_pos hb]
        obtain ⟨e, he, hs⟩ := ih1 (by simp at h ⊢; omega)
        exact ⟨e + 1, by rw [he]; omega, string_SQ_step1 hb hs⟩
      · rw [if_neg hb]
        have hb' : (isAscii7 b && b != q) = false := by simpa using hb
        by_cases hq : (b == q) = true
        · rw [if_pos hq]
          by_cases hq2 : hd ((b :: t).drop 1) (· == q) = true
          · rw [if_pos hq2]
            cases t with
            | nil => simp at hq2
            | cons c t =>
              obtain ⟨e, he, hs⟩ := ih2 (by simp at h ⊢; omega)
              exact ⟨e + 2, by rw [he]; omega, string_SQ_step2 hq hq2 hs⟩
          · rw [if_neg hq2]
            exact ⟨0, rfl, string_SQ_stop hb' (fun _ => by simpa using hq2)⟩
        · rw [if_neg hq]
          exact ⟨0, rfl, string_SQ_stop hb' (fun h => absurd h hq)⟩

theorem string_getLast {P : Nat → Bool} {k n0 : Nat} (hu : ∀ n, n ≤ k → P n = true → n = n0) :
    ((List.range (k + 1)).filter P).getLast? = if n0 ≤ k ∧ P n0 = true then some n0 else none := by
  cases hl : ((List.range (k + 1)).filter P).getLast? with
  | none =>
    rw [if_neg]
    rintro ⟨h0, hP⟩
    have : n0 ∈ (List.range (k + 1)).filter P := by
      rw [List.mem_filter, List.mem_range]; exact ⟨by omega, hP⟩
    rw [List.getLast?_eq_none_iff.1 hl] at this; cases this
  | some n =>
    have := List.mem_of_getLast? hl
    rw [List.mem_filter, List.mem_range] at this
    obtain rfl := hu n (by omega) this.2
    rw [if_pos ⟨by omega, this.2⟩]

/-- the candidates of `longestString` -/
theorem string_cand {q : UInt8} {s : Bytes} {n : Nat} (hn : n ≤ s.length) :
    ((quoted q).accepts (s.take n) && s[n]? != some q) = true ↔
      hd s (· == q) = true ∧ ∃ j, n = j + 2 ∧ PM (string_body q) (s.drop 1) j ∧
        hd ((s.drop 1).drop j) (· == q) = true ∧ hd ((s.drop 1).drop (j + 1)) (· == q) = false := by
  have hq : (s[n]? != some q) = true ↔ hd (s.drop n) (· == q) = false := by
    rw [getElem?_eq_head_drop]; cases s.drop n <;> simp
  rw [Bool.and_eq_true, accepts_iff_matches, hq, string_quoted_eq]
  have : Matches (.seq (Re.c q) (.seq (string_body q) (Re.c q))) (s.take n) ↔
      PM (.seq (Re.c q) (.seq (string_body q) (Re.c q))) s n := by simp [PM, hn]
  rw [this]
  unfold Re.c
  rw [PM_chr_seq]
  simp only [PM_seq, PM_chr]
  constructor
  · rintro ⟨⟨h0, _, rfl, j, _, rfl, hj, rfl, hk⟩, hn⟩
    exact ⟨h0, j, by omega, hj, hk, by rwa [← List.drop_drop] at hn⟩
  · rintro ⟨h0, j, rfl, hj, hk, hn⟩
    refine ⟨⟨h0, j + 1, by omega, j, 1, rfl, hj, rfl, hk⟩, ?_⟩
    rwa [List.drop_drop, show 1 + (j + 1) = j + 2 by omega] at hn

theorem string_longest {q : UInt8} {s : Bytes} {e : Nat} (hs : string_SQ q (s.drop 1) e) :
    longestString q s =
      if hd s (· == q) = true ∧ hd ((s.drop 1).drop e) (· == q) = true then some (e + 2) else none := by
  unfold longestString
  rw [string_getLast (n0 := e + 2) fun n hn hc => by
    obtain ⟨_, j, rfl, hj, hq, hnq⟩ := (string_cand hn).1 hc
    rw [hs.2.2 j hj hq hnq]]
  by_cases hc : hd s (· == q) = true ∧ hd ((s.drop 1).drop e) (· == q) = true
  · have hlen : e + 2 ≤ s.length := by
      have := hd_drop_length hc.2
      simp at this; omega
    rw [if_pos hc, if_pos ⟨hlen, (string_cand hlen).2 ⟨hc.1, e, rfl, hs.1, hc.2, hs.2.1 hc.2⟩⟩]
  · rw [if_neg hc, if_neg]
    rintro ⟨hlen, h⟩
    obtain ⟨h0, j, hj, hb, hq, hnq⟩ := (string_cand hlen).1 h
    obtain rfl : j = e := by omega
    exact hc ⟨h0, hq⟩

/-- one branch of `lexString`: where the scan stops, and what the specification says there -/
theorem string_go (buf : Bytes) (pos : Nat) (q : UInt8) :
    ∃ e, skipQuote buf q (buf.length - pos) (pos + 1) = pos + 1 + e ∧
      longestString q (buf.drop pos) =
        (if hd (buf.drop pos) (· == q) = true ∧ hd (buf.drop (pos + 1 + e)) (· == q) = true then some (e + 2)
          else none) := by
  obtain ⟨e, he, hs⟩ := string_skipQuote buf q (buf.length - pos) (pos + 1) (by simp; omega)
  rw [drop_add] at hs
  exact ⟨e, he, by rw [string_longest hs, drop_add, drop_add]⟩

theorem string_specToken (s : Bytes) : specToken .string s =
    match longestString 34 s with
    | some n => some ⟨n, .doubleQuote, 0, n⟩
    | none => match longestString 39 s with
      | some n => some ⟨n, .singleQuote, 0, n⟩
      | none => none := rfl

theorem string_eq (buf : Bytes) (pos : Nat) : lexString buf pos = found pos (specToken .string (buf.drop pos)) := by
  obtain ⟨e1, he1, hl1⟩ := string_go buf pos 34
  obtain ⟨e2, he2, hl2⟩ := string_go buf pos 39
  unfold lexString
  rw [string_specToken, hl1, hl2]
  simp only [peekP_eq, he1, he2]
  by_cases h34 : hd (buf.drop pos) (· == 34) = true
  · have h39 := hd_disj (class_of_beq (p := (· == 39)) (by decide)) h34
    by_cases hc : hd (buf.drop (pos + 1 + e1)) (· == 34) = true
    · simp [h34, hc, mkTok, found]; omega
    · simp [h34, hc, h39, mkTok, found]
  · by_cases h39 : hd (buf.drop pos) (· == 39) = true
    · by_cases hc : hd (buf.drop (pos + 1 + e2)) (· == 39) = true
      · simp [h34, h39, hc, mkTok, found]; omega
      · simp [h34, h39, hc, mkTok, found]
    · simp [h34, h39, mkTok, found]

end ScpiVerif.Lemmas.Lexer
