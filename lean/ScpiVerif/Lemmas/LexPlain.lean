/-
The recognisers that are one greedy scan, or two, each as `lexX buf pos = found pos (specToken k (buf.drop pos))`: character data, new
line (its length is `nlLen`), expression, nondecimal number (one radix at a time, `nondecimal_radix`) and the suffix, whose loop over
`/` and `.` computes the longest match of `suffix_item*` (`suffix_loop`).  With each token what the layers above need of its
specification alone: the closed form `specToken_nl`, and that there is none when the first byte is wrong (`specToken_chr_none`, ..).
-/
import ScpiVerif.Lemmas.LexCalc

namespace ScpiVerif.Lemmas.Lexer
open ScpiVerif ScpiVerif.Lexer ScpiVerif.Spec ScpiVerif.Lemmas.Regex
open ScpiVerif.Spec.Re (opt plus nullable deriv longest)

theorem characterData_eq (buf : Bytes) (pos : Nat) :
    lexCharacterProgramData buf pos = found pos (specToken .chr (buf.drop pos)) := by
  rw [found_plain (re := mnemonic) (ty := .programMnemonic) rfl
    (if hd (buf.drop pos) isAlpha = true then 1 + tw (fun b => isAlnum b || b == 95) ((buf.drop pos).drop 1) else 0)]
  · unfold lexCharacterProgramData
    lex_rel
    exact plain_result_eq (by split <;> omega)
  · intro m hm; rw [PM_mnemonic] at hm; rw [if_pos hm.1]; exact hm.2.2
  · intro hn; split at hn
    · rw [if_pos ‹_›]; exact PM_mnemonic.2 ⟨‹_›, by omega, Nat.le_refl _⟩
    · omega

theorem specToken_chr_none {s : Bytes} (h : hd s isAlpha = false) : specToken .chr s = none :=
  plainSpec_none fun m hm hP => by rw [(PM_mnemonic.1 hP).1] at h; cases h

theorem PM_newline {s : Bytes} {m : Nat} :
    PM newline s m ↔ (m = 2 ∧ hd s (· == 13) = true ∧ hd (s.drop 1) (· == 10) = true) ∨
      (m = 1 ∧ hd s (· == 10) = true) ∨ (m = 1 ∧ hd s (· == 13) = true) := by
  unfold newline Re.c
  simp only [PM_alt, PM_chr_seq, PM_chr]
  constructor
  · rintro (⟨h1, _, rfl, rfl, h2⟩ | h | h)
    · exact .inl ⟨rfl, h1, h2⟩
    · exact .inr (.inl h)
    · exact .inr (.inr h)
  · rintro (⟨rfl, h1, h2⟩ | h | h)
    · exact .inl ⟨h1, 1, rfl, rfl, h2⟩
    · exact .inr (.inl h)
    · exact .inr (.inr h)

theorem cr_not_lf {s : Bytes} (h : hd s (· == 13) = true) : hd s (· == 10) = false :=
  hd_disj (class_of_beq (by decide)) h

def nlLen : Bytes → Nat
  | [] => 0
  | b :: t => if b = 10 then 1 else if b = 13 then (if t.head? = some 10 then 2 else 1) else 0

theorem nlLen_cons (b : UInt8) (t : Bytes) :
    nlLen (b :: t) = if b = 10 then 1 else if b = 13 then (if t.head? = some 10 then 2 else 1) else 0 := rfl

/-- as `lexNewLine` scans it: a CR if there is one, then a LF if there is one -/
theorem nlLen_eq (s : Bytes) : nlLen s = (if hd s (· == 13) = true then 1 else 0) +
    if hd (s.drop (if hd s (· == 13) = true then 1 else 0)) (· == 10) = true then 1 else 0 := by
  cases s with
  | nil => rfl
  | cons b t =>
    rw [nlLen_cons]
    by_cases hc : b = 13
    · subst hc
      rw [if_neg (by decide), if_pos rfl]
      simp only [hd_cons, beq_self_eq_true, if_true, List.drop_one, List.tail_cons, hd_eq_iff_head?]
      split <;> omega
    · by_cases hb : b = 10 <;> simp [hb, hc]

theorem newline_max {s : Bytes} {m : Nat} (h : PM newline s m) : m ≤ nlLen s := by
  rw [nlLen_eq]
  rcases PM_newline.1 h with ⟨rfl, h1, h2⟩ | ⟨rfl, h1⟩ | ⟨rfl, h1⟩
  · rw [if_pos h1, if_pos h2]; omega
  · rw [if_neg (fun h13 => by rw [cr_not_lf h13] at h1; cases h1), List.drop_zero, if_pos h1]; omega
  · rw [if_pos h1]; omega

theorem newline_mem {s : Bytes} (h : 0 < nlLen s) : PM newline s (nlLen s) := by
  rw [nlLen_eq] at h ⊢
  rw [PM_newline]
  by_cases h13 : hd s (· == 13) = true
  · rw [if_pos h13]
    by_cases h10 : hd (s.drop 1) (· == 10) = true
    · rw [if_pos h10]; exact .inl ⟨rfl, h13, h10⟩
    · rw [if_neg h10]; exact .inr (.inr ⟨rfl, h13⟩)
  · rw [if_neg h13, List.drop_zero] at h ⊢
    by_cases h10 : hd s (· == 10) = true
    · rw [if_pos h10]; exact .inr (.inl ⟨rfl, h10⟩)
    · rw [if_neg h10] at h; cases h

theorem specToken_nl (s : Bytes) :
    specToken .nl s = if 0 < nlLen s then some ⟨nlLen s, .nl, 0, nlLen s⟩ else none :=
  plainSpec_eq (r := newline) _ (fun _ hm => newline_max hm) newline_mem

theorem nlLen_le (s : Bytes) : nlLen s ≤ s.length := by
  by_cases h : 0 < nlLen s
  · exact PM_le (newline_mem h)
  · omega

theorem newLine_eq (buf : Bytes) (pos : Nat) : lexNewLine buf pos = found pos (specToken .nl (buf.drop pos)) := by
  rw [specToken_nl, found_closed]
  unfold lexNewLine
  lex_rel
  exact plain_result_eq2 (by rw [nlLen_eq]; omega)

theorem PM_expression {s : Bytes} {m : Nat} :
    PM expression s m ↔ hd s (· == 40) = true ∧
      hd ((s.drop 1).drop (tw isProgramExpression (s.drop 1))) (· == 41) = true ∧
      m = 1 + tw isProgramExpression (s.drop 1) + 1 := by
  unfold expression Re.c
  rw [PM_chr_seq]
  simp only [(Greedy.star_chr (p := isProgramExpression)).seq_iff (fun _ _ h => (PM_chr.1 h).2)
    (class_ne_beq (x := 41) (by decide)), PM_chr]
  constructor
  · rintro ⟨h1, _, rfl, _, rfl, rfl, h3⟩; exact ⟨h1, h3, by omega⟩
  · rintro ⟨h1, h2, rfl⟩; exact ⟨h1, _, by omega, _, rfl, rfl, h2⟩

theorem expression_eq (buf : Bytes) (pos : Nat) :
    lexExpression buf pos = found pos (specToken .expression (buf.drop pos)) := by
  generalize hs : buf.drop pos = s
  obtain ⟨n, hn⟩ : ∃ n, n = if hd s (· == 40) = true ∧
      hd ((s.drop 1).drop (tw isProgramExpression (s.drop 1))) (· == 41) = true
      then 1 + tw isProgramExpression (s.drop 1) + 1 else 0 := ⟨_, rfl⟩
  subst hs
  rw [found_plain (re := expression) (ty := .expression) rfl n]
  rotate_left
  · intro m hm; rw [PM_expression] at hm; rw [hn, if_pos ⟨hm.1, hm.2.1⟩]; exact Nat.le_of_eq hm.2.2
  · intro hpos
    split at hn
    · subst hn; exact PM_expression.2 ⟨‹_ ∧ _›.1, ‹_ ∧ _›.2, rfl⟩
    · omega
  · unfold lexExpression
    lex_rel
    by_cases h40 : hd (buf.drop pos) (· == 40) = true
    · by_cases h41 : hd (((buf.drop pos).drop 1).drop (tw isProgramExpression ((buf.drop pos).drop 1))) (· == 41) = true
      · simp only [h40, h41, and_self, if_true] at hn ⊢
        subst hn
        simp; omega
      · simp only [h40, h41, if_true] at hn ⊢
        subst hn; simp
    · simp only [h40] at hn ⊢
      subst hn; simp

theorem longest_numRe (pc pd : UInt8 → Bool) (s : Bytes) :
    (numRe pc pd).longest s =
      if hd s (· == 35) = true ∧ hd (s.drop 1) pc = true ∧ 0 < tw pd ((s.drop 1).drop 1)
      then some (2 + tw pd ((s.drop 1).drop 1)) else none := by
  split
  · next hc =>
    apply longest_eq_some
    · exact PM_numRe.2 ⟨hc.1, hc.2.1, by omega, Nat.le_refl _⟩
    · intro m hm; exact (PM_numRe.1 hm).2.2.2
  · next hc =>
    apply longest_eq_none
    intro m hm
    rw [PM_numRe] at hm
    exact hc ⟨hm.1, hm.2.1, by omega⟩

theorem specToken_nondecimal (s : Bytes) : specToken .nondecimal s =
    let pick := fun (r : Re) (ty : TokType) => match r.longest s with
      | some n => some (Expect.mk n ty 2 (n - 2))
      | none => none
    (pick (numRe (fun b => b == 104 || b == 72) isXDigit) .hexnum).orElse fun _ =>
      (pick (numRe (fun b => b == 113 || b == 81) isQDigit) .octnum).orElse fun _ =>
        pick (numRe (fun b => b == 98 || b == 66) isBDigit) .binnum := rfl

theorem numRe_longest_none {pc pd : UInt8 → Bool} {s : Bytes} (h : hd s (· == 35) = true → hd (s.drop 1) pc = false) :
    (numRe pc pd).longest s = none := by
  rw [longest_numRe, if_neg]
  rintro ⟨h1, h2, _⟩
  rw [h h1] at h2; cases h2

theorem specToken_nondecimal_none {s : Bytes} (h : hd s (· == 35) = false) : specToken .nondecimal s = none := by
  have hn : ∀ pc pd, (numRe pc pd).longest s = none := fun pc pd =>
    numRe_longest_none fun h' => by rw [h] at h'; cases h'
  rw [specToken_nondecimal]
  simp only [hn]
  rfl

/-- one radix: after `#` and its letter, what the recogniser returns is what the specification of this radix says -/
theorem nondecimal_radix {buf : Bytes} {pos : Nat} {pc pd : UInt8 → Bool} {ty : TokType}
    (h35 : hd (buf.drop pos) (· == 35) = true) (hc : hd ((buf.drop pos).drop 1) pc = true)
    (hsp : specToken .nondecimal (buf.drop pos) = match (numRe pc pd).longest (buf.drop pos) with
      | some n => some ⟨n, ty, 2, n - 2⟩
      | none => none) {p : Nat} (hp : p = pos + 1 + 1 + tw pd (((buf.drop pos).drop 1).drop 1)) :
    (if p > pos + 1 + 1 then (p, Token.mk ty (pos + 2) ((p : Int) - ((pos : Int) + 2)), (p : Int) - ((pos : Int) + 2) + 2)
        else (pos, Token.mk .unknown pos 0, 0)) = found pos (specToken .nondecimal (buf.drop pos)) := by
  rw [longest_numRe] at hsp
  by_cases ht : 0 < tw pd (((buf.drop pos).drop 1).drop 1)
  · rw [if_pos ⟨h35, hc, ht⟩] at hsp
    rw [hsp, if_pos (by omega)]
    simp only [found, Prod.mk.injEq, Token.mk.injEq, true_and]
    omega
  · rw [if_neg (fun h => ht h.2.2)] at hsp
    rw [hsp, if_neg (by omega)]
    rfl

theorem nondecimal_eq (buf : Bytes) (pos : Nat) :
    lexNondecimal buf pos = found pos (specToken .nondecimal (buf.drop pos)) := by
  have hxq : ∀ {s : Bytes}, hd s (fun b => b == 104 || b == 72) = true → hd s (fun b => b == 113 || b == 81) = false :=
    hd_disj (ByteClass.class_or (class_of_beq (by decide)) (class_of_beq (by decide)))
  have hxb : ∀ {s : Bytes}, hd s (fun b => b == 104 || b == 72) = true → hd s (fun b => b == 98 || b == 66) = false :=
    hd_disj (ByteClass.class_or (class_of_beq (by decide)) (class_of_beq (by decide)))
  have hqb : ∀ {s : Bytes}, hd s (fun b => b == 113 || b == 81) = true → hd s (fun b => b == 98 || b == 66) = false :=
    hd_disj (ByteClass.class_or (class_of_beq (by decide)) (class_of_beq (by decide)))
  unfold lexNondecimal
  lex_rel
  cases h35 : hd (buf.drop pos) (· == 35)
  · rw [specToken_nondecimal_none h35]; rfl
  simp only [if_true]
  cases hx : hd ((buf.drop pos).drop 1) (fun b => b == 104 || b == 72)
  · simp only [Bool.false_eq_true, if_false]
    cases hq : hd ((buf.drop pos).drop 1) (fun b => b == 113 || b == 81)
    · simp only [Bool.false_eq_true, if_false]
      cases hb : hd ((buf.drop pos).drop 1) (fun b => b == 98 || b == 66)
      · rw [specToken_nondecimal]
        simp [numRe_longest_none fun _ => hx, numRe_longest_none fun _ => hq, numRe_longest_none fun _ => hb, found]
      · exact nondecimal_radix h35 hb (by
          rw [specToken_nondecimal]
          simp [numRe_longest_none fun _ => hx, numRe_longest_none fun _ => hq]) rfl
    · exact nondecimal_radix h35 hq (by
        rw [specToken_nondecimal]
        simp [numRe_longest_none fun _ => hx, numRe_longest_none fun _ => hqb hq]) rfl
  · exact nondecimal_radix h35 hx (by
      rw [specToken_nondecimal]
      simp [numRe_longest_none fun _ => hxq hx, numRe_longest_none fun _ => hxb hx]) rfl

/-- the bytes of a unit name: a scan that stops before one of them has stopped early -/
def unitByte (b : UInt8) : Bool := isAlpha b || b == 45 || isDigit b
def slashDot (b : UInt8) : Bool := b == 47 || b == 46
/-- what may follow the letters of a unit -/
def unitRest (b : UInt8) : Bool := b == 45 || isDigit b || slashDot b
def suffixByte (b : UInt8) : Bool := unitByte b || slashDot b

theorem suffix_unit_not_slashDot : ∀ c : UInt8, unitByte c = true → slashDot c = false := by
  intro c h; simp only [unitByte, slashDot, byte_nat, UInt8.reduceToNat] at h ⊢; omega
theorem suffix_alpha_not_rest : ∀ c : UInt8, isAlpha c = true → unitRest c = false := by
  intro c h; simp only [unitRest, slashDot, byte_nat, UInt8.reduceToNat] at h ⊢; omega

/-- greedy length of `-? d?` -/
def suffix_gt (t : Bytes) : Nat :=
  (if hd t (· == 45) = true then 1 else 0) +
    (if hd (t.drop (if hd t (· == 45) = true then 1 else 0)) isDigit = true then 1 else 0)

/-- greedy length of `a* -? d?`: what one round of the loop skips behind its `/` or `.` and, where a letter stands, the first unit -/
def suffix_ga (t : Bytes) : Nat := tw isAlpha t + suffix_gt (t.drop (tw isAlpha t))

/- The parts of `Spec.suffix` by name: `suffix_item` is `[/.] a* -? d?`, `suffix_body` is `a+ -? d? suffix_item*`, and
`Spec.suffix` unfolds to `/? suffix_body?` (`suffix_whole` passes from the one to the other without a rewrite). -/
def suffix_item : Re := .seq (.chr slashDot) (.seq (.star (.chr isAlpha)) suffixTail)

def suffix_body : Re := .seq (plus (.chr isAlpha)) (.seq suffixTail (.star suffix_item))

theorem suffix_tail_first : First suffixTail unitRest :=
  .seq (.mono (by simp +contextual [unitRest]) (.opt .chr)) (.mono (by simp +contextual [unitRest]) (.opt .chr))

theorem suffix_tail (t : Bytes) : Greedy suffixTail unitByte t (suffix_gt t) :=
  .seq (f := isDigit) .opt_chr (.mono (by simp +contextual [unitByte]) .opt_chr) (.opt .chr)
    (class_of_beq (by decide)) (by simp +contextual [unitByte])

theorem suffix_at (t : Bytes) : Greedy (.seq (.star (.chr isAlpha)) suffixTail) unitByte t (suffix_ga t) :=
  .seq .star_chr (suffix_tail _) suffix_tail_first suffix_alpha_not_rest (by simp +contextual [unitByte])

theorem suffix_skipAt (buf : Bytes) (q : Nat) :
    skipOne buf (skipChr buf (skipAlpha buf q) 45) isDigit = q + suffix_ga (buf.drop q) := by
  lex_rel; unfold suffix_ga suffix_gt; omega

/-- the `while (skipSlashDot)` loop computes the longest match of `item*` -/
theorem suffix_loop (buf : Bytes) (fuel p : Nat) (hf : buf.length - p < fuel) :
    ∃ L, suffixLoop buf fuel p = p + L ∧ Greedy (.star suffix_item) suffixByte (buf.drop p) L := by
  induction fuel generalizing p with
  | zero => omega
  | succ fuel ih =>
    rw [suffixLoop, peekP_eq, show (fun b : UInt8 => b == 47 || b == 46) = slashDot from rfl]
    cases hh : hd (buf.drop p) slashDot
    · exact ⟨0, rfl, .star_nil fun j hj => First.chr_seq.eq_zero hh hj⟩
    · have hlen := hd_drop_length hh
      obtain ⟨L, e1, e2⟩ := ih (p + 1 + suffix_ga (buf.drop (p + 1))) (by omega)
      rw [drop_add buf p 1] at e1 e2
      rw [Nat.add_assoc p, drop_add] at e2
      refine ⟨1 + suffix_ga ((buf.drop p).drop 1) + L, ?_, .star_cons (.chr_seq hh (suffix_at _)) (by omega) e2
        .chr_seq suffix_unit_not_slashDot (by simp +contextual [suffixByte]) (by simp +contextual [suffixByte])⟩
      simp only [if_true, suffix_skipAt, e1, drop_add]
      omega

theorem suffix_body_first : First suffix_body isAlpha := .plus_chr_seq

theorem suffix_body_greedy {t : Bytes} {L : Nat} (ha : hd t isAlpha = true)
    (hL : Greedy (.star suffix_item) suffixByte (t.drop (suffix_ga t)) L) :
    Greedy suffix_body suffixByte t (suffix_ga t + L) := by
  rw [suffix_ga, ← List.drop_drop] at hL
  rw [suffix_ga, Nat.add_assoc]
  exact .seq (.plus_chr ha)
    (.seq (suffix_tail _) hL (.star .chr_seq) suffix_unit_not_slashDot (by simp +contextual [suffixByte]))
    (.seq (.mono (by simp +contextual [unitRest]) suffix_tail_first)
      (.mono (by simp +contextual [unitRest]) (.star .chr_seq)))
    suffix_alpha_not_rest (by simp +contextual [suffixByte, unitByte])

/-- the whole regex `/? body?`, given the loop's result `L` at the end of the first unit -/
theorem suffix_whole (s : Bytes) {a L : Nat} (ha : a = if hd s (· == 47) = true then 1 else 0)
    (hL : Greedy (.star suffix_item) suffixByte ((s.drop a).drop (suffix_ga (s.drop a))) L) :
    Greedy Spec.suffix suffixByte s (a + if hd (s.drop a) isAlpha = true then suffix_ga (s.drop a) + L else 0) := by
  have hb : Greedy (opt suffix_body) suffixByte (s.drop a)
      (if hd (s.drop a) isAlpha = true then suffix_ga (s.drop a) + L else 0) := by
    cases hal : hd (s.drop a) isAlpha
    · exact .opt_none fun j hj => suffix_body_first.eq_zero hal hj
    · exact .opt (suffix_body_greedy hal hL) fun _ =>
        hd_imp (p := isAlpha) (by simp +contextual [suffixByte, unitByte]) hal
  subst ha
  exact .seq .opt_chr hb (.opt suffix_body_first) (class_of_beq (by decide))
    (by simp +contextual [suffixByte, slashDot])

theorem suffix_eq (buf : Bytes) (pos : Nat) : lexSuffix buf pos = found pos (specToken .suffix (buf.drop pos)) := by
  obtain ⟨a, ha⟩ : ∃ a, a = if hd (buf.drop pos) (· == 47) = true then 1 else 0 := ⟨_, rfl⟩
  obtain ⟨L, e1, e2⟩ := suffix_loop buf (buf.length - (pos + a + suffix_ga ((buf.drop pos).drop a)) + 1)
    (pos + a + suffix_ga ((buf.drop pos).drop a)) (by omega)
  rw [drop_add, drop_add] at e2
  have hw := suffix_whole (buf.drop pos) ha e2
  rw [found_plain (re := Spec.suffix) (ty := .suffix) rfl _ (fun _ hm => hw.le hm) (fun _ => hw.mem)]
  unfold lexSuffix
  simp only [suffix_skipAt]
  lex_rel
  rw [← ha]
  apply plain_result_eq2
  have hne : ∀ x t : Nat, ((x + t != x) = true) ↔ 0 < t := by simp; omega
  cases hal : hd ((buf.drop pos).drop a) isAlpha
  · have := tw_eq_zero_iff.2 hal
    simp only [hne, this, Nat.lt_irrefl, if_false, Bool.false_eq_true]
    omega
  · have := tw_pos_iff.2 hal
    simp only [hne, this, if_true, e1]
    omega

theorem suffix_first : First Spec.suffix (fun b => b == 47 || isAlpha b) :=
  .seq (.mono (by simp +contextual) (.opt .chr)) (.mono (by simp +contextual) (.opt .plus_chr_seq))

theorem specToken_suffix_none {s : Bytes} (h : hd s (fun b => b == 47 || isAlpha b) = false) :
    specToken .suffix s = none :=
  plainSpec_none fun m hm hP => by have := suffix_first.eq_zero h hP; omega

end ScpiVerif.Lemmas.Lexer
