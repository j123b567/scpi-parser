/-
Side conditions of the model's unbounded counters.  The context model counts result items, parameters, announced block
bytes, buffer positions and heap offsets with `Nat` / `Int`; the C structures use fixed-width fields.  The translator
reads width and signedness of each field off the COMPILED structures of the current source (Gen/Tables.lean, `fw_*`).
The statements below say that every such field can hold every value the model's counter takes on the inputs the
properties quantify over (responses and parameter lists of fewer than 2^31 items, blocks below 2^32 bytes, buffers and
heaps below 2^32 bytes, queues of at most 32767 entries).  Narrowing one of the fields in types.h breaks the
corresponding statement on the next run.
-/
import ScpiVerif.Gen.Tables

namespace ScpiVerif.Lemmas.FieldWidths
open ScpiVerif

/-- `f` is (width in bits, signed) as the translator emits it -/
def SignedAtLeast (f : Nat × Bool) (bits : Nat) : Prop := f.2 = true ∧ bits ≤ f.1
def UnsignedAtLeast (f : Nat × Bool) (bits : Nat) : Prop := f.2 = false ∧ bits ≤ f.1

instance (f : Nat × Bool) (b : Nat) : Decidable (SignedAtLeast f b) := by unfold SignedAtLeast; exact inferInstance
instance (f : Nat × Bool) (b : Nat) : Decidable (UnsignedAtLeast f b) := by unfold UnsignedAtLeast; exact inferInstance

/-- `context->output_count` (items written by the running unit; negative = response separator pending): the model's `Int`
is exact for every unit with fewer than 2^31 result items -/
theorem output_count : SignedAtLeast Gen.fw_ctx_output_count 32 := by decide
theorem input_count : SignedAtLeast Gen.fw_ctx_input_count 32 := by decide
theorem arbitrary_remaining : UnsignedAtLeast Gen.fw_ctx_arbitrary_remaining 32 := by decide
theorem buffer_fields : UnsignedAtLeast Gen.fw_ctx_buffer_length 32 ∧ UnsignedAtLeast Gen.fw_ctx_buffer_position 32 := by decide
/-- ring indices of the error queue: 16-bit signed, so the model's ring arithmetic is exact for capacities up to 32767
(the indices stay below the capacity and `index + 1` is computed in `int`) -/
theorem fifo_fields : SignedAtLeast Gen.fw_fifo_wr 16 ∧ SignedAtLeast Gen.fw_fifo_rd 16 ∧ SignedAtLeast Gen.fw_fifo_count 16 ∧
    SignedAtLeast Gen.fw_fifo_size 16 := by decide
theorem heap_fields : UnsignedAtLeast Gen.fw_error_info_heap_wr 32 ∧ UnsignedAtLeast Gen.fw_error_info_heap_count 32 ∧
    UnsignedAtLeast Gen.fw_error_info_heap_size 32 := by decide
theorem lexer_fields : SignedAtLeast Gen.fw_token_len 32 ∧ SignedAtLeast Gen.fw_lex_state_len 32 ∧
    SignedAtLeast Gen.fw_parser_state_numberOfParameters 32 := by decide
/-- the model's error codes are the values of this type -/
theorem error_code : Gen.fw_error_error_code = (16, true) := by decide

end ScpiVerif.Lemmas.FieldWidths
