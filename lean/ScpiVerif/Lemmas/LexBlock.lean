/-
The arbitrary block: `lexBlock buf pos = block_result buf pos (specBlock (buf.drop pos))`, one result for each verdict of the
specification (valid, incomplete, invalid), and from it the statements `block_spec` / `block_length_bounded` of Props/C13.
-/
import ScpiVerif.Lemmas.LexCalc

namespace ScpiVerif.Lemmas.Lexer
open ScpiVerif ScpiVerif.Lexer ScpiVerif.Spec ScpiVerif.Lemmas.Regex
open ScpiVerif.Spec.Re (opt plus nullable deriv longest)

theorem block_blockDigits_eq (buf : Bytes) (i p acc : Nat) :
    blockDigits buf i p acc =
      (p + min i (tw isDigit (buf.drop p)), i - min i (tw isDigit (buf.drop p)),
       ((buf.drop p).take (min i (tw isDigit (buf.drop p)))).foldl (fun a b => a * 10 + (b.toNat - 48)) acc) := by
  induction i generalizing p acc with
  | zero => simp [blockDigits]
  | succ i ih =>
    rw [blockDigits, getElem?_eq_head_drop]
    cases hs : buf.drop p with
    | nil => simp
    | cons b t =>
      have ht : buf.drop (p+1) = t := by rw [drop_add, hs]; simp
      simp only [List.head?_cons]
      by_cases hb : isDigit b = true
      · rw [if_pos hb, ih, ht, tw_cons, if_pos hb]
        have : min (i+1) (1 + tw isDigit t) = (min i (tw isDigit t)) + 1 := by omega
        rw [this]; simp; omega
      · rw [if_neg hb, tw_cons, if_neg hb]; simp

def block_result (buf : Bytes) (pos : Nat) : BlockSpec → Nat × Token × Int
  | .valid h n => (pos + (h + n), ⟨.block, pos + h, n⟩, ((h + n : Nat) : Int))
  | .incomplete => (buf.length, ⟨.unknown, pos, 0⟩, 0)
  | .invalid => (pos, ⟨.unknown, pos, 0⟩, 0)

theorem block_lexBlock_eq (buf : Bytes) (pos : Nat) :
    lexBlock buf pos = block_result buf pos (specBlock (buf.drop pos)) := by
  unfold lexBlock
  rw [peekP_eq]
  cases hh : hd (buf.drop pos) (· == 35) with
  | false => rw [block_specBlock_nohash hh]; rfl
  | true =>
    have h1 : buf[pos + 1]? = ((buf.drop pos).drop 1).head? := by rw [getElem?_eq_head_drop, drop_add]
    dsimp only
    rw [hd_eq_cons hh, h1]
    cases hs : (buf.drop pos).drop 1 with
    | nil => rfl
    | cons d rest2 =>
      have hlen : buf.length = pos + 2 + rest2.length := by
        have := congrArg List.length hs
        simp at this; omega
      have h2 : buf.drop (pos + 1 + 1) = rest2 := by
        rw [Nat.add_assoc, drop_add, ← List.drop_drop, hs]; rfl
      have htw := tw_le_length isDigit rest2
      rw [block_specBlock_hash]
      simp only [List.head?_cons, if_true, mkTok]
      split
      · rw [block_blockDigits_eq, h2]
        dsimp only
        by_cases hk : d.toNat - 48 ≤ tw isDigit rest2
        · rw [if_pos hk, Nat.min_eq_left hk, Nat.sub_self, if_pos (c := (0 == 0) = true) rfl, ← natOfDigits]
          generalize natOfDigits (rest2.take (d.toNat - 48)) = n
          by_cases hn : n + (d.toNat - 48) ≤ rest2.length
          · rw [if_pos hn, if_pos (by omega)]
            refine Prod.ext (by simp only [block_result]; omega) (Prod.ext ?_ (by simp only [block_result]; omega))
            simp only [block_result, Token.mk.injEq, true_and, and_true]; omega
          · rw [if_neg hn, if_neg (by omega)]; rfl
        · rw [if_neg hk, Nat.min_eq_right (by omega), if_neg (by rw [beq_iff_eq]; omega)]
          simp only [iseos, decide_eq_true_eq]
          by_cases he : rest2.length ≤ tw isDigit rest2
          · rw [if_pos he, if_pos (by omega)]; rfl
          · rw [if_neg he, if_neg (by omega)]; rfl
      · rfl

theorem block_length_bounded (buf : Bytes) (pos : Nat) :
    (lexBlock buf pos).2.1.len ≤ 999999999 := by
  rw [block_lexBlock_eq]
  cases hb : specBlock (buf.drop pos) with
  | valid hl n => have := (block_valid hb).2.2; simp only [block_result]; omega
  | incomplete => simp [block_result]
  | invalid => simp [block_result]

theorem block_spec (buf : Bytes) (pos : Nat) (h : pos ≤ buf.length) :
    Agrees .block buf pos (lexBlock buf pos) := by
  have hl := length_drop_le h
  unfold Agrees
  rw [block_lexBlock_eq]
  cases hb : specBlock (buf.drop pos) with
  | valid hl n => have := block_valid hb; simp [specToken, hb, block_result]; omega
  | incomplete => simp [specToken, hb, block_result]
  | invalid => simp [specToken, hb, block_result]

end ScpiVerif.Lemmas.Lexer
