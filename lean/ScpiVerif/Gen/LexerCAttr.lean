/-
Simp sets the generated file Gen/LexerC.lean tags its definitions with (an attribute cannot be used in the file that declares it):
`lexc_fn`: the functions with a `lex_state_t *` parameter (unfolded by the refinement proofs),
`lexc_pred`: the `int -> int` character predicates (never unfolded: their meaning is checked on all 256 byte values).
-/
import Lean.Meta.Tactic.Simp.RegisterCommand

register_simp_attr lexc_fn
register_simp_attr lexc_pred
/-- `lexc_cls`: the character-class theorems of Lemmas/LexerC.lean (generated predicate on `sc b` = hand-model predicate on `b`) -/
register_simp_attr lexc_cls
/-- `lexc_rd`: what the end-of-input test and the read deliver on a clean state, as functions of `buf[n]?` (Lemmas/LexerC.lean) -/
register_simp_attr lexc_rd
/-- `lexc_ref`: the refinement theorems of the functions already proved (used instead of unfolding a callee) -/
register_simp_attr lexc_ref
/-- `lexc_code`: numeric values of the hand model's token types (enum constants of the C header) -/
register_simp_attr lexc_code
