/-
C08 — Behaviour depends on the byte stream, not on how it is cut into input calls.  Proofs in
ScpiVerif/Lemmas/Chunking*.lean, vocabulary (`Observable`, `UserObservable`, `NoQuotes`, `QuotesLineLocal`, `NoCR`,
`Fits`) in ScpiVerif/Spec/Chunking.lean (this namespace).

PARTIAL: the full statement is FALSE for the library as it is (known finding, DESIGN.md section 8 #10): the scan of
SCPI_Input for a message terminator knows about definite-length blocks but not about quoted strings, so a line
terminator inside a quoted string (or after an unterminated quote) ends the message when the stream arrives in pieces
and not when it arrives whole (`chunking_counterexample`).  A second, benign difference: a chunk boundary between the
CR and the LF of a CR LF terminator makes the LF an (empty) message of its own (`chunking_crlf_difference`).
What is proved, for streams (pending bytes included) in which no quoted string contains a line terminator
(`QuotesLineLocal`; definite-length blocks are covered throughout): what a USER of the library can observe
(`UserObservable`: `Observable` without the `parseMsg` markers of the verification hook) is the same for ANY partition,
cuts inside a quoted string or directly after a CR included; `Observable` itself (message boundaries included) is the
same for any partition that does not cut directly after a CR, hence for any partition of a stream without CR; and the
scan for a complete message is stable under arriving bytes.  The theorems for streams without quote characters
(`…_noquote`, `…_partial`, `…_noquote_nocr`) are the special cases.
-/
import ScpiVerif.Model.Ctx
import ScpiVerif.Spec.Chunking
import ScpiVerif.Lemmas.Chunking

namespace ScpiVerif.Props.C08
open ScpiVerif ScpiVerif.Ctx ScpiVerif.Lexer

/-
NOT PROVED, because FALSE as stated (`chunking_counterexample`, `chunking_crlf_difference`): the unrestricted statement

theorem chunking_invariant (c : Ctx) (h : WF c) (cs cs' : List Bytes)
    (hne : (∀ x ∈ cs, x ≠ []) ∧ (∀ x ∈ cs', x ≠ [])) (hs : cs.flatten = cs'.flatten) (hfit : Fits c cs.flatten.length) :
    Observable (cs.foldl input c) = Observable (cs'.foldl input c)

The model lemma the theorems below rest on — SCPI_Parse of a message that ends in LF or CR does not depend on the
buffer bytes BEHIND the message — is `Lemmas.Chunking.parse_local` (Lemmas/ParseLocal*.lean; `parseLocalCR` / `parseLocal` are
its two special cases as closed propositions).
-/

/-! ## streams in which no quoted string contains a line terminator (`QuotesLineLocal`, Spec/Chunking.lean)

A line terminator inside a quoted string is exactly what `chunking_counterexample` uses, so the hypothesis cannot
be dropped; it is stated conservatively for every quote character that directly follows a blank or a comma, whether
or not the scan of SCPI_Input reaches it in a string position. -/

theorem quotesLineLocal_of_noQuotes (s : Bytes) (h : NoQuotes s) : QuotesLineLocal s :=
  Lemmas.Chunking.noQuotes_qll h

/-- the hypothesis is a computation on the byte stream (the `Decidable` instance derived from this is in
Lemmas/ChunkingQuote.lean; the examples below evaluate it in the kernel) -/
theorem quotesLineLocal_iff (s : Bytes) : quotesLineLocalB s = true ↔ QuotesLineLocal s :=
  Lemmas.Chunking.quotesLineLocalB_iff s

/-- splitting one chunk in two, anywhere (inside a quoted string, directly after a CR), changes nothing the
user can observe -/
theorem input_split_quotes (c : Ctx) (h : WF c) (a b : Bytes) (ha : a ≠ []) (hb : b ≠ [])
    (hfit : Fits c (a.length + b.length)) (hq : QuotesLineLocal (c.buf.take c.position ++ a ++ b)) :
    UserObservable (input (input c a) b) = UserObservable (input c (a ++ b)) :=
  (Lemmas.Chunking.input_split Lemmas.Chunking.view_uvis c h a b ha hb hfit hq (Or.inl Lemmas.Chunking.uvis_parseMsg)).uobs

/-- ANY two partitions into non-empty chunks of a stream (pending bytes included) in which no quoted string
contains a line terminator: the user sees the same handlers, parameters, errors, output, flushes, registers,
error queue and remainder -/
theorem chunking_invariant_quotes (c : Ctx) (h : WF c) (cs cs' : List Bytes)
    (hne : (∀ x ∈ cs, x ≠ []) ∧ (∀ x ∈ cs', x ≠ [])) (hs : cs.flatten = cs'.flatten) (hcs : cs ≠ [])
    (hfit : Fits c cs.flatten.length) (hq : QuotesLineLocal (c.buf.take c.position ++ cs.flatten)) :
    UserObservable (cs.foldl input c) = UserObservable (cs'.foldl input c) :=
  Lemmas.Chunking.chunking_invariant_quotes c h cs cs' hne hs hcs hfit hq

theorem flatten_singletons (s : Bytes) : (s.map fun b => [b]).flatten = s := by
  induction s with
  | nil => rfl
  | cons a t ih => simp [ih]

theorem singletons_ne_nil (s : Bytes) : ∀ x ∈ s.map (fun b => [b]), x ≠ [] := by
  intro x hx
  obtain ⟨b, _, rfl⟩ := List.mem_map.1 hx
  simp

/-- in particular any partition behaves, for the user, like feeding the stream one byte at a time -/
theorem chunking_bytewise_quotes (c : Ctx) (h : WF c) (cs : List Bytes)
    (hne : ∀ x ∈ cs, x ≠ []) (hcs : cs ≠ [])
    (hfit : Fits c cs.flatten.length) (hq : QuotesLineLocal (c.buf.take c.position ++ cs.flatten)) :
    UserObservable (cs.foldl input c) = UserObservable ((cs.flatten.map fun b => [b]).foldl input c) :=
  chunking_invariant_quotes c h cs _ ⟨hne, singletons_ne_nil _⟩ (flatten_singletons _).symm hcs hfit hq

/-- `Observable` (message boundaries included): splitting one chunk in two, not directly after a CR -/
theorem input_split_cr_quotes (c : Ctx) (h : WF c) (a b : Bytes) (ha : a ≠ []) (hb : b ≠ [])
    (hfit : Fits c (a.length + b.length)) (hq : QuotesLineLocal (c.buf.take c.position ++ a ++ b))
    (hcut : a.getLast? ≠ some 13) :
    Observable (input (input c a) b) = Observable (input c (a ++ b)) :=
  Lemmas.Chunking.input_split_cr_quotes c h a b ha hb hfit hq hcut

/-- `Observable`: two partitions neither of which cuts directly after a CR -/
theorem chunking_invariant_cr_quotes (c : Ctx) (h : WF c) (cs cs' : List Bytes)
    (hne : (∀ x ∈ cs, x ≠ []) ∧ (∀ x ∈ cs', x ≠ [])) (hs : cs.flatten = cs'.flatten) (hcs : cs ≠ [])
    (hfit : Fits c cs.flatten.length) (hq : QuotesLineLocal (c.buf.take c.position ++ cs.flatten))
    (hcut : (∀ x ∈ cs, x.getLast? ≠ some 13) ∧ (∀ x ∈ cs', x.getLast? ≠ some 13)) :
    Observable (cs.foldl input c) = Observable (cs'.foldl input c) :=
  Lemmas.Chunking.chunking_invariant_cr_quotes c h cs cs' hne hs hcs hfit hq hcut

/-- `Observable`, streams without CR: splitting one chunk in two, anywhere -/
theorem input_split_nocr_quotes (c : Ctx) (h : WF c) (a b : Bytes) (ha : a ≠ []) (hb : b ≠ [])
    (hfit : Fits c (a.length + b.length)) (hq : QuotesLineLocal (c.buf.take c.position ++ a ++ b))
    (hcr : NoCR (c.buf.take c.position ++ a ++ b)) :
    Observable (input (input c a) b) = Observable (input c (a ++ b)) :=
  input_split_cr_quotes c h a b ha hb hfit hq
    (fun h13 => hcr 13 (List.mem_append_left _ (List.mem_append_right _ (List.mem_of_getLast? h13))) rfl)

/-- `Observable`, streams without CR: any two partitions -/
theorem chunking_invariant_nocr_quotes (c : Ctx) (h : WF c) (cs cs' : List Bytes)
    (hne : (∀ x ∈ cs, x ≠ []) ∧ (∀ x ∈ cs', x ≠ [])) (hs : cs.flatten = cs'.flatten) (hcs : cs ≠ [])
    (hfit : Fits c cs.flatten.length) (hq : QuotesLineLocal (c.buf.take c.position ++ cs.flatten))
    (hcr : NoCR (c.buf.take c.position ++ cs.flatten)) :
    Observable (cs.foldl input c) = Observable (cs'.foldl input c) :=
  chunking_invariant_cr_quotes c h cs cs' hne hs hcs hfit hq
    ⟨Lemmas.Chunking.noCR_chunks hcr, Lemmas.Chunking.noCR_chunks (by rw [← hs]; exact hcr)⟩

/-- `Observable`, streams without CR: any partition behaves like feeding the stream one byte at a time -/
theorem chunking_bytewise_nocr_quotes (c : Ctx) (h : WF c) (cs : List Bytes)
    (hne : ∀ x ∈ cs, x ≠ []) (hcs : cs ≠ [])
    (hfit : Fits c cs.flatten.length) (hq : QuotesLineLocal (c.buf.take c.position ++ cs.flatten))
    (hcr : NoCR (c.buf.take c.position ++ cs.flatten)) :
    Observable (cs.foldl input c) = Observable ((cs.flatten.map fun b => [b]).foldl input c) :=
  chunking_invariant_nocr_quotes c h cs _ ⟨hne, singletons_ne_nil _⟩ (flatten_singletons _).symm hcs hfit hq hcr

/-- when the scan of SCPI_Input finds a complete message in the pending bytes `s`, it finds the same message
when more bytes `y` follow — also when `s` ends inside a quoted string — unless `s` ends in a CR -/
theorem scan_prefix_stable_quotes (s y : Bytes) (k : Nat) (hq : QuotesLineLocal (s ++ y)) (hcut : s.getLast? ≠ some 13)
    (h : Lemmas.Chunking.scan s = some k) : Lemmas.Chunking.scan (s ++ y) = some k :=
  Lemmas.Chunking.scan_stable s y k hq hcut h

/-- without quote characters: splitting one chunk in two, anywhere, changes nothing the user can observe -/
theorem input_split_noquote (c : Ctx) (h : WF c) (a b : Bytes) (ha : a ≠ []) (hb : b ≠ [])
    (hfit : Fits c (a.length + b.length)) (hq : NoQuotes (c.buf.take c.position ++ a ++ b)) :
    UserObservable (input (input c a) b) = UserObservable (input c (a ++ b)) :=
  input_split_quotes c h a b ha hb hfit (Lemmas.Chunking.noQuotes_qll hq)

/-- what a user can observe does not depend on the partition of a stream without quote characters at all:
ANY two partitions into non-empty chunks, cuts directly after a CR included.  (When a chunk ends in the CR
of a CR LF, the CR ends the message and the LF arriving with the next chunk is parsed as an empty message:
no handler, no output, no flush, no error; `Lemmas.Chunking.parse_crlf` shows that SCPI_Parse does the same
on `m CR LF` and on `m CR`.) -/
theorem chunking_invariant_noquote (c : Ctx) (h : WF c) (cs cs' : List Bytes)
    (hne : (∀ x ∈ cs, x ≠ []) ∧ (∀ x ∈ cs', x ≠ [])) (hs : cs.flatten = cs'.flatten) (hcs : cs ≠ [])
    (hfit : Fits c cs.flatten.length) (hq : NoQuotes (c.buf.take c.position ++ cs.flatten)) :
    UserObservable (cs.foldl input c) = UserObservable (cs'.foldl input c) :=
  Lemmas.Chunking.chunking_invariant_noquote c h cs cs' hne hs hcs hfit hq

/-- in particular any partition behaves, for the user, like feeding the stream one byte at a time -/
theorem chunking_bytewise_noquote (c : Ctx) (h : WF c) (cs : List Bytes)
    (hne : ∀ x ∈ cs, x ≠ []) (hcs : cs ≠ [])
    (hfit : Fits c cs.flatten.length) (hq : NoQuotes (c.buf.take c.position ++ cs.flatten)) :
    UserObservable (cs.foldl input c) = UserObservable ((cs.flatten.map fun b => [b]).foldl input c) :=
  chunking_bytewise_quotes c h cs hne hcs hfit (Lemmas.Chunking.noQuotes_qll hq)

/-- CR allowed: splitting one chunk in two changes nothing observable when the stream has no quote
characters and the cut is not directly after a CR. -/
theorem input_split_cr_partial (c : Ctx) (h : WF c) (a b : Bytes) (ha : a ≠ []) (hb : b ≠ [])
    (hfit : Fits c (a.length + b.length)) (hq : NoQuotes (c.buf.take c.position ++ a ++ b))
    (hcut : a.getLast? ≠ some 13) :
    Observable (input (input c a) b) = Observable (input c (a ++ b)) :=
  input_split_cr_quotes c h a b ha hb hfit (Lemmas.Chunking.noQuotes_qll hq) hcut

/-- CR allowed: two partitions of a stream without quote characters, neither of which cuts directly after
a CR, behave alike (and like feeding the stream whole: `Lemmas.Chunking.chunks`). -/
theorem chunking_invariant_cr_partial (c : Ctx) (h : WF c) (cs cs' : List Bytes)
    (hne : (∀ x ∈ cs, x ≠ []) ∧ (∀ x ∈ cs', x ≠ [])) (hs : cs.flatten = cs'.flatten) (hcs : cs ≠ [])
    (hfit : Fits c cs.flatten.length) (hq : NoQuotes (c.buf.take c.position ++ cs.flatten))
    (hcut : (∀ x ∈ cs, x.getLast? ≠ some 13) ∧ (∀ x ∈ cs', x.getLast? ≠ some 13)) :
    Observable (cs.foldl input c) = Observable (cs'.foldl input c) :=
  chunking_invariant_cr_quotes c h cs cs' hne hs hcs hfit (Lemmas.Chunking.noQuotes_qll hq) hcut

/-- splitting one chunk in two changes nothing observable, for streams (pending bytes included) without
quote characters and without CR — definite-length blocks, with any bytes other than those three in their
data, are covered. -/
theorem input_split_partial (c : Ctx) (h : WF c) (a b : Bytes) (ha : a ≠ []) (hb : b ≠ [])
    (hfit : Fits c (a.length + b.length)) (hq : NoQuotes (c.buf.take c.position ++ a ++ b))
    (hcr : NoCR (c.buf.take c.position ++ a ++ b)) :
    Observable (input (input c a) b) = Observable (input c (a ++ b)) :=
  Lemmas.Chunking.input_split_partial Lemmas.Chunking.parseLocal c h a b ha hb hfit hq hcr

/-- hence every partition of such a stream into non-empty chunks behaves like feeding it whole, and
therefore like feeding it one byte at a time. -/
theorem chunking_invariant_partial (c : Ctx) (h : WF c) (cs : List Bytes)
    (hne : ∀ x ∈ cs, x ≠ []) (hcs : cs ≠ [])
    (hfit : Fits c cs.flatten.length) (hq : NoQuotes (c.buf.take c.position ++ cs.flatten))
    (hcr : NoCR (c.buf.take c.position ++ cs.flatten)) :
    Observable (cs.foldl input c) = Observable (input c cs.flatten) :=
  Lemmas.Chunking.chunking_invariant_partial Lemmas.Chunking.parseLocal c h cs hne hcs hfit hq hcr

/-- the unrestricted statement quoted at the top (any two partitions, `Observable`), with the two hypotheses on the stream added. -/
theorem chunking_invariant_noquote_nocr (c : Ctx) (h : WF c) (cs cs' : List Bytes)
    (hne : (∀ x ∈ cs, x ≠ []) ∧ (∀ x ∈ cs', x ≠ [])) (hs : cs.flatten = cs'.flatten) (hcs : cs ≠ [])
    (hfit : Fits c cs.flatten.length) (hq : NoQuotes (c.buf.take c.position ++ cs.flatten))
    (hcr : NoCR (c.buf.take c.position ++ cs.flatten)) :
    Observable (cs.foldl input c) = Observable (cs'.foldl input c) :=
  chunking_invariant_nocr_quotes c h cs cs' hne hs hcs hfit (Lemmas.Chunking.noQuotes_qll hq) hcr

/-- in particular: any partition behaves like feeding the stream one byte at a time (the form in which the
property is stated). -/
theorem chunking_bytewise_partial (c : Ctx) (h : WF c) (cs : List Bytes)
    (hne : ∀ x ∈ cs, x ≠ []) (hcs : cs ≠ [])
    (hfit : Fits c cs.flatten.length) (hq : NoQuotes (c.buf.take c.position ++ cs.flatten))
    (hcr : NoCR (c.buf.take c.position ++ cs.flatten)) :
    Observable (cs.foldl input c) = Observable ((cs.flatten.map fun b => [b]).foldl input c) :=
  chunking_bytewise_nocr_quotes c h cs hne hcs hfit (Lemmas.Chunking.noQuotes_qll hq) hcr

/-- when the scan of SCPI_Input finds a complete
message in the pending bytes `s`, it finds the same message when more bytes `y` follow — the decision was
taken by bytes that are present in `s` — unless `s` ends in a CR, which a following LF would extend
(no hypothesis on CR otherwise) -/
theorem scan_prefix_stable (s y : Bytes) (k : Nat) (hq : NoQuotes (s ++ y)) (hcut : s.getLast? ≠ some 13)
    (h : Lemmas.Chunking.scan s = some k) : Lemmas.Chunking.scan (s ++ y) = some k :=
  scan_prefix_stable_quotes s y k (Lemmas.Chunking.noQuotes_qll hq) hcut h

/-- a zero-length call executes whatever is buffered as one complete message and empties the buffer -/
theorem flush_executes_pending (c : Ctx) (h : WF c) :
    let c' := input c []
    c'.position = 0 ∧
    (c'.events.drop c.events.length).head? = some (Ev.parseMsg (c.buf.take c.position)) ∧
    (∃ r, (c'.events.getLast? = some (Ev.input r))) :=
  Lemmas.Chunking.flush_executes_pending c h

/-- the full statement fails: `TXT "a<LF>b"<LF>` fed whole delivers the string to the handler, fed in two
pieces (cut after the embedded line feed) it raises errors instead -/
theorem chunking_counterexample :
    let cmds : List Cmd := [⟨[84, 88, 84], 1, [.pText true 16]⟩]                       -- pattern "TXT", reads one text parameter
    let c := Ctx.init cmds [] 64 4 true
    let s : Bytes := [84, 88, 84, 32, 34, 97, 10, 98, 34, 10]                          -- TXT "a\nb"\n
    Observable (input c s) ≠ Observable (input (input c (s.take 7)) (s.drop 7)) := by
  -- (the instance search does not find `DecidableEq` for the six-fold product: compare the event logs)
  intro cmds c s h
  have h1 := congrArg Prod.fst h
  revert h1
  simp only [Observable]
  decide +kernel +zetaReduce

/-! ## the `…_quotes` theorems on a concrete stream with quoted strings

`TXT "a;b",'c'<LF>`, a command that reads two text parameters: the hypotheses hold, the stream cut inside the
first string (after the semicolon), cut after every byte, and fed whole gives the same events. -/

/-- the context, the stream and its first 7 bytes `TXT "a;` -/
def exCtx : Ctx := Ctx.init [⟨[84, 88, 84], 1, [.pText true 16, .pText true 16]⟩] [] 64 4 true
def exStream : Bytes := [84, 88, 84, 32, 34, 97, 59, 98, 34, 44, 39, 99, 39, 10]

theorem quotes_example :
    WF exCtx ∧ Fits exCtx exStream.length ∧ QuotesLineLocal (exCtx.buf.take exCtx.position ++ exStream) ∧
    ¬ NoQuotes (exCtx.buf.take exCtx.position ++ exStream) ∧
    -- the scan of the first piece finds no message, the scan of the whole stream finds the whole line
    Lemmas.Chunking.scan (exStream.take 7) = none ∧ Lemmas.Chunking.scan exStream = some 14 ∧
    (input exCtx exStream).events =
      [.parseMsg exStream, .handler 1 [84, 88, 84], .pText true [97, 59, 98] true, .pText true [99] true, .input true] ∧
    (input (input exCtx (exStream.take 7)) (exStream.drop 7)).events =
      [.input true, .parseMsg exStream, .handler 1 [84, 88, 84], .pText true [97, 59, 98] true, .pText true [99] true,
       .input true] ∧
    (((exStream.map fun b => [b]).foldl input exCtx).events.filter (fun e => match e with | .input _ => false | _ => true)) =
      [.parseMsg exStream, .handler 1 [84, 88, 84], .pText true [97, 59, 98] true, .pText true [99] true] := by
  refine ⟨by unfold WF; decide, by unfold Fits; decide, by decide +kernel, ?_, by decide +kernel, by decide +kernel, by decide +kernel,
    by decide +kernel, by decide +kernel⟩
  intro h
  exact (h 34 (by decide)).1 rfl

theorem input_split_quotes_example :
    UserObservable (input (input exCtx (exStream.take 7)) (exStream.drop 7)) = UserObservable (input exCtx exStream) :=
  input_split_quotes exCtx quotes_example.1 (exStream.take 7) (exStream.drop 7) (by decide) (by decide) (by unfold Fits; decide)
    (by decide +kernel)

theorem input_split_cr_quotes_example :
    Observable (input (input exCtx (exStream.take 7)) (exStream.drop 7)) = Observable (input exCtx exStream) :=
  input_split_cr_quotes exCtx quotes_example.1 (exStream.take 7) (exStream.drop 7) (by decide) (by decide) (by unfold Fits; decide)
    (by decide +kernel) (by decide)

/-- `chunking_invariant_quotes` / `chunking_invariant_cr_quotes` / `chunking_invariant_nocr_quotes`: the partition
`TXT "a;` `b",'` `c'<LF>` against the partition `TXT ` `"a;b",'c'<LF>` -/
theorem chunking_invariant_quotes_example :
    let cs : List Bytes := [exStream.take 7, (exStream.drop 7).take 4, exStream.drop 11]
    let cs' : List Bytes := [exStream.take 4, exStream.drop 4]
    UserObservable (cs.foldl input exCtx) = UserObservable (cs'.foldl input exCtx) ∧
    Observable (cs.foldl input exCtx) = Observable (cs'.foldl input exCtx) := by
  intro cs cs'
  have hne : (∀ x ∈ cs, x ≠ []) ∧ (∀ x ∈ cs', x ≠ []) := by decide
  have hs : cs.flatten = cs'.flatten := by decide
  have hq : QuotesLineLocal (exCtx.buf.take exCtx.position ++ cs.flatten) := by decide +kernel
  exact ⟨chunking_invariant_quotes exCtx quotes_example.1 cs cs' hne hs (by decide) (by unfold Fits; decide) hq,
    chunking_invariant_cr_quotes exCtx quotes_example.1 cs cs' hne hs (by decide) (by unfold Fits; decide) hq (by decide)⟩

theorem chunking_bytewise_quotes_example :
    UserObservable (input exCtx exStream) = UserObservable ((exStream.map fun b => [b]).foldl input exCtx) ∧
    Observable (input exCtx exStream) = Observable ((exStream.map fun b => [b]).foldl input exCtx) := by
  have hq : QuotesLineLocal (exCtx.buf.take exCtx.position ++ [exStream].flatten) := by decide +kernel
  exact ⟨chunking_bytewise_quotes exCtx quotes_example.1 [exStream] (by decide) (by decide) (by unfold Fits; decide) hq,
    chunking_bytewise_nocr_quotes exCtx quotes_example.1 [exStream] (by decide) (by decide) (by unfold Fits; decide) hq (by unfold NoCR; decide)⟩

/-- `scan_prefix_stable_quotes` on `TXT "a;b",'c'<LF>` followed by the start of a next line that ends inside a string -/
theorem scan_prefix_stable_quotes_example :
    Lemmas.Chunking.scan (exStream ++ [84, 88, 84, 32, 34, 97]) = some 14 :=
  scan_prefix_stable_quotes exStream [84, 88, 84, 32, 34, 97] 14 (by decide +kernel) (by decide) quotes_example.2.2.2.2.2.1

/-- the stream of `chunking_counterexample`, `TXT "a<LF>b"<LF>`, does not satisfy the hypothesis: the string
`"a<LF>b"` follows a blank and contains a line feed -/
theorem counterexample_not_quotesLineLocal : ¬ QuotesLineLocal [84, 88, 84, 32, 34, 97, 10, 98, 34, 10] := by
  decide +kernel

/-- and the hypothesis cannot be replaced by a pairing of the quotes line by line: in `A"B "x<LF>y" "<LF>` every
line has an even number of quotes, yet fed whole the scan takes `"x<LF>y"` for a string and finds one message of
12 bytes, and cut after the first line it finds the message `A"B "x<LF>` — the predicate rejects this stream -/
theorem pairing_is_not_enough :
    let s : Bytes := [65, 34, 66, 32, 34, 120, 10, 121, 34, 32, 34, 10]
    Lemmas.Chunking.scan s = some 12 ∧ Lemmas.Chunking.scan (s.take 7) = some 7 ∧ ¬ QuotesLineLocal s := by
  intro s
  exact ⟨by decide +kernel, by decide +kernel, by decide +kernel⟩

/-- second difference, benign: `A 1<CR><LF>` fed whole is one message ending in CR LF; cut between CR
and LF, the CR ends the message and the LF is parsed as an empty message of its own.  The handler
runs once with the same parameter in both cases; only the `parseMsg` events differ. -/
theorem chunking_crlf_difference :
    let cmds : List Cmd := [⟨[65], 2, [.pInt 32 true false]⟩]                           -- pattern "A", reads one optional int
    let c := Ctx.init cmds [] 64 4 true
    let s : Bytes := [65, 32, 49, 13, 10]                                               -- A 1\r\n
    (input c s).events =
      [.parseMsg [65, 32, 49, 13, 10], .handler 2 [65], .pInt true 1, .input true] ∧
    (input (input c (s.take 4)) (s.drop 4)).events =
      [.parseMsg [65, 32, 49, 13], .handler 2 [65], .pInt true 1, .input true, .parseMsg [10], .input true] := by
  intro cmds c s
  decide +kernel +zetaReduce

end ScpiVerif.Props.C08
