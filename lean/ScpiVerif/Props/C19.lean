/-
C19 — Numeric and channel lists decode entry by entry exactly as written.  Each general theorem restates one of
ScpiVerif/Lemmas/ExprList.lean or ExprListDouble.lean, where the proofs are (the two counterexamples are evaluated
here).  `tokText`, `litInt32`, `noInnerWs` (and `C04.literalAt`) are the property's own definitions; the lemma modules
have copies under the same names, and the two sides are identified by unfolding when a lemma is applied.
`Expr.numericListEntry` / `Expr.channelListEntry` model SCPI_ExprNumericListEntry / SCPI_ExprChannelListEntry on the
text between the parentheses; `Spec.ExprList` is the list grammar.

Double-valued variant (SCPI_ExprNumericListEntryDouble): `Expr.tokDoubleText` is the text SCPI_ParamToDouble hands to
strtod for a token of the list.  `numeric_entry_double` says it is the written number whenever that number has no inner
white space; C04's known finding (`C04.conversion_counterexample`, clause C04.whitespace_in_literal of
known_findings.json) applies to list entries exactly as it does to parameters (`numeric_entry_double_counterexample`).
That strtod delivers the correctly rounded value of the text is trusted and compared bit-exactly (as in C04).
-/
import ScpiVerif.Model.Expr
import ScpiVerif.Spec.ExprList
import ScpiVerif.Lemmas.ExprList
import ScpiVerif.Lemmas.ExprListDouble
import ScpiVerif.Spec.Float
import ScpiVerif.Props.C04

namespace ScpiVerif.Props.C19
open ScpiVerif ScpiVerif.Lexer ScpiVerif.Spec.ExprList
-- `NumEntry` / `ChanEntry` below are the grammar's (Spec.ExprList); the model's result records of the same name stay qualified
open ScpiVerif.Expr hiding NumEntry ChanEntry

def tokText (body : Bytes) (t : Token) : Bytes := (body.drop t.ptr).take t.len.toNat

def litInt32 (t : Bytes) : Int := (Prim.strtolTo 32 t 0 10).2

/-- Full statement (numeric lists): for every well-formed list and every index, entry i is reported OK
with exactly the written number or range, and NO_MORE at or beyond the number of entries; no error is queued -/
theorem numeric_entry (body : Bytes) (l : List NumEntry) (h : parseNumList body = some l) (i : Nat) :
    let r := numericListEntry body i
    match l[i]? with
    | some e =>
      r.res = .ok ∧ r.isRange = some e.to_.isSome ∧ tokText body r.from_ = e.from_ ∧ tokInt32 body r.from_ = litInt32 e.from_ ∧
      (∀ t, e.to_ = some t → tokText body r.to_ = t ∧ tokInt32 body r.to_ = litInt32 t) ∧ r.pushed = []
    | none => r.res = .noMore ∧ r.pushed = [] :=
  Lemmas.ExprList.numeric_entry body l h i

/-- Full statement (channel lists): entry i is reported OK with its dimension count and its values as
written (as many as the caller's capacity allows), NO_MORE at or beyond the number of entries -/
theorem channel_entry (body : Bytes) (l : List ChanEntry) (h : parseChanList body = some l) (i cap : Nat) :
    let r := channelListEntry body i cap
    match l[i]? with
    | some e =>
      r.res = .ok ∧ r.isRange = some e.to_.isSome ∧ r.dims = some e.from_.length ∧
      r.from_ = (e.from_.take cap).map litInt32 ∧ (∀ t, e.to_ = some t → r.to_ = (t.take cap).map litInt32) ∧ r.pushed = []
    | none => r.res = .noMore ∧ r.pushed = [] :=
  Lemmas.ExprList.channel_entry body l h i cap

/-- for ANY expression content: values are never stored beyond the capacity the caller announced -/
theorem stores_bounded (body : Bytes) (i cap : Nat) :
    (channelListEntry body i cap).from_.length ≤ cap ∧ (channelListEntry body i cap).to_.length ≤ cap :=
  Lemmas.ExprList.stores_bounded body i cap

/-- for ANY expression content: a numeric entry is reported OK only if it and all entries before it are well formed -/
theorem numeric_ok_implies_prefix_wf (body : Bytes) (i : Nat) (h : (numericListEntry body i).res = .ok) :
    ∃ e, (numPrefix (body.length + 1) body [])[i]? = some e ∧ tokText body (numericListEntry body i).from_ = e.from_ :=
  Lemmas.ExprList.numeric_ok_implies_prefix_wf body i h

/-- for ANY expression content: ERROR from a channel list queues exactly one -170, OK and NO_MORE queue nothing -/
theorem channel_error_pushes (body : Bytes) (i cap : Nat) :
    let r := channelListEntry body i cap
    (r.res = .error → r.pushed = [-170]) ∧ (r.res ≠ .error → r.pushed = []) :=
  Lemmas.ExprList.channel_error_pushes body i cap

/-- a malformed channel list is never answered with a silent NO_MORE: for content that is not a well-formed channel
list, every index gets OK (an entry of the well-formed prefix) or ERROR — and ERROR comes with -170 (channel_error_pushes) -/
theorem channel_malformed_never_no_more (body : Bytes) (i cap : Nat) (h : parseChanList body = none) :
    (channelListEntry body i cap).res ≠ .noMore :=
  Lemmas.ExprList.channel_malformed_never_no_more body i cap h

/-- the NO_MORE clause made exact, for ANY expression content: NO_MORE is returned precisely when the content is a
well-formed channel list and the index is at or beyond its number of entries (`channel_entry` is the ← direction) -/
theorem channel_no_more_iff (body : Bytes) (i cap : Nat) :
    (channelListEntry body i cap).res = .noMore ↔ ∃ l, parseChanList body = some l ∧ l.length ≤ i :=
  Lemmas.ExprList.channel_no_more_iff body i cap

/-- no blank (32) or tab (9) inside the number: the hypothesis under which strtod converts all of it -/
def noInnerWs (t : Bytes) : Bool := t.all (fun b => b != 32 && b != 9)

/-- Full statement for the values of SCPI_ExprNumericListEntryDouble: for every well-formed numeric list and every entry i
of it, at the position of each returned token the token specification delimits exactly the written number
(`C04.literalAt`), that number has a value in the sense of Spec/Float.lean (the correctly rounded double of which the
judge compares with), and - if the number contains no inner white space - the text handed to strtod is exactly the
written number.  Nothing else is assumed: the hexadecimal-constant side condition of `C04.conversion_sees_literal_partial`
(a literal "0" must not be followed by x / X) is discharged, because a well-formed list has no such byte
(`numeric_list_bytes`).  Leading white space plays no role: the walker does not skip any, the token starts at the first
byte of the number, and that byte is a sign, a digit or the point (`numeric_entry_starts_with_number`). -/
theorem numeric_entry_double (body : Bytes) (l : List NumEntry) (h : parseNumList body = some l) (i : Nat)
    (e : NumEntry) (he : l[i]? = some e) :
    let r := numericListEntry body i
    (C04.literalAt (body.drop r.from_.ptr) = some e.from_ ∧ (Spec.Float.litValue e.from_).isSome = true ∧
      (noInnerWs e.from_ = true → tokDoubleText body r.from_ = e.from_)) ∧
    (∀ t, e.to_ = some t →
      C04.literalAt (body.drop r.to_.ptr) = some t ∧ (Spec.Float.litValue t).isSome = true ∧
      (noInnerWs t = true → tokDoubleText body r.to_ = t)) :=
  Lemmas.ExprListDouble.numeric_entry_double body l h i e he

/-- the white-space hypothesis cannot be dropped: "1 e2" is a well-formed list of one number (value 100), entry 0 is reported
OK with the whole text as token, but the text handed to strtod is "1" (value 1) - C04's known finding inside a list -/
theorem numeric_entry_double_counterexample :
    parseNumList [49, 32, 101, 50] = some [⟨[49, 32, 101, 50], none⟩] ∧
    (numericListEntry [49, 32, 101, 50] 0).res = .ok ∧
    tokText [49, 32, 101, 50] (numericListEntry [49, 32, 101, 50] 0).from_ = [49, 32, 101, 50] ∧
    noInnerWs [49, 32, 101, 50] = false ∧
    tokDoubleText [49, 32, 101, 50] (numericListEntry [49, 32, 101, 50] 0).from_ = [49] ∧
    Spec.Float.litValue [49, 32, 101, 50] = some (false, 100, 1) ∧ Spec.Float.litValue [49] = some (false, 1, 1) := by
  decide +kernel

/-- well-formedness of the WHOLE list cannot be weakened to "entry i was reported OK" (`numeric_ok_implies_prefix_wf`): for
the content "0x1" (not a list) entry 0 is reported OK with the token "0" - the walker does not look beyond entry i -, the
integer variant delivers 0, but strtod is handed "0x1", a hexadecimal floating constant (value 1).  So the hexadecimal
side condition of C04, unobservable for parameters (the suffix is always rejected), is observable through
SCPI_ExprNumericListEntryDouble on malformed content; asking for entry 1 of the same content gives ERROR. -/
theorem numeric_entry_double_malformed_hexfloat :
    parseNumList [48, 120, 49] = none ∧ (numericListEntry [48, 120, 49] 0).res = .ok ∧
    tokText [48, 120, 49] (numericListEntry [48, 120, 49] 0).from_ = [48] ∧
    tokInt32 [48, 120, 49] (numericListEntry [48, 120, 49] 0).from_ = 0 ∧
    tokDoubleText [48, 120, 49] (numericListEntry [48, 120, 49] 0).from_ = [48, 120, 49] ∧
    (numericListEntry [48, 120, 49] 1).res = .error := by
  decide +kernel

/-- every byte of a well-formed numeric list is a sign, a digit, the point, e / E, blank / tab, ',' or ':' - in particular
never 'x' / 'X', so strtod cannot take a number of the list for a hexadecimal floating constant -/
theorem numeric_list_bytes (body : Bytes) (l : List NumEntry) (h : parseNumList body = some l) :
    ∀ b ∈ body, (isPlusMn b || isDigit b || b == 46 || isWs b || isE b || b == 44 || b == 58) = true :=
  fun b hb => Lemmas.ExprListDouble.numList_chars _ body l ((Lemmas.ExprList.numList_eq _ _ _).symm.trans h) b hb

/-- every number of a well-formed list starts with a sign, a digit or the point (never with white space, which strtod
would skip): the converted text starts where the written number starts -/
theorem numeric_entry_starts_with_number (body : Bytes) (l : List NumEntry) (h : parseNumList body = some l) (i : Nat)
    (e : NumEntry) (he : l[i]? = some e) :
    (∃ b, e.from_.head? = some b ∧ (isPlusMn b || isDigit b || b == 46) = true) ∧
    ∀ t, e.to_ = some t → ∃ b, t.head? = some b ∧ (isPlusMn b || isDigit b || b == 46) = true :=
  Lemmas.ExprListDouble.numeric_entry_head body l h i e he

-- "1,2:5,7" and "@1!2:3!4,5!6"
example : (parseNumList [49,44,50,58,53,44,55]).map (·.length) = some 3 := by decide +kernel
example : (numericListEntry [49,44,50,58,53,44,55] 1).res = .ok := by decide +kernel
example : (channelListEntry [64,49,33,50,58,51,33,52,44,53,33,54] 0 2).from_ = [1, 2] := by decide +kernel
-- malformed: "@1,,2" (index 0 is the OK prefix entry, index 1 and beyond are ERROR), "@1!2:3" (dimension mismatch), "1,2" (no '@')
example : parseChanList [64,49,44,44,50] = none ∧ (channelListEntry [64,49,44,44,50] 0 2).res = .ok ∧
    (channelListEntry [64,49,44,44,50] 1 2).res = .error ∧ (channelListEntry [64,49,44,44,50] 3 2).res = .error := by decide +kernel
example : parseChanList [64,49,33,50,58,51] = none ∧ (channelListEntry [64,49,33,50,58,51] 0 2).res = .error := by decide +kernel
example : parseChanList [49,44,50] = none ∧ (channelListEntry [49,44,50] 0 2).res = .error := by decide +kernel

-- the double variant on "1.5,2e3:4": entry 0 hands "1.5" to strtod, entry 1 "2e3" and "4"; the hypotheses of numeric_entry_double hold
example : (parseNumList [49,46,53,44,50,101,51,58,52]).map (·.map (fun e => (e.from_, e.to_))) =
    some [([49,46,53], none), ([50,101,51], some [52])] := by decide +kernel
example : tokDoubleText [49,46,53,44,50,101,51,58,52] (numericListEntry [49,46,53,44,50,101,51,58,52] 0).from_ = [49,46,53] ∧
    tokDoubleText [49,46,53,44,50,101,51,58,52] (numericListEntry [49,46,53,44,50,101,51,58,52] 1).from_ = [50,101,51] ∧
    tokDoubleText [49,46,53,44,50,101,51,58,52] (numericListEntry [49,46,53,44,50,101,51,58,52] 1).to_ = [52] ∧
    noInnerWs [49,46,53] = true ∧ noInnerWs [50,101,51] = true ∧ noInnerWs [52] = true ∧
    Spec.Float.litValue [50,101,51] = some (false, 2000, 1) := by decide +kernel
-- leading white space is neither part of a token nor skipped: " 1" is not a well-formed list and the walker finds no entry
example : parseNumList [32,49] = none ∧ (numericListEntry [32,49] 0).res = .noMore := by decide +kernel

end ScpiVerif.Props.C19
