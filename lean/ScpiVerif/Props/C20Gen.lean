/-
C20, generated tie: the Lean text translated from the string heap of libscpi/src/utils.c on every run (Gen/HeapC.lean,
configuration B: -DUSE_MEMORY_ALLOCATION_FREE=0) refines the hand-written heap model (through Lemmas/HeapC.lean), for ALL
inputs: state, out-parameters, return value and `ub = false` of scpiheap_init, scpiheap_strndup, scpiheap_get_parts,
scpiheap_free; and the heap invariant `HInv` is carried through the generated scpiheap_free (oldest entry without rollback,
newest entry with rollback: the two ways error.c calls it) and scpiheap_strndup.  The kernel-evaluated equalities on concrete
states are non-vacuity checks.  The theorems stand in the namespace `Props.C20`.  This module is an obligation of C20's check
whenever the translator ACCEPTS the current utils.c.
-/
import ScpiVerif.Model.Heap
import ScpiVerif.Lemmas.Heap
import ScpiVerif.Lemmas.HeapC

namespace ScpiVerif.Props.C20
open ScpiVerif ScpiVerif.Heap
open ScpiVerif.Gen.HeapC ScpiVerif.Lemmas.HeapC

/-- scpiheap_init on a buffer of `n` bytes: the hand model's initial heap whatever the structure and the buffer held before;
the memset stays inside the buffer -/
theorem c_heap_init (c : CHeap) (buf : List UInt8) (n : Nat) (hbuf : buf.length = n) :
    scpiheap_init c buf n = (ofModel (Heap.init n), false) := init_refines c buf n hbuf
theorem c_heap_init_wf (n : Nat) (hn : n < 18446744073709551616) : CWF (ofModel (Heap.init n)) := cwf_init n hn
example : scpiheap_init ⟨7, 9, 2, [1]⟩ [65, 66, 67, 68] 4 = (⟨0, 4, 4, [0, 0, 0, 0]⟩, false) := by decide +kernel
-- a buffer shorter than the declared length: the memset leaves it, the flag says so
example : (scpiheap_init ⟨0, 0, 0, []⟩ [1, 2] 3).2 = true := by decide +kernel

/-- scpiheap_get_parts on a pointer into the heap: lengths, second-part pointer (`heap->data` = offset 0, or NULL) and return
value as in the hand model; nothing is read outside the buffer.  `size_t` subtraction never wraps here (`*len1 - 1` is only
evaluated with `*len1 ≥ 1` because `*s != 0`). -/
theorem c_heap_get_parts (c : CHeap) (s a b : Nat) (p : Option Nat) (hlen : c.data.length = c.size)
    (hsz : c.size < 18446744073709551616) (hs : s < c.size) :
    scpiheap_get_parts (some c) (some s) (some a) (some p) (some b) =
      ((partsResult a p b (getParts (toModel c) s)).1, (partsResult a p b (getParts (toModel c) s)).2.1,
       (partsResult a p b (getParts (toModel c) s)).2.2.1, (partsResult a p b (getParts (toModel c) s)).2.2.2, false) :=
  get_parts_refines c s a b p hlen hsz hs
theorem c_heap_get_parts_null (c : Option CHeap) (s : Option Nat) (a b : Option Nat) (p : Option (Option Nat))
    (h : c = none ∨ s = none ∨ a = none ∨ p = none ∨ b = none) :
    scpiheap_get_parts c s a p b = (a, p, b, false, false) := get_parts_null c s a b p h
-- "CD" wraps: 'C' in the last byte, 'D' at offset 0; "AB" does not
example : scpiheap_get_parts (some ⟨2, 1, 6, [68, 0, 0, 65, 66, 67]⟩) (some 5) (some 9) (some none) (some 9) =
    (some 1, some (some 0), some 1, true, false) := by decide +kernel
example : scpiheap_get_parts (some ⟨2, 1, 6, [68, 0, 0, 65, 66, 0]⟩) (some 3) (some 9) (some (some 4)) (some 9) =
    (some 2, some none, some 0, true, false) := by decide +kernel
example : scpiheap_get_parts (some ⟨2, 1, 6, [68, 0, 0, 65, 66, 0]⟩) (some 1) (some 9) (some (some 4)) (some 7) =
    (some 9, some (some 4), some 7, false, false) := by decide +kernel

/-- scpiheap_free on a pointer to a stored text (hypotheses of the hand model's `free_eq`, plus: the bytes being released were
counted as used): the hand model's state, nothing written outside the buffer, no `size_t` operation wraps except the pair
`wr += size; wr -= rb` whose final value is exact -/
theorem c_heap_free (c : CHeap) (s : Nat) (t : Bytes) (rb : Bool) (hlen : c.data.length = c.size)
    (hsz : c.size < 18446744073709551616) (hs : s < c.size) (hfit : t.length + 1 ≤ c.size) (hg : Lemmas.Heap.Good t)
    (hh : Lemmas.Heap.Holds (toModel c) s t) (hcnt : c.count + (t.length + 1) ≤ c.size) (hwr : c.wr < c.size) :
    scpiheap_free c (some s) rb = (ofModel (free (toModel c) (some s) rb), false) :=
  free_refines c s t rb hlen hsz hs hfit hg hh hcnt hwr
theorem c_heap_free_null (c : CHeap) (rb : Bool) : scpiheap_free c none rb = (ofModel (free (toModel c) none rb), false) :=
  free_null c rb
theorem c_heap_free_at_nul (c : CHeap) (s : Nat) (rb : Bool) (hlen : c.data.length = c.size)
    (hsz : c.size < 18446744073709551616) (hs : s < c.size) (h0 : c.data.getD s 0 = 0) :
    scpiheap_free c (some s) rb = (ofModel (free (toModel c) (some s) rb), false) := free_at_nul c s rb hlen hsz hs h0

/-- the heap invariant of the hand model, transferred: releasing the OLDEST text through the generated scpiheap_free (as
SCPI_ErrorPop / SCPI_ErrorClear do) keeps `HInv` for the remaining texts -/
theorem c_heap_free_oldest (c : CHeap) (st : Nat) (t : Bytes) (ts : List Bytes) (hsz : c.size < 18446744073709551616)
    (hi : Lemmas.Heap.HInv (toModel c) st (t :: ts)) :
    (scpiheap_free c (some st) false).2 = false ∧
    ∃ st', Lemmas.Heap.HInv (toModel (scpiheap_free c (some st) false).1) st' ts := by
  have hst : st < c.size := by have := hi.st_lt; have := hi.cnt; simp [Lemmas.Heap.enc] at this; rw [toModel_size] at *; omega
  have hf := free_of_hinv c st [] ts t false hsz hi
  simp only [Lemmas.Heap.enc, List.length_nil, Nat.add_zero, Nat.mod_eq_of_lt hst] at hf
  rw [hf]
  obtain ⟨st', h1, _, _⟩ := Lemmas.Heap.hinv_free_oldest hi
  exact ⟨rfl, st', hinv_ofModel h1⟩

/-- releasing the NEWEST text with rollback (the overflow path of SCPI_ErrorPushEx) keeps `HInv` for the texts before it -/
theorem c_heap_free_newest (c : CHeap) (st : Nat) (t : Bytes) (ts : List Bytes) (hsz : c.size < 18446744073709551616)
    (hi : Lemmas.Heap.HInv (toModel c) st (ts ++ [t])) :
    (scpiheap_free c (some ((st + (Lemmas.Heap.enc ts).length) % c.size)) true).2 = false ∧
    ∃ st', Lemmas.Heap.HInv (toModel (scpiheap_free c (some ((st + (Lemmas.Heap.enc ts).length) % c.size)) true).1) st' ts := by
  rw [free_of_hinv c st ts [] t true hsz hi]
  obtain ⟨st', h1, _, _⟩ := Lemmas.Heap.hinv_free_newest hi
  exact ⟨rfl, st', hinv_ofModel h1⟩

-- free of the wrapped text "CD" at offset 5 of a full 6-byte heap, with rollback (it is the newest: wr = 2 goes back to 5),
-- and without rollback; free of the only text empties the heap and rewinds wr
example : scpiheap_free ⟨2, 0, 6, [68, 0, 65, 66, 0, 67]⟩ (some 5) true = (⟨5, 3, 6, [0, 0, 65, 66, 0, 0]⟩, false) := by decide +kernel
example : scpiheap_free ⟨2, 0, 6, [68, 0, 65, 66, 0, 67]⟩ (some 5) false = (⟨2, 3, 6, [0, 0, 65, 66, 0, 0]⟩, false) := by decide +kernel
example : scpiheap_free ⟨4, 3, 6, [0, 65, 66, 0, 0, 0]⟩ (some 1) false = (⟨0, 6, 6, [0, 0, 0, 0, 0, 0]⟩, false) := by decide +kernel
example : scpiheap_free ⟨2, 0, 6, [68, 0, 65, 66, 0, 67]⟩ (some 5) true =
    (ofModel (free (toModel ⟨2, 0, 6, [68, 0, 65, 66, 0, 67]⟩) (some 5) true), false) := by decide +kernel

/-- scpiheap_strndup on a well-formed heap (`CWF`) and a source that is NUL-terminated within `n` bytes or has at least `n + 1`
readable bytes (`SrcOK`; the memcpy reads `strnlen(s, n) + 1` bytes): new state (`wr`, `count`, `size`, every byte of the
buffer) and returned pointer as in the hand model - the four refusals, the copy in one piece, the copy in two pieces around
the end of the buffer and the copy that ends exactly at the end; no `size_t` operation wraps; nothing is read outside the source
or written outside the buffer -/
theorem c_heap_strndup (c : CHeap) (src : Bytes) (n : Nat) (hc : CWF c) (hs : SrcOK src n) :
    scpiheap_strndup (some c) (some src) n =
      (some (ofModel (strndup (toModel c) src n).1), (strndup (toModel c) src n).2, false) :=
  strndup_refines c src n hc hs

/-- NULL source, NULL heap, heap of size 0: NULL, nothing touched; and whenever the hand model refuses (write position
occupied, empty text, text longer than the free space) the generated function returns NULL and the same heap -/
theorem c_heap_strndup_refused :
    (∀ (c : Option CHeap) (n : Nat), scpiheap_strndup c none n = (c, none, false)) ∧
    (∀ (s : Option (List UInt8)) (n : Nat), scpiheap_strndup none s n = (none, none, false)) ∧
    (∀ (c : CHeap) (src : Bytes) (n : Nat), c.size = 0 → scpiheap_strndup (some c) (some src) n = (some c, none, false)) ∧
    (∀ (c : CHeap) (src : Bytes) (n : Nat), CWF c → SrcOK src n → strndup (toModel c) src n = (toModel c, none) →
      scpiheap_strndup (some c) (some src) n = (some c, none, false)) :=
  ⟨strndup_null_src, strndup_null_heap, strndup_size_zero, fun c src n hc hs hm => by
    rw [strndup_refines c src n hc hs, hm]; rfl⟩

/-- the heap invariant of the hand model, transferred through the GENERATED scpiheap_strndup (the call of SCPI_ErrorPushEx):
either NULL and the heap unchanged, or the returned pointer is the invariant's write position and `HInv` holds with the
stored text `(cstr src).take n` appended -/
theorem c_heap_strndup_inv (c : CHeap) (st : Nat) (ts : List Bytes) (src : Bytes) (n : Nat)
    (hsz : c.size < 18446744073709551616) (hi : Lemmas.Heap.HInv (toModel c) st ts) (hs : SrcOK src n) (hn : 1 ≤ n) :
    (scpiheap_strndup (some c) (some src) n).2.2 = false ∧
    (scpiheap_strndup (some c) (some src) n = (some c, none, false) ∨
     ∃ c', scpiheap_strndup (some c) (some src) n = (some c', some ((st + (Lemmas.Heap.enc ts).length) % c.size), false) ∧
       c'.size = c.size ∧ Lemmas.Heap.HInv (toModel c') st (ts ++ [(cstr src).take n])) := by
  rw [strndup_refines c src n (cwf_of_hinv hsz hi) hs]
  refine ⟨rfl, ?_⟩
  rcases Lemmas.Heap.hinv_strndup hi src n hn with hm | ⟨h', hm, _, hsize, hi'⟩
  · left; rw [hm]; rfl
  · right
    exact ⟨ofModel h', by rw [hm]; rfl, hsize, hinv_ofModel hi'⟩

/-- a text stored by the GENERATED scpiheap_strndup is read back unmodified: under the heap invariant, when the call returns a
pointer, the text that pointer denotes (what the generated scpiheap_get_parts delimits, `c_heap_get_parts`, and
SCPI_ResultError emits) is exactly `(cstr src).take n` -/
theorem c_heap_strndup_readable (c : CHeap) (st : Nat) (ts : List Bytes) (src : Bytes) (n : Nat)
    (hsz : c.size < 18446744073709551616) (hi : Lemmas.Heap.HInv (toModel c) st ts) (hs : SrcOK src n) (hn : 1 ≤ n)
    (c' : CHeap) (p : Nat) (h : scpiheap_strndup (some c) (some src) n = (some c', some p, false)) :
    textAt (toModel c') p = some ((cstr src).take n) := by
  obtain ⟨_, hr⟩ := c_heap_strndup_inv c st ts src n hsz hi hs hn
  rcases hr with hr | ⟨c'', hr, hsize, hi'⟩
  · rw [h] at hr; simp at hr
  · rw [h] at hr
    simp only [Prod.mk.injEq, Option.some.injEq, and_true] at hr
    obtain ⟨rfl, rfl⟩ := hr
    obtain ⟨hh, hoff, hfit, hg⟩ := Lemmas.Heap.hinv_holds (ts1 := ts) (ts2 := []) hi'
    rw [toModel_size, hsize] at hh hoff
    exact (Lemmas.Heap.getParts_of_holds (toModel c') _ _ hi'.len (by rw [toModel_size, hsize]; exact hoff) hfit hg hh).2

/-- `fits_means_stored` at the level of the generated heap functions: a non-empty NUL-free text shorter than an EMPTY heap
(the state scpiheap_init leaves, `c_heap_init`) is stored by the generated scpiheap_strndup at offset 0 and read back
unmodified -/
theorem c_heap_fits_means_stored (N : Nat) (hN : N < 18446744073709551616) (s : Bytes) (hs : s.all (· ≠ 0) = true)
    (hne : s ≠ []) (hfit : s.length < N) (n : Nat) (hn : s.length ≤ n) :
    ∃ c', scpiheap_strndup (some (ofModel (Heap.init N))) (some (s ++ [0])) n = (some c', some 0, false) ∧
      textAt (toModel c') 0 = some s := by
  have hnz : ∀ b ∈ s, b ≠ 0 := by simpa using hs
  have hcs : cstr (s ++ [0]) = s := Lemmas.Heap.takeWhile_text s [] hnz
  have hT : (cstr (s ++ [0])).take n = s := by rw [hcs]; exact List.take_of_length_le hn
  have hpos : 0 < s.length := List.length_pos_iff.mpr hne
  have hso : SrcOK (s ++ [0]) n := ⟨by simp; omega, by rw [hT]; simp⟩
  have hi := hinv_ofModel (Lemmas.Heap.hinv_init N)
  have hsz : (ofModel (Heap.init N)).size < 18446744073709551616 := hN
  obtain ⟨h', hm⟩ := Lemmas.Heap.strndup_init N (s ++ [0]) n (by rw [hcs]; exact hne) (by rw [hT]; exact hfit)
  have hg := c_heap_strndup (ofModel (Heap.init N)) (s ++ [0]) n (c_heap_init_wf N hN) hso
  rw [toModel_ofModel _ rfl, hm] at hg
  refine ⟨ofModel h', hg, ?_⟩
  have := c_heap_strndup_readable (ofModel (Heap.init N)) 0 [] (s ++ [0]) n hsz hi hso (by omega) (ofModel h') 0 hg
  rw [hT] at this; exact this
-- "AB" into an empty 6-byte heap: stored at offset 0, and what get_parts delimits there is "AB"
example : scpiheap_strndup (some (ofModel (Heap.init 6))) (some [65, 66, 0]) 255 =
    (some ⟨3, 3, 6, [65, 66, 0, 0, 0, 0]⟩, some 0, false) := by decide +kernel
example : textAt (toModel ⟨3, 3, 6, [65, 66, 0, 0, 0, 0]⟩) 0 = some [65, 66] := by decide +kernel

/-- the refinement statement as a decidable check on one input (non-vacuity of `c_heap_strndup` on concrete states) -/
def strndupAgrees (c : CHeap) (src : List UInt8) (n : Nat) : Bool :=
  decide (scpiheap_strndup (some c) (some src) n =
    (some (ofModel (strndup (toModel c) src n).1), (strndup (toModel c) src n).2, false))

-- a text that wraps around the end of the buffer ("ABCD" at offset 4 of 6: 'A','B' at the end, 'C','D',NUL at the start)
example : scpiheap_strndup (some ⟨4, 5, 6, [0, 0, 0, 88, 0, 0]⟩) (some [65, 66, 67, 68, 0]) 255 =
    (some ⟨3, 0, 6, [67, 68, 0, 88, 65, 66]⟩, some 4, false) := by decide +kernel
example : strndupAgrees ⟨4, 5, 6, [0, 0, 0, 88, 0, 0]⟩ [65, 66, 67, 68, 0] 255 = true := by decide +kernel
-- exact fit to the end of the buffer: the NUL lands in the last byte, wr wraps to 0 (`len >= rem` with equality)
example : scpiheap_strndup (some ⟨3, 6, 6, [0, 0, 0, 0, 0, 0]⟩) (some [65, 66, 0]) 255 =
    (some ⟨0, 3, 6, [0, 0, 0, 65, 66, 0]⟩, some 3, false) := by decide +kernel
example : strndupAgrees ⟨3, 6, 6, [0, 0, 0, 0, 0, 0]⟩ [65, 66, 0] 255 = true := by decide +kernel
-- truncation by n (the byte after the copied text is not NUL in the source: the forced NUL replaces it), plain case
example : scpiheap_strndup (some ⟨1, 5, 6, [88, 0, 0, 0, 0, 0]⟩) (some [65, 66, 67, 68, 0]) 2 =
    (some ⟨4, 2, 6, [88, 65, 66, 0, 0, 0]⟩, some 1, false) := by decide +kernel
example : strndupAgrees ⟨1, 5, 6, [88, 0, 0, 0, 0, 0]⟩ [65, 66, 67, 68, 0] 2 = true := by decide +kernel
-- too long for the free space, write position occupied, empty text, NULL arguments, heap of size 0: NULL, heap untouched
example : strndupAgrees ⟨1, 2, 6, [88, 0, 0, 0, 89, 90]⟩ [65, 66, 67, 0] 255 = true := by decide +kernel
example : (scpiheap_strndup (some ⟨1, 2, 6, [88, 0, 0, 0, 89, 90]⟩) (some [65, 66, 67, 0]) 255).2.1 = none := by decide +kernel
example : strndupAgrees ⟨0, 2, 6, [88, 0, 0, 0, 89, 90]⟩ [65, 0] 255 = true := by decide +kernel
example : strndupAgrees ⟨1, 5, 6, [88, 0, 0, 0, 0, 0]⟩ [0] 255 = true := by decide +kernel
example : strndupAgrees ⟨0, 0, 0, []⟩ [65, 0] 255 = true := by decide +kernel
example : scpiheap_strndup none (some [65, 0]) 255 = (none, none, false) := by decide +kernel
example : scpiheap_strndup (some ⟨1, 5, 6, [88, 0, 0, 0, 0, 0]⟩) none 255 = (some ⟨1, 5, 6, [88, 0, 0, 0, 0, 0]⟩, none, false) := by decide +kernel
-- a source that is neither NUL-terminated nor longer than n: the C function reads one byte past it (flag set)
example : (scpiheap_strndup (some ⟨1, 5, 6, [88, 0, 0, 0, 0, 0]⟩) (some [65, 66]) 2).2.2 = true := by decide +kernel

end ScpiVerif.Props.C20
