/-
C14, generated tie: the Lean text translated from the integer formatters of libscpi/src/utils.c on every run
(Gen/IntFmtC.lean) computes what the hand-written model Model/IntFmt.lean computes (through Lemmas/IntFmtC.lean), so that the
theorems of Props/C14.lean hold of the C text as it is.  The theorems stand in the namespace `Props.C14`.
A written buffer is its STORE LOG: the list of (index, character) pairs in the order of the stores `str[i] = c`.  `expected r`
is the hand model's result `r` in that vocabulary: the characters at consecutive indices from 0, then the NUL at index `pos`
iff the model says it is stored, the return value `pos`, the flag `ub`.
This module is an obligation of C14's check whenever the translator ACCEPTS the current utils.c; when it refuses a function
the tie degrades to the differential correspondence of the hand model (recorded in the evidence, `generated_tie`).
-/
import ScpiVerif.Props.C14
import ScpiVerif.Lemmas.IntFmtC

namespace ScpiVerif.Props.C14
open ScpiVerif ScpiVerif.IntFmt ScpiVerif.Gen.IntFmtC ScpiVerif.Lemmas.IntFmtC

/-- UInt32ToStrBaseSign as generated from the C text = the hand model instantiated with the generated divisor table -/
theorem c_toStr32_refines (val len : Nat) (base : Int) (sign : Bool) (hv : val < 2 ^ 32) (hl : len < 2 ^ 64) :
    UInt32ToStrBaseSign val len base sign = expected (toStrBaseSign 32 tbl32 val len base sign) :=
  toStr32_refines tbl32 tbl32_ok val len base sign hv hl

theorem c_toStr64_refines (val len : Nat) (base : Int) (sign : Bool) (hv : val < 2 ^ 64) (hl : len < 2 ^ 64) :
    UInt64ToStrBaseSign val len base sign = expected (toStrBaseSign 64 tbl64 val len base sign) :=
  toStr64_refines tbl64 tbl64_ok val len base sign hv hl

example : UInt32ToStrBaseSign 0x80000000 40 10 true = expected (toStrBaseSign 32 tbl32 0x80000000 40 10 true) := by decide +kernel
example : UInt32ToStrBaseSign 255 3 2 false = expected (toStrBaseSign 32 tbl32 255 3 2 false) := by decide +kernel
example : UInt64ToStrBaseSign (2 ^ 64 - 1) 70 16 false = expected (toStrBaseSign 64 tbl64 (2 ^ 64 - 1) 70 16 false) := by decide +kernel

/-! ### C14's statement, for the generated functions

The stores are exactly the leading `len` characters of the canonical text at indices 0, 1, ..., then the NUL directly behind
them iff a byte remains; the return value is the number of characters stored; nothing is undefined (no division by zero, no
digit index outside `digits[]`, no loop out of fuel). -/

theorem c_toStr32_spec (val len : Nat) (base : Int) (sign : Bool) (hv : val < 2 ^ 32) (hl : len < 2 ^ 64) :
    UInt32ToStrBaseSign val len base sign = written (canon 32 val base sign) len :=
  gen32_written val len base sign hv hl

theorem c_toStr64_spec (val len : Nat) (base : Int) (sign : Bool) (hv : val < 2 ^ 64) (hl : len < 2 ^ 64) :
    UInt64ToStrBaseSign val len base sign = written (canon 64 val base sign) len :=
  gen64_written val len base sign hv hl

/-- nothing is stored at or beyond `len` (that each index below the return value is stored once, in order, followed
possibly by the NUL at the return value, is how `written` is defined) -/
theorem c_written_inside (cs : List Char) (len : Nat) : ∀ e ∈ (written cs len).1, e.1 < len := by
  have hlog : ∀ (s : Nat) (l : List Char) (e : Nat × Char), e ∈ logOf s l → s ≤ e.1 ∧ e.1 < s + l.length := by
    intro s l
    induction l generalizing s with
    | nil => simp [logOf]
    | cons c t ih =>
      intro e he
      simp only [logOf, List.mem_cons] at he
      rcases he with rfl | he
      · simp
      · have := ih (s + 1) e he
        simp only [List.length_cons]; omega
  intro e he
  simp only [written, List.mem_append] at he
  rcases he with he | he
  · have := hlog 0 _ e he
    simp only [List.length_take] at this; omega
  · split at he
    · simp only [List.mem_singleton] at he; subst he; assumption
    · simp at he

theorem c_toStr32_inside (val len : Nat) (base : Int) (sign : Bool) (hv : val < 2 ^ 32) (hl : len < 2 ^ 64) :
    (∀ e ∈ (UInt32ToStrBaseSign val len base sign).1, e.1 < len) ∧ (UInt32ToStrBaseSign val len base sign).2.2 = false := by
  rw [c_toStr32_spec val len base sign hv hl]; exact ⟨c_written_inside _ _, rfl⟩

theorem c_toStr64_inside (val len : Nat) (base : Int) (sign : Bool) (hv : val < 2 ^ 64) (hl : len < 2 ^ 64) :
    (∀ e ∈ (UInt64ToStrBaseSign val len base sign).1, e.1 < len) ∧ (UInt64ToStrBaseSign val len base sign).2.2 = false := by
  rw [c_toStr64_spec val len base sign hv hl]; exact ⟨c_written_inside _ _, rfl⟩

example : UInt32ToStrBaseSign 0x80000000 40 10 true = written "-2147483648".toList 40 := by decide +kernel
example : (UInt32ToStrBaseSign 255 3 2 false).1 = [(0, '1'), (1, '1'), (2, '1')] ∧ (UInt32ToStrBaseSign 255 3 2 false).2.1 = 3 := by decide +kernel
example : UInt64ToStrBaseSign (2 ^ 64 - 1) 70 16 false = written "FFFFFFFFFFFFFFFF".toList 70 := by decide +kernel
example : UInt64ToStrBaseSign (2 ^ 63) 5 10 true = ([(0, '-'), (1, '9'), (2, '2'), (3, '2'), (4, '3')], 5, false) := by decide +kernel

/-- two's complement reading of a signed argument: the value the wrapper hands to the unsigned worker -/
theorem c_int32ToStr (val : Int) (len : Nat) (hl : len < 2 ^ 64) :
    SCPI_Int32ToStr val len = written (canon 32 (toU 32 val) 10 true) len := by
  rw [int32ToStr_eq]; exact gen32_written _ len 10 true (toU_lt 32 val) hl

theorem c_uint32ToStrBase (val len : Nat) (base : Int) (hv : val < 2 ^ 32) (hl : len < 2 ^ 64) :
    SCPI_UInt32ToStrBase val len base = written (canon 32 val base false) len := by
  rw [uint32ToStrBase_eq]; exact gen32_written val len base false hv hl

theorem c_int64ToStr (val : Int) (len : Nat) (hl : len < 2 ^ 64) :
    SCPI_Int64ToStr val len = written (canon 64 (toU 64 val) 10 true) len := by
  rw [int64ToStr_eq]; exact gen64_written _ len 10 true (toU_lt 64 val) hl

theorem c_uint64ToStrBase (val len : Nat) (base : Int) (hv : val < 2 ^ 64) (hl : len < 2 ^ 64) :
    SCPI_UInt64ToStrBase val len base = written (canon 64 val base false) len := by
  rw [uint64ToStrBase_eq]; exact gen64_written val len base false hv hl

/-- the canonical text the wrappers write is canonical (C14's `canon_value32` / `canon_value64`) and fits the scratch buffers of
the result writers with its NUL (C14's `scratch_large_enough32` / `scratch_large_enough64`): restated for what the generated
wrappers store -/
theorem c_int32ToStr_canonical (val : Int) : CanonOK 32 (toU 32 val) 10 true ∧ (canon 32 (toU 32 val) 10 true).length < Gen.bufU32 :=
  ⟨canon_value32 _ 10 true (toU_lt 32 val), scratch_large_enough32 _ 10 true (toU_lt 32 val)⟩
theorem c_int64ToStr_canonical (val : Int) : CanonOK 64 (toU 64 val) 10 true ∧ (canon 64 (toU 64 val) 10 true).length < Gen.bufU64 :=
  ⟨canon_value64 _ 10 true (toU_lt 64 val), scratch_large_enough64 _ 10 true (toU_lt 64 val)⟩

example : SCPI_Int32ToStr (-2147483648) 40 = written "-2147483648".toList 40 := by decide +kernel
example : SCPI_Int32ToStr (-1) 2 = ([(0, '-'), (1, '1')], 2, false) := by decide +kernel
example : SCPI_UInt32ToStrBase 255 3 2 = ([(0, '1'), (1, '1'), (2, '1')], 3, false) := by decide +kernel
example : SCPI_Int64ToStr (-9223372036854775808) 21 = written "-9223372036854775808".toList 21 := by decide +kernel
example : SCPI_UInt64ToStrBase (2 ^ 64 - 1) 70 16 = written "FFFFFFFFFFFFFFFF".toList 70 := by decide +kernel
example : SCPI_UInt64ToStrBase 8 0 8 = ([], 0, false) := by decide +kernel

end ScpiVerif.Props.C14
