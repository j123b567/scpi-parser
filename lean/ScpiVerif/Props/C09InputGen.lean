/-
C09, generated tie: `input_noninterference` of Props/C09.lean for the Lean text translated from SCPI_Input of
libscpi/src/parser.c on every run (Gen/InputC.lean), its three library calls instantiated by the hand model's functions;
transferred through `input_spec` (Lemmas/InputC.lean).  This module is an obligation of C09's check whenever the translator
ACCEPTS the current SCPI_Input.
-/
import ScpiVerif.Props.C09
import ScpiVerif.Props.C01InputGen

namespace ScpiVerif.Props.C09InputGen
open ScpiVerif ScpiVerif.Ctx ScpiVerif.Gen.InputC ScpiVerif.Lemmas.InputC ScpiVerif.Props.C09
open ScpiVerif.Lexer (Bytes)

/-- one call of the generated SCPI_Input on two states whose hand-model views are related (same command table, buffer size,
pending input bytes, registers, error queue as an abstract FIFO; everything else arbitrary, parser_state included): the same
observations (new events incl. the return value, new output bytes, new flushes), the results are related again, and in neither
run a CHECK of the generated text fails -/
theorem c_input_noninterference (cc1 cc2 : CC) (h1 : Inv cc1) (h2 : Inv cc2) (h : Rel (toM cc1) (toM cc2)) (data : Bytes)
    (hlen : data.length ≤ 2147483647) :
    let r1 := SCPI_Input detectM parseM pushM cc1 (some data) data.length
    let r2 := SCPI_Input detectM parseM pushM cc2 (some data) data.length
    newObs (toM cc1) (emit (toM r1.1) (.input r1.2)) = newObs (toM cc2) (emit (toM r2.1) (.input r2.2)) ∧
    Rel (toM r1.1) (toM r2.1) ∧ r1.1.ub = false ∧ r2.1.ub = false := by
  have s1 := input_spec cc1 h1 data hlen
  have s2 := input_spec cc2 h2 data hlen
  have hn := Props.C09.input_noninterference (toM cc1) (toM cc2) h data
  rw [s1.eq, s2.eq] at hn
  exact ⟨hn.1, hn.2, s1.inv.ub, s2.inv.ub⟩

/-- from two well-formed hand-model contexts, whatever parser_state holds in either -/
theorem c_input_noninterference_wf (c1 c2 : Ctx) (t1 ht1 t2 ht2 : Int) (h : Rel c1 c2) (ho1 : c1.oob = false) (ho2 : c2.oob = false)
    (hl : c1.bufLen ≤ 2147483647) (data : Bytes) (hlen : data.length ≤ 2147483647) :
    let r1 := SCPI_Input detectM parseM pushM (toC c1 t1 ht1) (some data) data.length
    let r2 := SCPI_Input detectM parseM pushM (toC c2 t2 ht2) (some data) data.length
    newObs c1 (emit (toM r1.1) (.input r1.2)) = newObs c2 (emit (toM r2.1) (.input r2.2)) ∧
    Rel (toM r1.1) (toM r2.1) ∧ r1.1.ub = false ∧ r2.1.ub = false := by
  obtain ⟨_, _, _, hb, hb1, hb2, hp, hp1, _, _, _⟩ := id h
  have w1 : WF c1 := ⟨hb1, hp1, ho1⟩
  have w2 : WF c2 := ⟨hb2, by omega, ho2⟩
  have := c_input_noninterference (toC c1 t1 ht1) (toC c2 t2 ht2) (inv_toC c1 t1 ht1 w1 hl) (inv_toC c2 t2 ht2 w2 (by omega))
    (by rw [toM_toC, toM_toC]; exact h) data hlen
  rw [toM_toC, toM_toC] at this
  exact this

/-- Props/C09.lean `stream_noninterference` for the generated function, called chunk by chunk (`cstep`: the caller appends the
return value to the ghost log): for ANY stream of chunks, two states with related views make the same observations and stay related -/
theorem c_stream_noninterference (cc1 cc2 : CC) (h1 : Inv cc1) (h2 : Inv cc2) (h : Rel (toM cc1) (toM cc2)) (chunks : List Bytes)
    (hl : ∀ d ∈ chunks, d.length ≤ 2147483647) :
    newObs (toM cc1) (toM (chunks.foldl cstep cc1)) = newObs (toM cc2) (toM (chunks.foldl cstep cc2)) ∧
    Rel (toM (chunks.foldl cstep cc1)) (toM (chunks.foldl cstep cc2)) ∧
    (chunks.foldl cstep cc1).ub = false ∧ (chunks.foldl cstep cc2).ub = false := by
  have e1 := C01InputGen.c_inputs_refine cc1 h1 chunks hl
  have e2 := C01InputGen.c_inputs_refine cc2 h2 chunks hl
  have hn := Props.C09.stream_noninterference (toM cc1) (toM cc2) h chunks
  rw [← e1.1, ← e2.1] at hn
  exact ⟨hn.1, hn.2, e1.2.ub, e2.2.ub⟩

-- two contexts with different histories (the second has executed a message and failed another, and holds stale bytes
-- behind the pending "A") but the same pending input: the generated SCPI_Input makes the same observations on "\nA\n"
example :
    let c1 := Ctx.input C01InputGen.ex0 [65]
    let c2 := Ctx.input (Ctx.input (Ctx.input C01InputGen.ex0 [65, 10, 66, 66, 66, 10]) []) [65]
    let r1 := SCPI_Input detectM parseM pushM (toC c1 0 0) (some [10, 65, 10]) 3
    let r2 := SCPI_Input detectM parseM pushM (toC c2 1 26) (some [10, 65, 10]) 3
    c1.buf ≠ c2.buf ∧ c1.position = c2.position ∧
    (newObs c1 (emit (toM r1.1) (.input r1.2))).1 = (newObs c2 (emit (toM r2.1) (.input r2.2))).1 ∧
    (newObs c1 (emit (toM r1.1) (.input r1.2))).1.length = 7 ∧
    r1.2 = r2.2 ∧ (toM r1.1).position = (toM r2.1).position ∧ r1.1.ub = false ∧ r2.1.ub = false := by
  decide +kernel

end ScpiVerif.Props.C09InputGen
