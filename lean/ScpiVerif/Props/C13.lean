/-
C13 — The tokenizer recognises exactly the IEEE 488.2 program-data token syntax.
Property theorems only; helper lemmas in ScpiVerif/Lemmas/Lexer.lean with the modules it imports (one equation `lexX buf pos =
found pos (specToken k (buf.drop pos))` per recogniser), UnitForm.lean (the unit detector), Regex.lean and CharClass.lean.  The
hypothesis `pos ≤ buf.length` of the recogniser theorems carries nothing (the equations hold at every `pos`; only `block_spec`
hands it on): beyond the end of the input the specification finds nothing and the recognisers return nothing.

Spec/Tokens.lean gives each token language as a regular expression (`Matches` is its declarative meaning, `Re.longest` the
executable longest-prefix matcher), the block and the string rule directly; `Spec.Agrees k buf pos r` says that the recogniser
result `r` obtained at `pos` is exactly what the specification of kind `k` prescribes there (longest match or nothing, cursor
inside the input, type / extent / length of what was consumed).
-/
import ScpiVerif.Model.Parser
import ScpiVerif.Spec.Unit
import ScpiVerif.Lemmas.Regex
import ScpiVerif.Lemmas.Lexer
import ScpiVerif.Lemmas.UnitForm
import ScpiVerif.Lemmas.CharClass

namespace ScpiVerif.Props.C13
open ScpiVerif ScpiVerif.Lexer ScpiVerif.Parser ScpiVerif.Spec

/-! ### the executable matcher computes the declarative longest match -/

theorem accepts_iff_matches (r : Re) (s : Bytes) : r.accepts s = true ↔ Matches r s :=
  Lemmas.Regex.accepts_iff_matches r s

theorem longest_is_longest (r : Re) (s : Bytes) (n : Nat) :
    r.longest s = some n ↔ IsLongest (Matches r) s n := Lemmas.Regex.longest_is_longest r s n

theorem longest_none (r : Re) (s : Bytes) :
    r.longest s = none ↔ ∀ m, m ≤ s.length → ¬ Matches r (s.take m) := Lemmas.Regex.longest_none r s

/-! ### every recogniser, at every position of every buffer -/

theorem whiteSpace_spec (buf : Bytes) (pos : Nat) (_ : pos ≤ buf.length) :
    Agrees .ws buf pos (lexWhiteSpace buf pos) := Lemmas.Lexer.whiteSpace_eq buf pos ▸ Lemmas.Lexer.agrees_found buf pos (by decide)
theorem programHeader_spec (buf : Bytes) (pos : Nat) (_ : pos ≤ buf.length) :
    Agrees .header buf pos (lexProgramHeader buf pos) := Lemmas.Lexer.programHeader_eq buf pos ▸ Lemmas.Lexer.agrees_found buf pos (by decide)
theorem characterData_spec (buf : Bytes) (pos : Nat) (_ : pos ≤ buf.length) :
    Agrees .chr buf pos (lexCharacterProgramData buf pos) := Lemmas.Lexer.characterData_eq buf pos ▸ Lemmas.Lexer.agrees_found buf pos (by decide)
theorem decimal_spec (buf : Bytes) (pos : Nat) (_ : pos ≤ buf.length) :
    Agrees .decimal buf pos (lexDecimal buf pos) := Lemmas.Lexer.decimal_eq buf pos ▸ Lemmas.Lexer.agrees_found buf pos (by decide)
theorem suffix_spec (buf : Bytes) (pos : Nat) (_ : pos ≤ buf.length) :
    Agrees .suffix buf pos (lexSuffix buf pos) := Lemmas.Lexer.suffix_eq buf pos ▸ Lemmas.Lexer.agrees_found buf pos (by decide)
theorem nondecimal_spec (buf : Bytes) (pos : Nat) (_ : pos ≤ buf.length) :
    Agrees .nondecimal buf pos (lexNondecimal buf pos) := Lemmas.Lexer.nondecimal_eq buf pos ▸ Lemmas.Lexer.agrees_found buf pos (by decide)
theorem string_spec (buf : Bytes) (pos : Nat) (_ : pos ≤ buf.length) :
    Agrees .string buf pos (lexString buf pos) := Lemmas.Lexer.string_eq buf pos ▸ Lemmas.Lexer.agrees_found buf pos (by decide)
theorem block_spec (buf : Bytes) (pos : Nat) (h : pos ≤ buf.length) :
    Agrees .block buf pos (lexBlock buf pos) := Lemmas.Lexer.block_spec buf pos h
theorem expression_spec (buf : Bytes) (pos : Nat) (_ : pos ≤ buf.length) :
    Agrees .expression buf pos (lexExpression buf pos) := Lemmas.Lexer.expression_eq buf pos ▸ Lemmas.Lexer.agrees_found buf pos (by decide)
theorem comma_spec (buf : Bytes) (pos : Nat) (_ : pos ≤ buf.length) :
    Agrees .comma buf pos (lexComma buf pos) := Lemmas.Lexer.comma_eq buf pos ▸ Lemmas.Lexer.agrees_found buf pos (by decide)
theorem semicolon_spec (buf : Bytes) (pos : Nat) (_ : pos ≤ buf.length) :
    Agrees .semicolon buf pos (lexSemicolon buf pos) := Lemmas.Lexer.semicolon_eq buf pos ▸ Lemmas.Lexer.agrees_found buf pos (by decide)
theorem colon_spec (buf : Bytes) (pos : Nat) (_ : pos ≤ buf.length) :
    Agrees .colon buf pos (lexColon buf pos) := Lemmas.Lexer.colon_eq buf pos ▸ Lemmas.Lexer.agrees_found buf pos (by decide)
theorem newLine_spec (buf : Bytes) (pos : Nat) (_ : pos ≤ buf.length) :
    Agrees .nl buf pos (lexNewLine buf pos) := Lemmas.Lexer.newLine_eq buf pos ▸ Lemmas.Lexer.agrees_found buf pos (by decide)
theorem specific_spec (buf : Bytes) (pos : Nat) (ch : UInt8) (_ : pos ≤ buf.length) :
    Agrees (.specific ch) buf pos (lexSpecific buf pos ch) := Lemmas.Lexer.specific_eq buf pos ch ▸ Lemmas.Lexer.agrees_found buf pos (by simp)

/-- a definite-length block announces at most 999 999 999 bytes: the `int` accumulation in the C
code cannot overflow -/
theorem block_length_bounded (buf : Bytes) (pos : Nat) :
    (lexBlock buf pos).2.1.len ≤ 999999999 := Lemmas.Lexer.block_length_bounded buf pos

/-- one data element with the white space around it -/
theorem programData_spec (buf : Bytes) (pos : Nat) (h : pos ≤ buf.length) :
    let r := parseProgramData buf pos
    let s := buf.drop pos
    let w0 := wsLen s
    match specData (s.drop w0) with
    | .item n t po pl =>
      let w1 := wsLen (s.drop (w0 + n))
      r.1 = pos + w0 + n + w1 ∧ r.2.2 = w0 + n + w1 ∧ r.2.1 = ⟨t, pos + w0 + po, pl⟩ ∧ pos + w0 + n + w1 ≤ buf.length
    | .swallow => r.2.1.type = .unknown ∧ r.1 = buf.length
    | .none => r.2.1.type = .unknown ∧ r.2.1.len = 0 ∧ r.1 = pos + w0 ∧ r.2.2 = w0 :=
  Lemmas.Lexer.programData_spec buf pos h

/-- the unit detector accepts exactly the well-formed units, with the specified extent, terminator,
header and parameter-count flag; it always makes progress on a non-empty input and never leaves it -/
theorem unit_spec (s : Bytes) :
    let u := detectUnit s
    let e := specUnit s
    (u.consumed = e.consumed) ∧
    (u.term.code = match e.term with | .none => 0 | .nl => 1 | .semicolon => 2) ∧
    ((u.header.type = .invalid) ↔ e.wellFormed = false) ∧
    (e.wellFormed = true → u.header.type = e.headerType ∧ u.header.len = e.headerLen ∧ (e.headerLen > 0 → u.header.ptr = e.headerOff) ∧
                           u.nParams = e.nParams) ∧
    u.consumed ≤ s.length ∧ (s ≠ [] → 1 ≤ u.consumed) := by
  -- the `match` above is this module's own copy of the one in `Lemmas.Lexer.unit_spec`: identify them by cases,
  -- not by unfolding both over `(specUnit s).term`
  obtain ⟨h1, h2, h3⟩ := Lemmas.Lexer.unit_spec s
  refine ⟨h1, ?_, h3⟩
  revert h2
  cases (specUnit s).term <;> exact id

/-! ### the character classes are those of the current source

`Gen.cc_*` are regenerated on every run by the translator from the COMPILED predicates of lexer.c (file-static functions,
called with a plain `char` argument for each of the 256 byte values); `inClass t b` reads bit `b` of such a table. -/


/-- every character-class predicate of the lexer model equals, for every byte value, the predicate of the same name in
the current lexer.c (exhaustive, kernel-evaluated on all 256 values of each) -/
theorem character_classes (b : UInt8) :
    Lemmas.CharClass.inClass Gen.cc_isws b = isWs b ∧ Lemmas.CharClass.inClass Gen.cc_isbdigit b = isBDigit b ∧ Lemmas.CharClass.inClass Gen.cc_isqdigit b = isQDigit b ∧
    Lemmas.CharClass.inClass Gen.cc_isplusmn b = isPlusMn b ∧ Lemmas.CharClass.inClass Gen.cc_isE b = isE b ∧
    Lemmas.CharClass.inClass Gen.cc_isH b = (b == 104 || b == 72) ∧ Lemmas.CharClass.inClass Gen.cc_isB b = (b == 98 || b == 66) ∧
    Lemmas.CharClass.inClass Gen.cc_isQ b = (b == 113 || b == 81) ∧ Lemmas.CharClass.inClass Gen.cc_isascii7bit b = isAscii7 b ∧
    Lemmas.CharClass.inClass Gen.cc_isNonzeroDigit b = (isDigit b && b != 48) ∧
    Lemmas.CharClass.inClass Gen.cc_isProgramExpression b = isProgramExpression b :=
  ⟨Lemmas.CharClass.isws b, Lemmas.CharClass.isbdigit b, Lemmas.CharClass.isqdigit b, Lemmas.CharClass.isplusmn b,
   Lemmas.CharClass.isE b, Lemmas.CharClass.isH b, Lemmas.CharClass.isB b, Lemmas.CharClass.isQ b,
   Lemmas.CharClass.isascii7bit b, Lemmas.CharClass.isNonzeroDigit b, Lemmas.CharClass.isProgramExpression b⟩

/-- and the <ctype.h> classes the model assumes are the ones of the C library the harness links ("C" locale) -/
theorem ctype_classes (b : UInt8) :
    Lemmas.CharClass.inClass Gen.cc_isdigit b = isDigit b ∧ Lemmas.CharClass.inClass Gen.cc_isalpha b = isAlpha b ∧ Lemmas.CharClass.inClass Gen.cc_isalnum b = isAlnum b ∧
    Lemmas.CharClass.inClass Gen.cc_isxdigit b = isXDigit b ∧ Lemmas.CharClass.inClass Gen.cc_isupper b = isUpper b ∧ Lemmas.CharClass.inClass Gen.cc_islower b = isLower b ∧
    Lemmas.CharClass.inClass Gen.cc_isspace b = Prim.isSpace b :=
  ⟨Lemmas.CharClass.isdigit b, Lemmas.CharClass.isalpha b, Lemmas.CharClass.isalnum b, Lemmas.CharClass.isxdigit b,
   Lemmas.CharClass.isupper b, Lemmas.CharClass.islower b, Lemmas.CharClass.isspace b⟩

-- non-vacuity (byte lists written out: `decide` cannot reduce `String.toUTF8`)
-- "x-1.5 e+3V"
example : Agrees .decimal [120, 45, 49, 46, 53, 32, 101, 43, 51, 86] 1
      (lexDecimal [120, 45, 49, 46, 53, 32, 101, 43, 51, 86] 1) ∧
    (lexDecimal [120, 45, 49, 46, 53, 32, 101, 43, 51, 86] 1).2.2 = 8 := by decide
-- "\"a\"\"b\"c"
example : (specToken .string [34, 97, 34, 34, 98, 34, 99]).map (·.consumed) = some 6 := by decide
-- "\"\"\""
example : specToken .string [34, 34, 34] = none := by decide
-- "A:b 1,2;"
example : (detectUnit [65, 58, 98, 32, 49, 44, 50, 59]).nParams = 2 := by decide

end ScpiVerif.Props.C13
