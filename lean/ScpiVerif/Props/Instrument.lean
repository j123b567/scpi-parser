/-
Whole-instrument theorems: the command handlers the library ships (libscpi/src/ieee488.c SCPI_Core*,
libscpi/src/minimal.c SCPI_Stub*, SCPI_System*, SCPI_Status*) as part of the context model.  The general lemmas are in
ScpiVerif/Lemmas/Instrument.lean and ScpiVerif/Lemmas/Builtin.lean.

Level of the statements.  `status_invariant` / `coherent_reachable_messages` are about `input` of ARBITRARY bytes over
ARBITRARY tables (scripted handlers and library handlers mixed in any way).  The per-command theorems are stated on
`processCommand` for every context `c` in which the unit loop has matched a table entry `cmd` whose script is the library
handler (`Bound c cmd b`: `c.cur = some cmd`, `cmd.script = [.builtin b]`, no program data left unread), pattern and tag
arbitrary.  This is the interface at which C02 (`dispatch_correct`: which entry runs for which header bytes, for all
tables) and C05 / C04 (what `SCPI_ParamInt32` delivers for which program data) already speak; restating them over
the literal bytes "*ESE 32\n" would re-prove header matching and integer decoding for one spelling each.  The `example`s
below close that gap on concrete contexts: they run `input` on the literal message bytes (kernel evaluation).
`StatusOK r q` (Spec/Instrument.lean) is the invariant of every reachable state.
-/
import ScpiVerif.Model.Ctx
import ScpiVerif.Spec.Instrument
import ScpiVerif.Spec.ErrorString
import ScpiVerif.Lemmas.Instrument
import ScpiVerif.Lemmas.ErrorString
import ScpiVerif.Lemmas.InstrumentData
import ScpiVerif.Spec.Params

namespace ScpiVerif.Props.Instrument
open ScpiVerif ScpiVerif.Ctx ScpiVerif.Lexer ScpiVerif.Result

def demoTable : List Cmd :=
  [⟨bytesOf "*CLS", 1, [.builtin .cls]⟩, ⟨bytesOf "*ESE", 2, [.builtin .ese]⟩, ⟨bytesOf "*ESE?", 3, [.builtin .eseQ]⟩,
   ⟨bytesOf "*ESR?", 4, [.builtin .esrQ]⟩, ⟨bytesOf "*STB?", 5, [.builtin .stbQ]⟩,
   ⟨bytesOf "SYSTem:ERRor[:NEXT]?", 6, [.builtin .errNextQ]⟩, ⟨bytesOf "SYSTem:ERRor:COUNt?", 7, [.builtin .errCountQ]⟩,
   ⟨bytesOf "TEST:ERR", 8, [.ePush (-222) (some (bytesOf "x"))]⟩, ⟨bytesOf "*SRE", 9, [.builtin .sre]⟩,
   ⟨bytesOf "*SRE?", 10, [.builtin .sreQ]⟩, ⟨bytesOf "*OPC", 11, [.builtin .opc]⟩, ⟨bytesOf "*OPC?", 12, [.builtin .opcQ]⟩,
   ⟨bytesOf "*TST?", 13, [.builtin .tstQ]⟩, ⟨bytesOf "*IDN?", 14, [.builtin (.idnQ Builtin.harnessIdn)]⟩,
   ⟨bytesOf "STATus:QUEStionable:ENABle", 15, [.builtin .quesEnab]⟩, ⟨bytesOf "STATus:QUEStionable:ENABle?", 16, [.builtin .quesEnabQ]⟩,
   ⟨bytesOf "STATus:OPERation:ENABle", 17, [.builtin .operEnab]⟩, ⟨bytesOf "STATus:OPERation:ENABle?", 18, [.builtin .operEnabQ]⟩,
   ⟨bytesOf "STATus:OPERation[:EVENt]?", 19, [.builtin .operEvenQ]⟩, ⟨bytesOf "STATus:QUEStionable[:EVENt]?", 20, [.builtin .quesEvenQ]⟩,
   ⟨bytesOf "*RST", 21, [.builtin .rst]⟩]

/-- a fresh instrument: 64-byte input buffer, error queue of 4 entries -/
def demo : Ctx := Ctx.init demoTable [] 64 4 true

def session (msgs : List String) : Ctx := msgs.foldl (fun c m => input c (bytesOf m)) demo

/- The examples about `session` are evaluated by the kernel, after `bytesOf_eq_data` (Lemmas/BytesOf.lean) has been
applied to every `bytesOf "…"`, messages and table patterns: the table is scanned once for every unit. -/
open ScpiVerif.Lemmas.Instrument ScpiVerif.Lemmas.Builtin

/-- `demo` at the moment the unit loop hands entry `cmd` with program data `data` to `processCommand` -/
def demoUnit (cmd : Cmd) (data : Bytes) : Ctx :=
  { demo with buf := data ++ List.replicate (64 - data.length) 10, cur := some cmd, pbase := 0, ppos := 0, plen := data.length }

theorem demo_ok : StatusOK demo.regs demo.eq := statusOK_init demoTable [] 64 4 true (by decide)

/-! ### the invariant of every reachable state (whole-instrument version of C11) -/

/-- one input call — any bytes, any table, scripted and library handlers mixed in any way — keeps the invariant -/
theorem status_invariant (c : Ctx) (data : Bytes) (h : StatusOK c.regs c.eq) :
    StatusOK (input c data).regs (input c data).eq := kc_input statusOK_inv c data h

/-- Full statement: for any command table whose scripts are arbitrary (scripted operations and handlers of the library),
any buffer size, any queue capacity ≥ 1 and any list of messages (indeed any chunks of bytes), the state after `input` of
them all is Coherent: the status byte satisfies the five C11 equivalences — and the registers are well formed and the
error-available bit speaks about the real queue (`QSync`). -/
theorem coherent_reachable_messages (cmds : List Cmd) (choices : List (List (Bytes × Int))) (bufLen cap : Nat)
    (withInfo : Bool) (hcap : 1 ≤ cap) (msgs : List Bytes) :
    let c := msgs.foldl input (Ctx.init cmds choices bufLen cap withInfo)
    Regs.Coherent c.regs ∧ Regs.WF c.regs ∧ QSync c.regs c.eq := by
  have h := statusOK_inputs _ msgs (statusOK_init cmds choices bufLen cap withInfo hcap)
  exact ⟨h.coh, h.wf, h.2.2⟩

/-- every handler of the library preserves the invariant, whatever the context and the parameters it finds -/
theorem builtin_preserves_status (c : Ctx) (b : Builtin) (h : StatusOK c.regs c.eq) :
    StatusOK (runBuiltin c b).1.regs (runBuiltin c b).1.eq := (kc_inv statusOK_inv).runBuiltin b h

example : Regs.Coherent (session ["*ESE 60;*SRE 36\n", "TEST:ERR;TEST:ERR;FOO;TEST:ERR;TEST:ERR\n", "SYST:ERR?\n", "*CLS\n"]).regs := by
  simp only [session, demo, demoTable, bytesOf_eq_data]
  decide +kernel
example : (session ["*ESE 60;*SRE 36\n", "TEST:ERR\n"]).regs.regs.getD Regs.STB 0 = 0x64#16 := by
  simp only [session, demo, demoTable, bytesOf_eq_data]
  decide +kernel

/-- after `*CLS` the event registers ESR, OPER event and QUES event are 0, the error queue is empty, the
error-available bit is clear and the status byte is coherent; every other register but the status byte — in particular
the enables ESE, OPERE, QUESE and SRE — is unchanged; nothing is written -/
theorem cls_message (c : Ctx) (cmd : Cmd) (hb : Bound c cmd .cls) (hs : StatusOK c.regs c.eq) :
    let c' := (processCommand c).1
    Regs.get c'.regs Regs.ESR = 0 ∧ Regs.get c'.regs Regs.OPER = 0 ∧ Regs.get c'.regs Regs.QUES = 0 ∧
    Fifo.EQ.abs c'.eq = [] ∧ c'.eq.count = 0 ∧ c'.regs.qn = 0 ∧
    Regs.Coherent c'.regs ∧ Regs.get c'.regs Regs.STB &&& Regs.bit Gen.STB_QMA = 0 ∧
    (∀ m, m ≠ Regs.STB → m ≠ Regs.ESR → m ≠ Regs.OPER → m ≠ Regs.QUES → Regs.get c'.regs m = Regs.get c.regs m) ∧
    c'.out.written = c.out.written ∧ (processCommand c).2 = true := by
  have hk := statusOK_inv.builtin _ _ .cls hs
  rw [processCommand_pure c cmd .cls hb rfl]
  dsimp only
  have g : ∀ m, m ≠ 0 → Regs.get (bRegs c.regs .cls) m = _ := Lemmas.Regs.get_cls c.regs (Lemmas.Regs.wfLen hs.wf)
  obtain ⟨_, _, a⟩ := Lemmas.Fifo.step_refines c.eq.fifo.size true c.eq (Fifo.EQ.abs c.eq) .clear ⟨hs.inv, rfl, rfl⟩
  have hqn := cls_qn c.regs
  refine ⟨(g _ (by decide)).trans rfl, (g _ (by decide)).trans rfl, (g _ (by decide)).trans rfl, a.2, rfl, hqn,
    hk.coh, ?_, ?_, pcOut_written _, rfl⟩
  · -- the error-available bit: coherent state with an empty queue
    exact Decidable.byContradiction fun hne => hk.coh.qma.1 hne hqn
  · intro m h0 h2 h4 h7
    rw [g m h0, if_neg h7, if_neg h4, if_neg h2]

example : Bound (demoUnit ⟨bytesOf "*CLS", 1, [.builtin .cls]⟩ []) ⟨bytesOf "*CLS", 1, [.builtin .cls]⟩ .cls :=
  ⟨rfl, rfl, by decide⟩
example : let c := session ["*ESE 32\n", "TEST:ERR;TEST:ERR\n", "*CLS\n"]
    Fifo.EQ.abs c.eq = [] ∧ c.regs.regs.getD Regs.ESR 0 = 0 ∧ c.regs.regs.getD Regs.ESE 0 = 32 ∧ c.regs.regs.getD Regs.STB 0 = 0 := by
  simp only [session, demo, demoTable, bytesOf_eq_data]
  decide +kernel

/-- Out of range: EXACTLY what happens is that there is no range check.  Whatever 32-bit value `v` the reader delivers
(65536, -1, whatever the reader's 32-bit conversion makes of a longer literal, …) the handlers cast it to `scpi_reg_val_t`: the register receives the low
16 bits `BitVec.ofInt 16 v`, no error is queued, the unit succeeds.  (IEEE 488.2 10.10 / 10.34 ask for an execution
error when the *ESE / *SRE value is outside 0..255; none of the 20 properties covers this.) -/
theorem enable_out_of_range (c : Ctx) (cmd : Cmd) (b : Builtin) (reg : Nat) (qb : Builtin) (hcur : c.cur = some cmd)
    (hscr : cmd.script = [.builtin b]) (he : enableReg b = some (reg, qb)) (hs : StatusOK c.regs c.eq)
    (cP : Ctx) (v : Int) (hv : paramInt (Lemmas.Instrument.unitStart c cmd) 32 true true = (cP, true, v))
    (hend : ¬ cP.ppos < cP.pbase + cP.plen) :
    let c' := (processCommand c).1
    c'.regs = Regs.regSet c.regs reg (BitVec.ofInt 16 v) ∧ Regs.get c'.regs reg = BitVec.ofInt 16 v ∧
    (∀ m, m ≠ Regs.STB → m ≠ reg → Regs.get c'.regs m = Regs.get c.regs m) ∧
    Regs.Coherent c'.regs ∧ c'.eq = c.eq ∧ c'.out.written = c.out.written ∧ (processCommand c).2 = true := by
  obtain ⟨strict, hp, _, hreg, h0, _⟩ := paramReg_of_enableReg he
  have hcP := paramInt_ok hv
  have f1 : cP.regs = c.regs := by rw [hcP]; rfl
  have f2 : cP.eq = c.eq := by rw [hcP]; rfl
  have f3 : cP.out.written = c.out.written := by rw [hcP]; rfl
  rw [processCommand_enable c cmd b reg strict hcur hscr hp cP v hv hend]
  dsimp only [regStep]
  rw [f1]
  have g := fun m => Lemmas.Regs.get_regSet c.regs reg (BitVec.ofInt 16 v) m (Lemmas.Regs.wfLen hs.wf) hreg
  exact ⟨rfl, (g reg h0).trans (if_pos rfl), fun m hm0 hmr => (g m hm0).trans (if_neg hmr),
    (statusOK_inv.set _ _ reg _ h0 hs).2.1, f2, (pcOut_written _).trans f3, rfl⟩

/-- General form of the four round trips.  `b` is one of the four commands, `reg` its enable register, `qb` its query
(`enableReg b = some (reg, qb)`).  If SCPI_ParamInt32 delivers `n` with 0 ≤ n < 65536 (`hv`: the reader, run on the unit's
program data, succeeds with value n; C04 `integer_exact_signed` and C05 `reader_by_token` say for which data it does) and
no data is left over, then `X n` stores n — all other registers but the status byte unchanged, queue and output
untouched, state coherent, unit succeeds — and in any later state with these registers `X?` answers the decimal text of n. -/
theorem enable_roundtrip (c : Ctx) (cmd : Cmd) (b : Builtin) (reg : Nat) (qb : Builtin) (hcur : c.cur = some cmd)
    (hscr : cmd.script = [.builtin b]) (he : enableReg b = some (reg, qb)) (hs : StatusOK c.regs c.eq)
    (n : Nat) (hn : n < 65536) (cP : Ctx)
    (hv : paramInt (Lemmas.Instrument.unitStart c cmd) 32 true true = (cP, true, (n : Int)))
    (hend : ¬ cP.ppos < cP.pbase + cP.plen) :
    let c' := (processCommand c).1
    Regs.get c'.regs reg = BitVec.ofNat 16 n ∧
    (∀ m, m ≠ Regs.STB → m ≠ reg → Regs.get c'.regs m = Regs.get c.regs m) ∧
    Regs.Coherent c'.regs ∧ c'.eq = c.eq ∧ c'.out.written = c.out.written ∧ (processCommand c).2 = true ∧
    (∀ (d : Ctx) (cmdQ : Cmd), Bound d cmdQ qb → d.regs = c'.regs →
      Answered d (processCommand d).1 (Spec.Message.decimal n)) := by
  obtain ⟨_, w2, w3, w4, w5, w6, w7⟩ := enable_out_of_range c cmd b reg qb hcur hscr he hs cP n hv hend
  obtain ⟨_, _, hqr, _⟩ := paramReg_of_enableReg he
  rw [BitVec.ofInt_natCast] at w2
  refine ⟨w2, w3, w4, w5, w6, w7, ?_⟩
  intro d cmdQ hbd hd
  have := (query_answers d cmdQ qb reg hbd hqr).1
  rwa [hd, w2, BitVec.toNat_ofNat, Nat.mod_eq_of_lt hn] at this

/-- `*ESE n` / `*ESE?` -/
theorem ese_roundtrip (c : Ctx) (cmd : Cmd) (hcur : c.cur = some cmd) (hscr : cmd.script = [.builtin .ese])
    (hs : StatusOK c.regs c.eq) (n : Nat) (hn : n < 65536) (cP : Ctx)
    (hv : paramInt (Lemmas.Instrument.unitStart c cmd) 32 true true = (cP, true, (n : Int)))
    (hend : ¬ cP.ppos < cP.pbase + cP.plen) :
    Regs.get (processCommand c).1.regs Regs.ESE = BitVec.ofNat 16 n ∧
    (∀ (d : Ctx) (cmdQ : Cmd), Bound d cmdQ .eseQ → d.regs = (processCommand c).1.regs →
      Answered d (processCommand d).1 (Spec.Message.decimal n)) :=
  let h := enable_roundtrip c cmd .ese Regs.ESE .eseQ hcur hscr rfl hs n hn cP hv hend
  ⟨h.1, h.2.2.2.2.2.2⟩

/-- `*SRE n` / `*SRE?` -/
theorem sre_roundtrip (c : Ctx) (cmd : Cmd) (hcur : c.cur = some cmd) (hscr : cmd.script = [.builtin .sre])
    (hs : StatusOK c.regs c.eq) (n : Nat) (hn : n < 65536) (cP : Ctx)
    (hv : paramInt (Lemmas.Instrument.unitStart c cmd) 32 true true = (cP, true, (n : Int)))
    (hend : ¬ cP.ppos < cP.pbase + cP.plen) :
    Regs.get (processCommand c).1.regs Regs.SRE = BitVec.ofNat 16 n ∧
    (∀ (d : Ctx) (cmdQ : Cmd), Bound d cmdQ .sreQ → d.regs = (processCommand c).1.regs →
      Answered d (processCommand d).1 (Spec.Message.decimal n)) :=
  let h := enable_roundtrip c cmd .sre Regs.SRE .sreQ hcur hscr rfl hs n hn cP hv hend
  ⟨h.1, h.2.2.2.2.2.2⟩

/-- `STATus:QUEStionable:ENABle n` / `STATus:QUEStionable:ENABle?` -/
theorem ques_enab_roundtrip (c : Ctx) (cmd : Cmd) (hcur : c.cur = some cmd) (hscr : cmd.script = [.builtin .quesEnab])
    (hs : StatusOK c.regs c.eq) (n : Nat) (hn : n < 65536) (cP : Ctx)
    (hv : paramInt (Lemmas.Instrument.unitStart c cmd) 32 true true = (cP, true, (n : Int)))
    (hend : ¬ cP.ppos < cP.pbase + cP.plen) :
    Regs.get (processCommand c).1.regs Regs.QUESE = BitVec.ofNat 16 n ∧
    (∀ (d : Ctx) (cmdQ : Cmd), Bound d cmdQ .quesEnabQ → d.regs = (processCommand c).1.regs →
      Answered d (processCommand d).1 (Spec.Message.decimal n)) :=
  let h := enable_roundtrip c cmd .quesEnab Regs.QUESE .quesEnabQ hcur hscr rfl hs n hn cP hv hend
  ⟨h.1, h.2.2.2.2.2.2⟩

/-- `STATus:OPERation:ENABle n` / `STATus:OPERation:ENABle?` -/
theorem oper_enab_roundtrip (c : Ctx) (cmd : Cmd) (hcur : c.cur = some cmd) (hscr : cmd.script = [.builtin .operEnab])
    (hs : StatusOK c.regs c.eq) (n : Nat) (hn : n < 65536) (cP : Ctx)
    (hv : paramInt (Lemmas.Instrument.unitStart c cmd) 32 true true = (cP, true, (n : Int)))
    (hend : ¬ cP.ppos < cP.pbase + cP.plen) :
    Regs.get (processCommand c).1.regs Regs.OPERE = BitVec.ofNat 16 n ∧
    (∀ (d : Ctx) (cmdQ : Cmd), Bound d cmdQ .operEnabQ → d.regs = (processCommand c).1.regs →
      Answered d (processCommand d).1 (Spec.Message.decimal n)) :=
  let h := enable_roundtrip c cmd .operEnab Regs.OPERE .operEnabQ hcur hscr rfl hs n hn cP hv hend
  ⟨h.1, h.2.2.2.2.2.2⟩

/-- Missing parameter: exactly -109 "Missing parameter" is queued (class bit and error-available bit follow by C12 / C11),
the enable register keeps its value, nothing is written and the unit fails.  `*ESE` and `*SRE` return SCPI_RES_ERR, the
two STATus commands return SCPI_RES_OK even then; since the reader has raised cmd_error no -200 is added and
`processCommand` reports failure in all four cases. -/
theorem enable_missing_parameter (c : Ctx) (cmd : Cmd) (b : Builtin) (reg : Nat) (qb : Builtin) (hcur : c.cur = some cmd)
    (hscr : cmd.script = [.builtin b]) (he : enableReg b = some (reg, qb)) (hs : StatusOK c.regs c.eq)
    (hend : c.ppos ≥ c.pbase + c.plen) :
    let c' := (processCommand c).1
    c'.regs = Regs.errPush c.regs (-109) ∧ c'.eq = (c.eq.push c.withInfo (-109) none 0 true).1 ∧
    Regs.get c'.regs reg = Regs.get c.regs reg ∧ errorsSince c c' = [-109] ∧
    c'.out.written = c.out.written ∧ (processCommand c).2 = false := by
  obtain ⟨strict, hp, _, _, h0, h2⟩ := paramReg_of_enableReg he
  rw [processCommand_enable_missing c cmd b reg strict hcur hscr hp hend]
  dsimp only
  rw [Lemmas.Isolation.pushError_eq]
  dsimp only
  refine ⟨rfl, rfl, ?_, ?_, by rw [pcOut_written]; rfl, rfl⟩
  · exact (Lemmas.Regs.errPush_spec c.regs (-109) (Lemmas.Regs.wfLen hs.wf)).2.2.1 reg h0 h2
  · unfold errorsSince
    simp only [unitStart, Lemmas.Isolation.pcReset, emit, List.append_assoc, List.drop_left, Lemmas.Params.pushEvents]
    by_cases hl : (c.eq.push c.withInfo (-109) none 0 true).2.length > 1 <;>
      simp [hl, countedCode, Fifo.overflowCode, List.filterMap_cons]

/-- The round trip on the BYTES of the program data: the unit's program data is a string of decimal digits `ds`
(`DigitsData`) whose value is n < 65536 (`Spec.Params.intLiteral`, the exact-value function of C04; leading zeros allowed).
No hypothesis about the reader is left: C05 (`parameter_delivers_next_item`), C13 (the token specification) and C04
(`integer_exact_signed`) are composed in `Lemmas.Instrument.paramInt_digits`. -/
theorem enable_roundtrip_digits (c : Ctx) (cmd : Cmd) (b : Builtin) (reg : Nat) (qb : Builtin) (hcur : c.cur = some cmd)
    (hscr : cmd.script = [.builtin b]) (he : enableReg b = some (reg, qb)) (hs : StatusOK c.regs c.eq)
    (ds : Bytes) (n : Nat) (hd : DigitsData c ds) (hval : Spec.Params.intLiteral ds = some (n : Int)) (hn : n < 65536) :
    let c' := (processCommand c).1
    Regs.get c'.regs reg = BitVec.ofNat 16 n ∧
    (∀ m, m ≠ Regs.STB → m ≠ reg → Regs.get c'.regs m = Regs.get c.regs m) ∧
    Regs.Coherent c'.regs ∧ c'.eq = c.eq ∧ c'.out.written = c.out.written ∧ (processCommand c).2 = true ∧
    (∀ (d : Ctx) (cmdQ : Cmd), Bound d cmdQ qb → d.regs = c'.regs →
      Answered d (processCommand d).1 (Spec.Message.decimal n)) := by
  obtain ⟨cP, hv, hend⟩ := paramInt_digits (unitStart c cmd) ds (n : Int) hd.nonempty hd.digits hval
    (by omega) rfl hd.atStart hd.len hd.window hd.inBuf hd.next
  exact enable_roundtrip c cmd b reg qb hcur hscr he hs n hn cP hv hend

/-- `*ESE <digits>` then `*ESE?`, `*SRE <digits>` then `*SRE?`, and the two STATus enable pairs, on the program data bytes -/
theorem ese_roundtrip_digits (c : Ctx) (cmd : Cmd) (hcur : c.cur = some cmd) (hscr : cmd.script = [.builtin .ese])
    (hs : StatusOK c.regs c.eq) (ds : Bytes) (n : Nat) (hd : DigitsData c ds)
    (hval : Spec.Params.intLiteral ds = some (n : Int)) (hn : n < 65536) :
    Regs.get (processCommand c).1.regs Regs.ESE = BitVec.ofNat 16 n ∧
    (∀ (d : Ctx) (cmdQ : Cmd), Bound d cmdQ .eseQ → d.regs = (processCommand c).1.regs →
      Answered d (processCommand d).1 (Spec.Message.decimal n)) :=
  let h := enable_roundtrip_digits c cmd .ese Regs.ESE .eseQ hcur hscr rfl hs ds n hd hval hn
  ⟨h.1, h.2.2.2.2.2.2⟩

theorem sre_roundtrip_digits (c : Ctx) (cmd : Cmd) (hcur : c.cur = some cmd) (hscr : cmd.script = [.builtin .sre])
    (hs : StatusOK c.regs c.eq) (ds : Bytes) (n : Nat) (hd : DigitsData c ds)
    (hval : Spec.Params.intLiteral ds = some (n : Int)) (hn : n < 65536) :
    Regs.get (processCommand c).1.regs Regs.SRE = BitVec.ofNat 16 n ∧
    (∀ (d : Ctx) (cmdQ : Cmd), Bound d cmdQ .sreQ → d.regs = (processCommand c).1.regs →
      Answered d (processCommand d).1 (Spec.Message.decimal n)) :=
  let h := enable_roundtrip_digits c cmd .sre Regs.SRE .sreQ hcur hscr rfl hs ds n hd hval hn
  ⟨h.1, h.2.2.2.2.2.2⟩

theorem ques_enab_roundtrip_digits (c : Ctx) (cmd : Cmd) (hcur : c.cur = some cmd) (hscr : cmd.script = [.builtin .quesEnab])
    (hs : StatusOK c.regs c.eq) (ds : Bytes) (n : Nat) (hd : DigitsData c ds)
    (hval : Spec.Params.intLiteral ds = some (n : Int)) (hn : n < 65536) :
    Regs.get (processCommand c).1.regs Regs.QUESE = BitVec.ofNat 16 n ∧
    (∀ (d : Ctx) (cmdQ : Cmd), Bound d cmdQ .quesEnabQ → d.regs = (processCommand c).1.regs →
      Answered d (processCommand d).1 (Spec.Message.decimal n)) :=
  let h := enable_roundtrip_digits c cmd .quesEnab Regs.QUESE .quesEnabQ hcur hscr rfl hs ds n hd hval hn
  ⟨h.1, h.2.2.2.2.2.2⟩

theorem oper_enab_roundtrip_digits (c : Ctx) (cmd : Cmd) (hcur : c.cur = some cmd) (hscr : cmd.script = [.builtin .operEnab])
    (hs : StatusOK c.regs c.eq) (ds : Bytes) (n : Nat) (hd : DigitsData c ds)
    (hval : Spec.Params.intLiteral ds = some (n : Int)) (hn : n < 65536) :
    Regs.get (processCommand c).1.regs Regs.OPERE = BitVec.ofNat 16 n ∧
    (∀ (d : Ctx) (cmdQ : Cmd), Bound d cmdQ .operEnabQ → d.regs = (processCommand c).1.regs →
      Answered d (processCommand d).1 (Spec.Message.decimal n)) :=
  let h := enable_roundtrip_digits c cmd .operEnab Regs.OPERE .operEnabQ hcur hscr rfl hs ds n hd hval hn
  ⟨h.1, h.2.2.2.2.2.2⟩

/-- out of range on the bytes: any digit string denoting v < 2^31 is accepted and its low 16 bits are stored -/
theorem enable_out_of_range_digits (c : Ctx) (cmd : Cmd) (b : Builtin) (reg : Nat) (qb : Builtin) (hcur : c.cur = some cmd)
    (hscr : cmd.script = [.builtin b]) (he : enableReg b = some (reg, qb)) (hs : StatusOK c.regs c.eq)
    (ds : Bytes) (v : Nat) (hd : DigitsData c ds) (hval : Spec.Params.intLiteral ds = some (v : Int)) (hv : v < 2^31) :
    let c' := (processCommand c).1
    Regs.get c'.regs reg = BitVec.ofNat 16 v ∧ c'.eq = c.eq ∧ (processCommand c).2 = true := by
  obtain ⟨cP, hp, hend⟩ := paramInt_digits (unitStart c cmd) ds (v : Int) hd.nonempty hd.digits hval
    (by omega) rfl hd.atStart hd.len hd.window hd.inBuf hd.next
  have h := enable_out_of_range c cmd b reg qb hcur hscr he hs cP v hp hend
  exact ⟨by rw [h.2.1, BitVec.ofInt_natCast], h.2.2.2.2.1, h.2.2.2.2.2.2⟩

example :
    let cmd : Cmd := ⟨bytesOf "*ESE", 2, [.builtin .ese]⟩
    DigitsData (demoUnit cmd (bytesOf "0032")) (bytesOf "0032") ∧
    Spec.Params.intLiteral (bytesOf "0032") = some ((32 : Nat) : Int) ∧ (demoUnit cmd (bytesOf "0032")).cur = some cmd :=
  ⟨⟨by decide +kernel, by decide +kernel, rfl, rfl, by decide +kernel, by decide +kernel, by decide +kernel⟩,
    by decide +kernel, rfl⟩
-- 70000 = 65536 + 4464 is stored as 4464
example : (session ["*ESE 70000\n", "*ESE?\n"]).out.written = bytesOf "4464\r\n" := by
  simp only [session, demo, demoTable, bytesOf_eq_data]
  decide +kernel

example :
    let cmd : Cmd := ⟨bytesOf "*ESE", 2, [.builtin .ese]⟩
    let c := demoUnit cmd (bytesOf "32")
    let r := paramInt (Lemmas.Instrument.unitStart c cmd) 32 true true
    r.2.1 = true ∧ r.2.2 = 32 ∧ ¬ r.1.ppos < r.1.pbase + r.1.plen ∧ c.cur = some cmd := by decide +kernel
example : (session ["*ESE 32\n", "*ESE?\n"]).out.written = bytesOf "32\r\n" := by
  simp only [session, demo, demoTable, bytesOf_eq_data]
  decide +kernel
example : (session ["*SRE 255\n", "*SRE?\n"]).out.written = bytesOf "255\r\n" := by
  simp only [session, demo, demoTable, bytesOf_eq_data]
  decide +kernel
example : (session ["STAT:QUES:ENAB 512;ENAB?\n"]).out.written = bytesOf "512\r\n" := by
  simp only [session, demo, demoTable, bytesOf_eq_data]
  decide +kernel
example : (session ["STAT:OPER:ENAB #HFFFF\n", "stat:oper:enab?\n"]).out.written = bytesOf "65535\r\n" := by
  simp only [session, demo, demoTable, bytesOf_eq_data]
  decide +kernel
example : let c := session ["*ESE 65536\n"]
    c.regs.regs.getD Regs.ESE 0 = 0 ∧ Fifo.EQ.abs c.eq = [] := by
  simp only [session, demo, demoTable, bytesOf_eq_data]
  decide +kernel
example : (session ["*ESE -1\n", "*ESE?\n"]).out.written = bytesOf "65535\r\n" := by
  simp only [session, demo, demoTable, bytesOf_eq_data]
  decide +kernel
example : Fifo.EQ.abs (session ["*ESE 7\n", "*ESE\n"]).eq = [(-109, none)] ∧
    (session ["*ESE 7\n", "*ESE\n"]).regs.regs.getD Regs.ESE 0 = 7 := by
  simp only [session, demo, demoTable, bytesOf_eq_data]
  decide +kernel
example : Fifo.EQ.abs (session ["STAT:QUES:ENAB \"x\"\n"]).eq = [(-104, none)] := by
  simp only [session, demo, demoTable, bytesOf_eq_data]
  decide +kernel

/-- `*ESR?` answers the standard event register and leaves it 0; all other registers but the status byte unchanged,
state coherent, queue untouched -/
theorem esr_query_clears (c : Ctx) (cmd : Cmd) (hb : Bound c cmd .esrQ) (hs : StatusOK c.regs c.eq) :
    Answered c (processCommand c).1 (Spec.Message.decimal (Regs.get c.regs Regs.ESR).toNat) ∧
    Regs.get (processCommand c).1.regs Regs.ESR = 0 ∧
    (∀ m, m ≠ Regs.STB → m ≠ Regs.ESR → Regs.get (processCommand c).1.regs m = Regs.get c.regs m) ∧
    Regs.Coherent (processCommand c).1.regs ∧ (processCommand c).1.eq = c.eq :=
  event_query_clears c cmd .esrQ Regs.ESR hb rfl rfl (by decide) hs

/-- `STATus:OPERation[:EVENt]?` -/
theorem oper_event_query_clears (c : Ctx) (cmd : Cmd) (hb : Bound c cmd .operEvenQ) (hs : StatusOK c.regs c.eq) :
    Answered c (processCommand c).1 (Spec.Message.decimal (Regs.get c.regs Regs.OPER).toNat) ∧
    Regs.get (processCommand c).1.regs Regs.OPER = 0 ∧
    (∀ m, m ≠ Regs.STB → m ≠ Regs.OPER → Regs.get (processCommand c).1.regs m = Regs.get c.regs m) ∧
    Regs.Coherent (processCommand c).1.regs ∧ (processCommand c).1.eq = c.eq :=
  event_query_clears c cmd .operEvenQ Regs.OPER hb rfl rfl (by decide) hs

/-- `STATus:QUEStionable[:EVENt]?` -/
theorem ques_event_query_clears (c : Ctx) (cmd : Cmd) (hb : Bound c cmd .quesEvenQ) (hs : StatusOK c.regs c.eq) :
    Answered c (processCommand c).1 (Spec.Message.decimal (Regs.get c.regs Regs.QUES).toNat) ∧
    Regs.get (processCommand c).1.regs Regs.QUES = 0 ∧
    (∀ m, m ≠ Regs.STB → m ≠ Regs.QUES → Regs.get (processCommand c).1.regs m = Regs.get c.regs m) ∧
    Regs.Coherent (processCommand c).1.regs ∧ (processCommand c).1.eq = c.eq :=
  event_query_clears c cmd .quesEvenQ Regs.QUES hb rfl rfl (by decide) hs

example : let c := session ["*ESE 16\n", "TEST:ERR\n", "*ESR?\n"]
    c.out.written = bytesOf "16\r\n" ∧ c.regs.regs.getD Regs.ESR 0 = 0 ∧ c.regs.regs.getD Regs.STB 0 = 4 := by
  simp only [session, demo, demoTable, bytesOf_eq_data]
  decide +kernel
example : (session ["STAT:OPER?;:STAT:QUES?\n"]).out.written = bytesOf "0;0\r\n" := by
  simp only [session, demo, demoTable, bytesOf_eq_data]
  decide +kernel

/-- `*STB?` answers the status byte of the state — which satisfies the five C11 equivalences (`Regs.Coherent`) — and
changes neither registers nor queue -/
theorem stb_query (c : Ctx) (cmd : Cmd) (hb : Bound c cmd .stbQ) (hs : StatusOK c.regs c.eq) :
    Answered c (processCommand c).1 (Spec.Message.decimal (Regs.get c.regs Regs.STB).toNat) ∧
    Regs.Coherent c.regs ∧ (processCommand c).1.regs = c.regs ∧ (processCommand c).1.eq = c.eq ∧
    (processCommand c).2 = true :=
  let h := query_answers c cmd .stbQ Regs.STB hb rfl
  ⟨h.1, hs.coh, h.2.2.1, h.2.2.2, h.2.1⟩

example : (session ["*ESE 16;*SRE 32\n", "TEST:ERR\n", "*STB?\n"]).out.written = bytesOf "100\r\n" := by
  simp only [session, demo, demoTable, bytesOf_eq_data]
  decide +kernel

/-- `SYST:ERR?` as the first response of its message.  `(code, text)` is the OLDEST entry of the queue, or `(0, none)`
when the queue is empty (`hq`).  The query answers exactly `Spec.ErrorString.response` of it (C18's specification:
`<code>,"<description>[;<text>]"`, quotes doubled, at most 255 characters), removes it (the queue afterwards is the tail),
and the error-available bit of the status byte is set afterwards iff entries remain; the state stays coherent.
Hypotheses `hc`, `ht`: the code is a 16-bit value and the text a C string (true of everything SCPI_ErrorPushEx stores). -/
theorem syst_err_next (c : Ctx) (cmd : Cmd) (hb : Bound c cmd .errNextQ) (hs : StatusOK c.regs c.eq)
    (hfirst : c.out.firstOutput = true) (code : Int) (text : Option Bytes)
    (hq : (Fifo.EQ.abs c.eq).head?.getD (0, none) = (code, text))
    (hc : -32768 ≤ code ∧ code ≤ 32767) (ht : ∀ t, text = some t → t.all (· ≠ 0) = true) :
    let c' := (processCommand c).1
    c'.out.written = c.out.written ++ Spec.ErrorString.response code (errorTranslate code) text ∧
    Fifo.EQ.abs c'.eq = (Fifo.EQ.abs c.eq).tail ∧
    (Regs.get c'.regs Regs.STB &&& Regs.bit Gen.STB_QMA ≠ 0 ↔ (Fifo.EQ.abs c.eq).tail ≠ []) ∧
    Regs.Coherent c'.regs ∧ (processCommand c).2 = true := by
  have hk := statusOK_inv.builtin _ _ .errNextQ hs
  rw [processCommand_pure c cmd .errNextQ hb rfl]
  dsimp only
  obtain ⟨e1, e2⟩ := sysErrNext_abs c.eq hs.inv
  rw [hq] at e1
  obtain ⟨ec, et⟩ := Prod.mk.inj e1
  refine ⟨?_, e2, ?_, hk.coh, rfl⟩
  · rw [pcOut_written]
    show (resultError (Lemmas.Isolation.pcReset c).out c.eq.sysErrNext.2.code (errorTranslate c.eq.sysErrNext.2.code)
      [c.eq.sysErrNext.2.info.map (·.2)]).written = _
    rw [ec, et, Lemmas.ErrorString.resultError_response _ code hc _ text (Lemmas.ErrorString.errorTranslate_cstr code).2
      ht (by simp [Lemmas.Isolation.pcReset, hfirst])]
    rfl
  · -- coherent: the error-available bit is set iff the status side's count, which is the queue's, is not zero
    have hqn : (bRegs c.regs .errNextQ).qn = ((Fifo.EQ.abs c.eq).tail).length := by
      have hinv : Fifo.Inv c.eq.sysErrNext.1.fifo := hk.inv
      rw [hk.qn, ← e2, Lemmas.Fifo.eqabs_length _ hinv]
      rfl
    rw [hk.coh.qma, hqn]
    exact ⟨fun h h0 => h (by rw [h0]; rfl), fun h h0 => h (List.eq_nil_of_length_eq_zero h0)⟩

/-- with an empty queue the answer is `0,"No error"` and the queue stays empty -/
theorem syst_err_next_empty (c : Ctx) (cmd : Cmd) (hb : Bound c cmd .errNextQ) (hs : StatusOK c.regs c.eq)
    (hfirst : c.out.firstOutput = true) (hq : Fifo.EQ.abs c.eq = []) :
    (processCommand c).1.out.written = c.out.written ++ bytesOf "0,\"No error\"" ∧
    Fifo.EQ.abs (processCommand c).1.eq = [] := by
  have h := syst_err_next c cmd hb hs hfirst 0 none (by rw [hq]; rfl) (by decide) (by intro t ht; cases ht)
  rw [hq] at h
  exact ⟨by rw [h.1, no_error_text], h.2.1⟩

/-- `SYST:ERR:COUN?` answers the number of queued entries (the capacity is an int16_t in C) -/
theorem syst_err_count (c : Ctx) (cmd : Cmd) (hb : Bound c cmd .errCountQ) (hs : StatusOK c.regs c.eq)
    (hsz : c.eq.fifo.size < 2^31) :
    Answered c (processCommand c).1 (Spec.Message.decimal (Fifo.EQ.abs c.eq).length) ∧ (processCommand c).2 = true ∧
    (processCommand c).1.regs = c.regs ∧ (processCommand c).1.eq = c.eq := by
  have hi := hs.inv
  rw [Lemmas.Fifo.eqabs_length _ hi]
  exact pure_answers c cmd .errCountQ hb rfl _ fun o => outNat_written o _ (Nat.lt_of_le_of_lt hi.count_le hsz)

example : let c := session ["FOO\n", "TEST:ERR\n", "SYST:ERR:COUN?\n", "SYST:ERR?\n"]
    c.out.written = bytesOf "2\r\n-113,\"Undefined header;FOO\"\r\n" ∧ Fifo.EQ.abs c.eq = [(-222, some (bytesOf "x"))] ∧
    c.regs.regs.getD Regs.STB 0 &&& 4 = 4 := by
  simp only [session, demo, demoTable, bytesOf_eq_data]
  decide +kernel
example : let c := session ["TEST:ERR\n", "SYST:ERR?\n"]
    c.out.written = bytesOf "-222,\"Data out of range;x\"\r\n" ∧ Fifo.EQ.abs c.eq = [] ∧ c.regs.regs.getD Regs.STB 0 &&& 4 = 0 := by
  simp only [session, demo, demoTable, bytesOf_eq_data]
  decide +kernel
example : (session ["SYST:ERR?\n"]).out.written = bytesOf "0,\"No error\"\r\n" := by
  simp only [session, demo, demoTable, bytesOf_eq_data]
  decide +kernel
example : (session ["FOO;BAR\n", "SYST:ERR:COUN?\n"]).out.written = bytesOf "2\r\n" := by
  simp only [session, demo, demoTable, bytesOf_eq_data]
  decide +kernel

/-- `*OPC` sets bit 0 (operation complete) of the standard event register -/
theorem opc_sets_bit0 (c : Ctx) (cmd : Cmd) (hb : Bound c cmd .opc) (hs : StatusOK c.regs c.eq) :
    let c' := (processCommand c).1
    Regs.get c'.regs Regs.ESR = Regs.get c.regs Regs.ESR ||| Regs.bit Gen.ESR_OPC ∧
    Regs.Coherent c'.regs ∧ c'.eq = c.eq ∧ c'.out.written = c.out.written ∧ (processCommand c).2 = true := by
  rw [processCommand_pure c cmd .opc hb rfl]
  refine ⟨?_, (statusOK_inv.builtin _ _ .opc hs).2.1, rfl, pcOut_written _, rfl⟩
  exact (Lemmas.Regs.get_regSet c.regs 2 _ 2 (Lemmas.Regs.wfLen hs.wf) (by decide) (by decide)).trans (if_pos rfl)

/-- `*OPC?` answers 1 and changes nothing -/
theorem opcq_answers_1 (c : Ctx) (cmd : Cmd) (hb : Bound c cmd .opcQ) :
    Answered c (processCommand c).1 (bytesOf "1") ∧ (processCommand c).2 = true ∧
    (processCommand c).1.regs = c.regs ∧ (processCommand c).1.eq = c.eq := by
  have h := pure_answers c cmd .opcQ hb rfl _ fun o => outNat_written o 1 (by decide)
  rwa [show Spec.Message.decimal 1 = bytesOf "1" from by decide +kernel] at h

/-- `*TST?` answers 0 and changes nothing -/
theorem tst_answers_0 (c : Ctx) (cmd : Cmd) (hb : Bound c cmd .tstQ) :
    Answered c (processCommand c).1 (bytesOf "0") ∧ (processCommand c).2 = true ∧
    (processCommand c).1.regs = c.regs ∧ (processCommand c).1.eq = c.eq := by
  have h := pure_answers c cmd .tstQ hb rfl _ fun o => outNat_written o 0 (by decide)
  rwa [show Spec.Message.decimal 0 = bytesOf "0" from by decide +kernel] at h

/-- `*IDN?` answers the four identification fields of the context (manufacturer, model, serial number, firmware
revision; a NULL field as "0"), separated by commas, as one response unit -/
theorem idn_fields (c : Ctx) (cmd : Cmd) (fields : List (Option Bytes)) (hb : Bound c cmd (.idnQ fields)) :
    Answered c (processCommand c).1
      (idnField fields 0 ++ [44] ++ idnField fields 1 ++ [44] ++ idnField fields 2 ++ [44] ++ idnField fields 3) ∧
    (processCommand c).2 = true ∧ (processCommand c).1.regs = c.regs ∧ (processCommand c).1.eq = c.eq := by
  refine pure_answers c cmd (.idnQ fields) hb rfl _ fun o => ?_
  have w := fun o d => (resultCharacters_written o d).1
  have d := fun o d => (resultCharacters_written o d).2
  show ([0, 1, 2, 3].foldl (fun o i => resultCharacters o (idnField fields i)) o).written = _
  simp only [List.foldl, w, d, List.append_assoc]

/-- `*RST` calls the interface's reset callback exactly once and touches neither registers, queue nor output -/
theorem rst_calls_reset (c : Ctx) (cmd : Cmd) (hb : Bound c cmd .rst) :
    let c' := (processCommand c).1
    c'.events = c.events ++ [.handler cmd.tag ((c.buf.drop c.rawOff).take c.rawLen), .reset] ∧
    c'.regs = c.regs ∧ c'.eq = c.eq ∧ c'.out.written = c.out.written ∧ (processCommand c).2 = true := by
  rw [processCommand_pure c cmd .rst hb rfl]
  exact ⟨List.append_assoc _ _ _, rfl, rfl, by dsimp only; rw [pcOut_written]; rfl, rfl⟩

example : (session ["*OPC\n"]).regs.regs.getD Regs.ESR 0 = 1 := by
  simp only [session, demo, demoTable, bytesOf_eq_data]
  decide +kernel
example : (session ["*OPC?;*TST?\n"]).out.written = bytesOf "1;0\r\n" := by
  simp only [session, demo, demoTable, bytesOf_eq_data]
  decide +kernel
example : (session ["*IDN?\n"]).out.written = bytesOf "MANU,MODEL,0,01-02\r\n" := by
  simp only [session, demo, demoTable, bytesOf_eq_data]
  decide +kernel
example : (session ["*RST\n"]).events.count .reset = 1 := by
  simp only [session, demo, demoTable, bytesOf_eq_data]
  decide +kernel
example : Bound (demoUnit ⟨bytesOf "*IDN?", 14, [.builtin (.idnQ Builtin.harnessIdn)]⟩ [])
    ⟨bytesOf "*IDN?", 14, [.builtin (.idnQ Builtin.harnessIdn)]⟩ (.idnQ Builtin.harnessIdn) := ⟨rfl, rfl, by decide⟩

end ScpiVerif.Props.Instrument
