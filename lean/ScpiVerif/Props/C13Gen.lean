/-
C13 for the C text as it is: the theorems of Props/C13.lean restated for the Lean definitions GENERATED from libscpi/src/lexer.c
on every run (Gen/LexerC.lean), transferred through the refinement theorems of Lemmas/LexerC.lean, LexerCTok.lean, LexerCTok2.lean.
`st buf pos` is the C state `{buffer, pos = buffer + pos, len = buf.length}` with both flags clear; the generated function
returns the new state, the token structure (`tk t`: enum value, offset, length) and the C return value.
`c_lex_<name>`: for every buffer, every cursor and any previous content of `*token`, the generated function delivers exactly
what the hand model delivers (`res buf m`: CLEAN state at the model's cursor, the model's token, the model's return value) and
that result is what the token specification prescribes (`Spec.Agrees`, Props/C13.lean).
`c_lex_<name>_no_oob`: on the way, no `state->pos[k]` was evaluated outside `[0, len)` and no loop ran out of fuel.  Because the
generated text keeps `!iseos(state)` and the read apart and evaluates `&&` by C's short-circuit rule, this family is a theorem
about the check-then-read pairs of the C source, which the hand model cannot express (Props/C01.lean).
-/
import ScpiVerif.Props.C13
import ScpiVerif.Lemmas.LexerCTok2

namespace ScpiVerif.Props.C13Gen
open ScpiVerif ScpiVerif.Lexer ScpiVerif.Spec ScpiVerif.Gen.LexerC ScpiVerif.Lemmas.LexerC

theorem c_lex_iseos (buf : Bytes) (pos : Nat) :
    (Gen.LexerC.iseos (st buf pos) != 0) = Lexer.iseos buf pos ∧ (scpiLex_IsEos (st buf pos) != 0) = Lexer.iseos buf pos :=
  ⟨iseos_ref buf pos, scpiLex_IsEos_ref buf pos⟩

/-- every character predicate of the generated text, applied to a byte read as a plain `char` (the `<ctype.h>` ones with the
`(uint8_t)` cast the source writes), is the hand model's class - all 256 byte values -/
theorem c_lex_classes (b : UInt8) :
    (isws (sc b) != 0) = isWs b ∧ (isbdigit (sc b) != 0) = isBDigit b ∧ (isqdigit (sc b) != 0) = isQDigit b ∧
    (isplusmn (sc b) != 0) = isPlusMn b ∧ (Gen.LexerC.isE (sc b) != 0) = Lexer.isE b ∧ (isascii7bit (sc b) != 0) = isAscii7 b ∧
    (Gen.LexerC.isProgramExpression (sc b) != 0) = Lexer.isProgramExpression b ∧
    ctype Gen.cc_isdigit (u8 (sc b)) = isDigit b ∧ ctype Gen.cc_isalpha (u8 (sc b)) = isAlpha b ∧
    ctype Gen.cc_isalnum (u8 (sc b)) = isAlnum b ∧ ctype Gen.cc_isxdigit (u8 (sc b)) = isXDigit b :=
  classes_sc b

theorem c_lex_skip_loops (buf : Bytes) (pos : Nat) :
    Gen.LexerC.skipWs (st buf pos) = (st buf (Lexer.skipWs buf pos), (Lexer.skipWs buf pos : Int) - pos) ∧
    Gen.LexerC.skipNumbers (st buf pos) = (st buf (Lexer.skipNumbers buf pos), (Lexer.skipNumbers buf pos : Int) - pos) ∧
    Gen.LexerC.skipAlpha (st buf pos) = (st buf (Lexer.skipAlpha buf pos), (Lexer.skipAlpha buf pos : Int) - pos) ∧
    skipHexNum (st buf pos) = (st buf (skipMany buf pos isXDigit), (skipMany buf pos isXDigit : Int) - pos) ∧
    skipOctNum (st buf pos) = (st buf (skipMany buf pos isQDigit), (skipMany buf pos isQDigit : Int) - pos) ∧
    skipBinNum (st buf pos) = (st buf (skipMany buf pos isBDigit), (skipMany buf pos isBDigit : Int) - pos) ∧
    skipProgramExpression (st buf pos) = st buf (skipMany buf pos Lexer.isProgramExpression) :=
  ⟨skipWs_ref buf pos, skipNumbers_ref buf pos, skipAlpha_ref buf pos, skipHexNum_ref buf pos, skipOctNum_ref buf pos,
   skipBinNum_ref buf pos, skipProgramExpression_ref buf pos⟩

/-- the one-character skips (`one buf pos p`: cursor of `skipOne`, value 1 or 0) -/
theorem c_lex_skip_one (buf : Bytes) (pos : Nat) (ch : UInt8) :
    skipDigit (st buf pos) = one buf pos isDigit ∧ skipPlusmn (st buf pos) = one buf pos isPlusMn ∧
    Gen.LexerC.skipChr (st buf pos) (sc ch) = one buf pos (· == ch) ∧
    skipSlashDot (st buf pos) = one buf pos (fun b => b == 47 || b == 46) ∧
    skipStar (st buf pos) = one buf pos (· == 42) ∧ skipColon (st buf pos) = one buf pos (· == 58) :=
  ⟨skipDigit_ref buf pos, skipPlusmn_ref buf pos, skipChr_sc buf pos ch, skipSlashDot_ref buf pos, skipStar_ref buf pos,
   skipColon_ref buf pos⟩

theorem c_lex_mantisa_exponent (buf : Bytes) (pos : Nat) :
    Gen.LexerC.skipMantisa (st buf pos) = (st buf (Lexer.skipMantisa buf pos).1, ((Lexer.skipMantisa buf pos).2 : Int)) ∧
    Gen.LexerC.skipExponent (st buf pos) = (st buf (Lexer.skipExponent buf pos).1, ((Lexer.skipExponent buf pos).2 : Int)) :=
  ⟨skipMantisa_ref buf pos, skipExponent_ref buf pos⟩

theorem c_lex_whiteSpace (buf : Bytes) (pos : Nat) (h : pos ≤ buf.length) (tok : CTok) :
    scpiLex_WhiteSpace (st buf pos) tok = res buf (lexWhiteSpace buf pos) ∧ Agrees .ws buf pos (lexWhiteSpace buf pos) :=
  ⟨scpiLex_WhiteSpace_ref buf pos tok, Props.C13.whiteSpace_spec buf pos h⟩
theorem c_lex_whiteSpace_no_oob (buf : Bytes) (pos : Nat) (tok : CTok) :
    (scpiLex_WhiteSpace (st buf pos) tok).1.oob = false ∧ (scpiLex_WhiteSpace (st buf pos) tok).1.ub = false := by
  rw [scpiLex_WhiteSpace_ref]; exact ⟨rfl, rfl⟩

theorem c_lex_comma (buf : Bytes) (pos : Nat) (h : pos ≤ buf.length) (tok : CTok) :
    scpiLex_Comma (st buf pos) tok = res buf (lexComma buf pos) ∧ Agrees .comma buf pos (lexComma buf pos) :=
  ⟨scpiLex_Comma_ref buf pos tok, Props.C13.comma_spec buf pos h⟩
theorem c_lex_comma_no_oob (buf : Bytes) (pos : Nat) (tok : CTok) :
    (scpiLex_Comma (st buf pos) tok).1.oob = false ∧ (scpiLex_Comma (st buf pos) tok).1.ub = false := by
  rw [scpiLex_Comma_ref]; exact ⟨rfl, rfl⟩

theorem c_lex_semicolon (buf : Bytes) (pos : Nat) (h : pos ≤ buf.length) (tok : CTok) :
    scpiLex_Semicolon (st buf pos) tok = res buf (lexSemicolon buf pos) ∧ Agrees .semicolon buf pos (lexSemicolon buf pos) :=
  ⟨scpiLex_Semicolon_ref buf pos tok, Props.C13.semicolon_spec buf pos h⟩
theorem c_lex_semicolon_no_oob (buf : Bytes) (pos : Nat) (tok : CTok) :
    (scpiLex_Semicolon (st buf pos) tok).1.oob = false ∧ (scpiLex_Semicolon (st buf pos) tok).1.ub = false := by
  rw [scpiLex_Semicolon_ref]; exact ⟨rfl, rfl⟩

theorem c_lex_colon (buf : Bytes) (pos : Nat) (h : pos ≤ buf.length) (tok : CTok) :
    scpiLex_Colon (st buf pos) tok = res buf (lexColon buf pos) ∧ Agrees .colon buf pos (lexColon buf pos) :=
  ⟨scpiLex_Colon_ref buf pos tok, Props.C13.colon_spec buf pos h⟩
theorem c_lex_colon_no_oob (buf : Bytes) (pos : Nat) (tok : CTok) :
    (scpiLex_Colon (st buf pos) tok).1.oob = false ∧ (scpiLex_Colon (st buf pos) tok).1.ub = false := by
  rw [scpiLex_Colon_ref]; exact ⟨rfl, rfl⟩

theorem c_lex_specific (buf : Bytes) (pos : Nat) (ch : UInt8) (h : pos ≤ buf.length) (tok : CTok) :
    scpiLex_SpecificCharacter (st buf pos) tok (sc ch) = res buf (lexSpecific buf pos ch) ∧
    Agrees (.specific ch) buf pos (lexSpecific buf pos ch) :=
  ⟨scpiLex_SpecificCharacter_ref buf pos tok ch, Props.C13.specific_spec buf pos ch h⟩
theorem c_lex_specific_no_oob (buf : Bytes) (pos : Nat) (ch : UInt8) (tok : CTok) :
    (scpiLex_SpecificCharacter (st buf pos) tok (sc ch)).1.oob = false ∧ (scpiLex_SpecificCharacter (st buf pos) tok (sc ch)).1.ub = false := by
  rw [scpiLex_SpecificCharacter_ref]; exact ⟨rfl, rfl⟩

theorem c_lex_newLine (buf : Bytes) (pos : Nat) (h : pos ≤ buf.length) (tok : CTok) :
    scpiLex_NewLine (st buf pos) tok = res buf (lexNewLine buf pos) ∧ Agrees .nl buf pos (lexNewLine buf pos) :=
  ⟨scpiLex_NewLine_ref buf pos tok, Props.C13.newLine_spec buf pos h⟩
theorem c_lex_newLine_no_oob (buf : Bytes) (pos : Nat) (tok : CTok) :
    (scpiLex_NewLine (st buf pos) tok).1.oob = false ∧ (scpiLex_NewLine (st buf pos) tok).1.ub = false := by
  rw [scpiLex_NewLine_ref]; exact ⟨rfl, rfl⟩

theorem c_lex_decimal (buf : Bytes) (pos : Nat) (h : pos ≤ buf.length) (tok : CTok) :
    scpiLex_DecimalNumericProgramData (st buf pos) tok = res buf (lexDecimal buf pos) ∧ Agrees .decimal buf pos (lexDecimal buf pos) :=
  ⟨scpiLex_DecimalNumericProgramData_ref buf pos tok, Props.C13.decimal_spec buf pos h⟩
theorem c_lex_decimal_no_oob (buf : Bytes) (pos : Nat) (tok : CTok) :
    (scpiLex_DecimalNumericProgramData (st buf pos) tok).1.oob = false ∧ (scpiLex_DecimalNumericProgramData (st buf pos) tok).1.ub = false := by
  rw [scpiLex_DecimalNumericProgramData_ref]; exact ⟨rfl, rfl⟩

theorem c_lex_characterData (buf : Bytes) (pos : Nat) (h : pos ≤ buf.length) (tok : CTok) :
    scpiLex_CharacterProgramData (st buf pos) tok = res buf (lexCharacterProgramData buf pos) ∧
    Agrees .chr buf pos (lexCharacterProgramData buf pos) :=
  ⟨scpiLex_CharacterProgramData_ref buf pos tok, Props.C13.characterData_spec buf pos h⟩
theorem c_lex_characterData_no_oob (buf : Bytes) (pos : Nat) (tok : CTok) :
    (scpiLex_CharacterProgramData (st buf pos) tok).1.oob = false ∧ (scpiLex_CharacterProgramData (st buf pos) tok).1.ub = false := by
  rw [scpiLex_CharacterProgramData_ref]; exact ⟨rfl, rfl⟩

theorem c_lex_nondecimal (buf : Bytes) (pos : Nat) (h : pos ≤ buf.length) (tok : CTok) :
    scpiLex_NondecimalNumericData (st buf pos) tok = res buf (lexNondecimal buf pos) ∧
    Agrees .nondecimal buf pos (lexNondecimal buf pos) :=
  ⟨scpiLex_NondecimalNumericData_ref buf pos tok, Props.C13.nondecimal_spec buf pos h⟩
theorem c_lex_nondecimal_no_oob (buf : Bytes) (pos : Nat) (tok : CTok) :
    (scpiLex_NondecimalNumericData (st buf pos) tok).1.oob = false ∧ (scpiLex_NondecimalNumericData (st buf pos) tok).1.ub = false := by
  rw [scpiLex_NondecimalNumericData_ref]; exact ⟨rfl, rfl⟩

theorem c_lex_suffix (buf : Bytes) (pos : Nat) (h : pos ≤ buf.length) (tok : CTok) :
    scpiLex_SuffixProgramData (st buf pos) tok = res buf (lexSuffix buf pos) ∧ Agrees .suffix buf pos (lexSuffix buf pos) :=
  ⟨scpiLex_SuffixProgramData_ref buf pos tok, Props.C13.suffix_spec buf pos h⟩
theorem c_lex_suffix_no_oob (buf : Bytes) (pos : Nat) (tok : CTok) :
    (scpiLex_SuffixProgramData (st buf pos) tok).1.oob = false ∧ (scpiLex_SuffixProgramData (st buf pos) tok).1.ub = false := by
  rw [scpiLex_SuffixProgramData_ref]; exact ⟨rfl, rfl⟩

/-- the helpers of the header recogniser: mnemonic (value > 0 complete, < 0 ended at the end of the input, 0 none), common and
compound header (1 / -1 / 0) -/
theorem c_lex_header_skips (buf : Bytes) (pos : Nat) :
    Gen.LexerC.skipProgramMnemonic (st buf pos) = (st buf (Lexer.skipProgramMnemonic buf pos).1, (Lexer.skipProgramMnemonic buf pos).2) ∧
    Gen.LexerC.skipCommonProgramHeader (st buf pos) =
      (st buf (Lexer.skipCommonProgramHeader buf pos).1, (Lexer.skipCommonProgramHeader buf pos).2) ∧
    Gen.LexerC.skipCompoundProgramHeader (st buf pos) =
      (st buf (Lexer.skipCompoundProgramHeader buf pos).1, (Lexer.skipCompoundProgramHeader buf pos).2) :=
  ⟨skipProgramMnemonic_ref buf pos, skipCommonProgramHeader_ref buf pos, skipCompoundProgramHeader_ref buf pos⟩

theorem c_lex_programHeader (buf : Bytes) (pos : Nat) (h : pos ≤ buf.length) (tok : CTok) :
    scpiLex_ProgramHeader (st buf pos) tok = res buf (lexProgramHeader buf pos) ∧ Agrees .header buf pos (lexProgramHeader buf pos) :=
  ⟨scpiLex_ProgramHeader_ref buf pos tok, Props.C13.programHeader_spec buf pos h⟩
theorem c_lex_programHeader_no_oob (buf : Bytes) (pos : Nat) (tok : CTok) :
    (scpiLex_ProgramHeader (st buf pos) tok).1.oob = false ∧ (scpiLex_ProgramHeader (st buf pos) tok).1.ub = false := by
  rw [scpiLex_ProgramHeader_ref]; exact ⟨rfl, rfl⟩

/-- the quote loop: stops at a lone quote, at a byte >= 0x80 or at the end of the input (`q` as the plain char `sc q`) -/
theorem c_lex_skipQuote (buf : Bytes) (pos : Nat) (q : UInt8) :
    skipQuoteProgramData (st buf pos) (sc q) = st buf (skipQuote buf q (buf.length - pos + 1) pos) := by
  rw [skipQuoteProgramData_ref buf pos (sc q) (sc_ge q) (sc_le q), uc_sc]

theorem c_lex_string (buf : Bytes) (pos : Nat) (h : pos ≤ buf.length) (tok : CTok) :
    scpiLex_StringProgramData (st buf pos) tok = res buf (lexString buf pos) ∧ Agrees .string buf pos (lexString buf pos) :=
  ⟨scpiLex_StringProgramData_ref buf pos tok, Props.C13.string_spec buf pos h⟩
theorem c_lex_string_no_oob (buf : Bytes) (pos : Nat) (tok : CTok) :
    (scpiLex_StringProgramData (st buf pos) tok).1.oob = false ∧ (scpiLex_StringProgramData (st buf pos) tok).1.ub = false := by
  rw [scpiLex_StringProgramData_ref]; exact ⟨rfl, rfl⟩

theorem c_lex_expression (buf : Bytes) (pos : Nat) (h : pos ≤ buf.length) (tok : CTok) :
    scpiLex_ProgramExpression (st buf pos) tok = res buf (lexExpression buf pos) ∧ Agrees .expression buf pos (lexExpression buf pos) :=
  ⟨scpiLex_ProgramExpression_ref buf pos tok, Props.C13.expression_spec buf pos h⟩
theorem c_lex_expression_no_oob (buf : Bytes) (pos : Nat) (tok : CTok) :
    (scpiLex_ProgramExpression (st buf pos) tok).1.oob = false ∧ (scpiLex_ProgramExpression (st buf pos) tok).1.ub = false := by
  rw [scpiLex_ProgramExpression_ref]; exact ⟨rfl, rfl⟩

/-- the block recogniser.  `state->pos += arbitraryBlockLength` may leave the buffer before the comparison with its end is
made (the offset is an `Int`, nothing is read there): the generated text and the model carry the same out-of-range value -/
theorem c_lex_block (buf : Bytes) (pos : Nat) (h : pos ≤ buf.length) (tok : CTok) :
    scpiLex_ArbitraryBlockProgramData (st buf pos) tok = res buf (lexBlock buf pos) ∧ Agrees .block buf pos (lexBlock buf pos) :=
  ⟨scpiLex_ArbitraryBlockProgramData_ref buf pos tok, Props.C13.block_spec buf pos h⟩
theorem c_lex_block_no_oob (buf : Bytes) (pos : Nat) (tok : CTok) :
    (scpiLex_ArbitraryBlockProgramData (st buf pos) tok).1.oob = false ∧
    (scpiLex_ArbitraryBlockProgramData (st buf pos) tok).1.ub = false := by
  rw [scpiLex_ArbitraryBlockProgramData_ref]; exact ⟨rfl, rfl⟩

-- "1.5E+3 V;" (9 bytes) at offset 0: the number is 6 bytes long, the cursor stops before the space, nothing read outside
example : scpiLex_DecimalNumericProgramData (st [49, 46, 53, 69, 43, 51, 32, 86, 59] 0) ⟨0, 0, 0⟩ =
    (st [49, 46, 53, 69, 43, 51, 32, 86, 59] 6, ⟨10, 0, 6⟩, 6) := by decide +kernel
-- "1E": the buffer ends in the middle of the exponent; the exponent fails, the cursor is rolled back to after the mantissa,
-- and the end-of-input test stopped every read at offset 2
example : scpiLex_DecimalNumericProgramData (st [49, 69] 0) ⟨0, 0, 0⟩ = (st [49, 69] 1, ⟨10, 0, 1⟩, 1) := by decide +kernel
example : scpiLex_DecimalNumericProgramData (st [] 0) ⟨7, 7, 7⟩ = (st [] 0, ⟨26, 0, 0⟩, 0) := by decide +kernel
-- what the flag looks like when a read does happen at the end: `ischr` alone, without the test in front of it
example : (ischr (st [49, 69] 2) 69).1.oob = true := by decide +kernel
-- "#HfF," : token ptr / len describe the digits, the return value the whole literal
example : scpiLex_NondecimalNumericData (st [35, 72, 102, 70, 44] 0) ⟨0, 0, 0⟩ = (st [35, 72, 102, 70, 44] 4, ⟨6, 2, 2⟩, 4) := by decide +kernel
-- "x \t" at offset 1 and "\r\n" and "ab_1 "
example : scpiLex_WhiteSpace (st [120, 32, 9] 1) ⟨0, 0, 0⟩ = (st [120, 32, 9] 3, ⟨23, 1, 2⟩, 2) := by decide +kernel
example : scpiLex_NewLine (st [13, 10] 0) ⟨0, 0, 0⟩ = (st [13, 10] 2, ⟨5, 0, 2⟩, 2) := by decide +kernel
example : scpiLex_CharacterProgramData (st [97, 98, 95, 49, 32] 0) ⟨0, 0, 0⟩ = (st [97, 98, 95, 49, 32] 4, ⟨9, 0, 4⟩, 4) := by decide +kernel
-- a byte >= 0x80 is a negative plain char: not white space, not a digit, and `(uint8_t)` maps it to 128..255 for <ctype.h>
example : scpiLex_CharacterProgramData (st [200, 97] 0) ⟨0, 0, 0⟩ = (st [200, 97] 0, ⟨26, 0, 0⟩, 0) := by decide +kernel
-- "1.5 V/" at offset 4: the buffer ends right after the '/', inside the suffix; the loop `while (skipSlashDot(state))` takes the
-- '/', the three skips after it stop at the end of the input without reading, the next `skipSlashDot` too
example : scpiLex_SuffixProgramData (st [49, 46, 53, 32, 86, 47] 4) ⟨0, 0, 0⟩ = (st [49, 46, 53, 32, 86, 47] 6, ⟨12, 4, 2⟩, 2) := by decide +kernel
-- "SYST:" ends in a colon: the mnemonic behind it is empty AT the end of the input, the loop body returns SKIP_INCOMPLETE, the
-- token is an INCOMPLETE compound header of all 5 bytes; nothing was read at offset 5
example : scpiLex_ProgramHeader (st [83, 89, 83, 84, 58] 0) ⟨0, 0, 0⟩ = (st [83, 89, 83, 84, 58] 5, ⟨18, 0, 5⟩, 5) := by decide +kernel
-- "*IDN" ends inside the mnemonic: (negative length) * counts as complete; "*" alone is an incomplete common header
example : scpiLex_ProgramHeader (st [42, 73, 68, 78] 0) ⟨0, 0, 0⟩ = (st [42, 73, 68, 78] 4, ⟨19, 0, 4⟩, 4) := by decide +kernel
example : scpiLex_ProgramHeader (st [42] 0) ⟨0, 0, 0⟩ = (st [42] 1, ⟨20, 0, 1⟩, 1) := by decide +kernel
-- ":A:b? " : compound query header of 5 bytes
example : scpiLex_ProgramHeader (st [58, 65, 58, 98, 63, 32] 0) ⟨0, 0, 0⟩ = (st [58, 65, 58, 98, 63, 32] 5, ⟨21, 0, 5⟩, 5) := by decide +kernel
-- `"abc` without the closing quote: the loop runs to the end of the input, the test for the closing quote is not reached
-- (`!iseos(state) &&`), cursor restored, no token, nothing read at offset 4
example : scpiLex_StringProgramData (st [34, 97, 98, 99] 0) ⟨0, 0, 0⟩ = (st [34, 97, 98, 99] 0, ⟨26, 0, 0⟩, 0) := by decide +kernel
-- `"a""b"c`: the doubled quote is skipped as a pair (pos++ ... pos++), the lone one ends the string (pos++ ... pos--)
example : scpiLex_StringProgramData (st [34, 97, 34, 34, 98, 34, 99] 0) ⟨0, 0, 0⟩ = (st [34, 97, 34, 34, 98, 34, 99] 6, ⟨15, 0, 6⟩, 6) := by
  decide +kernel
-- `'a'` ending in the closing quote: the look-ahead for a doubled quote stops at the end of the input
example : scpiLex_StringProgramData (st [39, 97, 39] 0) ⟨0, 0, 0⟩ = (st [39, 97, 39] 3, ⟨14, 0, 3⟩, 3) := by decide +kernel
-- `(@1` without ')' and `(@1)`
example : scpiLex_ProgramExpression (st [40, 64, 49] 0) ⟨0, 0, 0⟩ = (st [40, 64, 49] 0, ⟨26, 0, 0⟩, 0) := by decide +kernel
example : scpiLex_ProgramExpression (st [40, 64, 49, 41] 0) ⟨0, 0, 0⟩ = (st [40, 64, 49, 41] 4, ⟨16, 0, 4⟩, 4) := by decide +kernel
-- "#13abc;" : the token describes the 3 payload bytes at offset 3, the return value the whole block
example : scpiLex_ArbitraryBlockProgramData (st [35, 49, 51, 97, 98, 99, 59] 0) ⟨0, 0, 0⟩ =
    (st [35, 49, 51, 97, 98, 99, 59] 6, ⟨13, 3, 3⟩, 6) := by decide +kernel
-- "#210ab": 10 bytes announced, 2 present - the cursor would be at offset 14 of 6; incomplete: the rest is swallowed, no read there
example : scpiLex_ArbitraryBlockProgramData (st [35, 50, 49, 48, 97, 98] 0) ⟨0, 0, 0⟩ = (st [35, 50, 49, 48, 97, 98] 6, ⟨26, 0, 0⟩, 0) := by
  decide +kernel
-- "#2" and "#": the buffer ends inside the length digits / right after '#'
example : scpiLex_ArbitraryBlockProgramData (st [35, 50] 0) ⟨0, 0, 0⟩ = (st [35, 50] 2, ⟨26, 0, 0⟩, 0) := by decide +kernel
example : scpiLex_ArbitraryBlockProgramData (st [35] 0) ⟨0, 0, 0⟩ = (st [35] 1, ⟨26, 0, 0⟩, 0) := by decide +kernel

end ScpiVerif.Props.C13Gen
