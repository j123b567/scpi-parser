/-
C06, generated tie: the Lean text translated from the response framing functions of libscpi/src/parser.c on every run
(Gen/ResultC.lean: writeData, flushData, writeDelimiter, writeNewLine, writeSemicolon, SCPI_ResultCharacters) refines the
hand-written model of Model/Result.lean on its non-ghost projection (`cview` / `oview`), and satisfies the per-call facts the
framing theorem (Props/C06.lean `framing`, Lemmas/Framing.lean) rests on; through Lemmas/ResultC.lean.  Model of the application
(prelude of Gen/ResultC.lean): `interface->write` appends the bytes it is handed to `written` and returns their number,
`interface->flush` increments `flushes`.  This module is an obligation of C06's check whenever the translator ACCEPTS the current
parser.c; when it refuses a function the tie degrades to the differential correspondence of the hand model (recorded in the
evidence, `generated_tie`).
-/
import ScpiVerif.Model.Result
import ScpiVerif.Lemmas.ResultC

namespace ScpiVerif.Props.C06Gen
open ScpiVerif ScpiVerif.Gen.ResultC ScpiVerif.Lemmas.ResultC
open ScpiVerif.Lexer (Bytes)

variable {ρ : Type}

def ex (n : Int) (first : Bool) : CCtx Unit :=
  { interface_nonnull := true, interface_write_nonnull := true, interface_flush_nonnull := true, output_count := n,
    first_output := first, written := [49], flushes := 0, ub := false, outOfFuel := false, rest := () }

/-- writeData hands exactly the first `len` bytes to the write callback (the hand model's writeData / writeSep), returns `len`,
and adds no undefined behaviour -/
theorem c_writeData (c : CCtx ρ) (o : Result.Out) (d : Bytes) (len : Int) (hv : cview c = oview o) (hi : IfaceOK c)
    (h0 : 0 ≤ len) (h1 : len ≤ d.length) :
    cview (writeData c (some d) len).1 = oview (Result.writeData o (d.take len.toNat)) ∧
    cview (writeData c (some d) len).1 = oview (Result.writeSep o (d.take len.toNat)) ∧
    (writeData c (some d) len).1.ub = c.ub ∧ (writeData c (some d) len).2 = len := by
  obtain ⟨v1, v2, v3, v4⟩ := view_eq.mp hv
  rw [writeData_eq c hi d len h0 h1]
  exact ⟨view_eq.mpr ⟨v1, v2, congrArg (· ++ _) v3, v4⟩, view_eq.mpr ⟨v1, v2, congrArg (· ++ _) v3, v4⟩, rfl, rfl⟩
theorem c_writeData_nothing (c : CCtx ρ) (p : Option (List UInt8)) (len : Int) (h : p = none ∨ len ≤ 0) :
    writeData c p len = (c, 0) := by
  rcases h with rfl | h
  · simp only [writeData, Option.isSome_none, Bool.and_false, Bool.false_eq_true, if_false]
  · simp only [writeData, Int.not_lt.mpr h, decide_false, Bool.false_and, Bool.false_eq_true, if_false]
example : (writeData (ex 0 true) (some [65, 66, 67, 0]) 3).1.written = [49, 65, 66, 67] ∧ (writeData (ex 0 true) (some [65, 66, 67, 0]) 3).2 = 3 ∧
    writeData (ex 0 true) none 3 = (ex 0 true, 0) ∧ writeData (ex 0 true) (some [65]) 0 = (ex 0 true, 0) ∧
    -- more bytes than the object holds: undefined behaviour is flagged
    (writeData (ex 0 true) (some [65]) 2).1.ub = true := by decide

theorem c_writeDelimiter (c : CCtx ρ) (o : Result.Out) (hv : cview c = oview o) (hi : IfaceOK c) :
    cview (writeDelimiter c).1 = oview (Result.writeDelimiter o) ∧ (writeDelimiter c).1.ub = c.ub := by
  obtain ⟨v1, v2, v3, v4⟩ := view_eq.mp hv
  rw [writeDelimiter_eq c hi]
  simp only [Result.writeDelimiter, Result.writeSep, ← v1]
  split
  · exact ⟨view_eq.mpr ⟨rfl, v2, congrArg (· ++ _) v3, v4⟩, rfl⟩
  · split
    · exact ⟨view_eq.mpr ⟨rfl, v2, congrArg (· ++ _) v3, v4⟩, rfl⟩
    · exact ⟨view_eq.mpr ⟨rfl, v2, v3, v4⟩, rfl⟩
/-- writeDelimiter writes "," iff output_count > 0; ";" and resets the count iff output_count < 0 (separator pending); nothing
iff output_count = 0; it never flushes and never touches first_output -/
theorem c_writeDelimiter_cases (c : CCtx ρ) (hi : IfaceOK c) :
    (0 < c.output_count → (writeDelimiter c).1.written = c.written ++ [44] ∧ (writeDelimiter c).1.output_count = c.output_count) ∧
    (c.output_count < 0 → (writeDelimiter c).1.written = c.written ++ [59] ∧ (writeDelimiter c).1.output_count = 0) ∧
    (c.output_count = 0 → (writeDelimiter c).1.written = c.written ∧ (writeDelimiter c).1.output_count = 0) ∧
    (writeDelimiter c).1.flushes = c.flushes ∧ (writeDelimiter c).1.first_output = c.first_output ∧
    (writeDelimiter c).1.ub = c.ub ∧
    (writeDelimiter c).2 = (if c.output_count = 0 then 0 else 1) := by
  rw [writeDelimiter_eq c hi]
  split
  · exact ⟨fun _ => ⟨rfl, rfl⟩, fun h => absurd h (by omega), fun h => absurd h (by omega), rfl, rfl, rfl, (if_neg (by omega)).symm⟩
  · split
    · exact ⟨fun h => absurd h (by omega), fun _ => ⟨rfl, rfl⟩, fun h => absurd h (by omega), rfl, rfl, rfl, (if_neg (by omega)).symm⟩
    · exact ⟨fun h => absurd h (by omega), fun h => absurd h (by omega), fun h => ⟨rfl, h⟩, rfl, rfl, rfl, (if_pos (by omega)).symm⟩
example : cview (writeDelimiter (ex 2 false)).1 = (2, false, [49, 44], 0) ∧ cview (writeDelimiter (ex (-1) false)).1 = (0, false, [49, 59], 0) ∧
    cview (writeDelimiter (ex 0 true)).1 = (0, true, [49], 0) ∧ (writeDelimiter (ex 2 false)).2 = 1 ∧ (writeDelimiter (ex 0 true)).2 = 0 ∧
    (writeDelimiter (ex (-1) false)).1.ub = false := by decide

theorem c_writeNewLine (c : CCtx ρ) (o : Result.Out) (hv : cview c = oview o) (hi : IfaceOK c) :
    cview (writeNewLine c).1 = oview (Result.writeNewLine o) ∧ (writeNewLine c).1.ub = c.ub := by
  obtain ⟨v1, v2, v3, v4⟩ := view_eq.mp hv
  cases hf : c.first_output
  · rw [writeNewLine_eq c hi, if_neg (ne_true_of_eq_false hf), Result.writeNewLine, if_pos (by rw [← v2, hf]; rfl),
      line_ending_literal]
    exact ⟨view_eq.mpr ⟨v1, v2, congrArg (· ++ _) v3, congrArg (· + 1) v4⟩, rfl⟩
  · rw [writeNewLine_eq c hi, if_pos hf, Result.writeNewLine, if_neg (by rw [← v2, hf]; decide)]
    exact ⟨hv, rfl⟩
/-- writeNewLine writes the line ending (the generated constant of Gen/Tables.lean) and flushes exactly once iff first_output
is false; otherwise it does nothing -/
theorem c_writeNewLine_cases (c : CCtx ρ) (hi : IfaceOK c) :
    (c.first_output = false → (writeNewLine c).1.written = c.written ++ Result.bytesOf Gen.LINE_ENDING ∧
      (writeNewLine c).1.flushes = c.flushes + 1) ∧
    (c.first_output = true → (writeNewLine c).1.written = c.written ∧ (writeNewLine c).1.flushes = c.flushes) ∧
    (writeNewLine c).1.output_count = c.output_count ∧ (writeNewLine c).1.first_output = c.first_output ∧
    (writeNewLine c).1.ub = c.ub := by
  cases hf : c.first_output
  · rw [writeNewLine_eq c hi, if_neg (ne_true_of_eq_false hf), line_ending_literal]
    exact ⟨fun _ => ⟨rfl, rfl⟩, fun h => absurd h Bool.false_ne_true, rfl, hf, rfl⟩
  · rw [writeNewLine_eq c hi, if_pos hf]
    exact ⟨fun h => absurd h.symm Bool.false_ne_true, fun _ => ⟨rfl, rfl⟩, rfl, hf, rfl⟩
/-- flushData calls the flush callback once when there is one, and is a successful no-op otherwise -/
theorem c_flushData (c : CCtx ρ) (hi : IfaceOK c) :
    (flushData c).1.flushes = c.flushes + 1 ∧ (flushData c).1.written = c.written ∧ (flushData c).1.ub = c.ub ∧
    (flushData c).2 = SCPI_RES_OK := by
  rw [flushData_eq c hi]
  exact ⟨rfl, rfl, rfl, rfl⟩
theorem c_flushData_absent (c : CCtx ρ) (h : c.interface_nonnull = false ∨ c.interface_flush_nonnull = false) :
    flushData c = (c, SCPI_RES_OK) := by
  rcases h with h | h <;> simp only [flushData, h, Bool.false_and, Bool.and_false, Bool.false_eq_true, if_false]
/-- writeSemicolon: ';' iff output_count > 0 -/
theorem c_writeSemicolon (c : CCtx ρ) (hi : IfaceOK c) :
    (writeSemicolon c).1.written = (if 0 < c.output_count then c.written ++ [59] else c.written) ∧
    (writeSemicolon c).1.output_count = c.output_count ∧ (writeSemicolon c).1.flushes = c.flushes ∧
    (writeSemicolon c).1.ub = c.ub := by
  rw [writeSemicolon_eq c hi]
  by_cases h : 0 < c.output_count
  · rw [if_pos h, if_pos h]; exact ⟨rfl, rfl, rfl, rfl⟩
  · rw [if_neg h, if_neg h]; exact ⟨rfl, rfl, rfl, rfl⟩
example : cview (writeNewLine (ex 1 false)).1 = (1, false, [49, 13, 10], 1) ∧ (writeNewLine (ex 1 false)).2 = 2 ∧
    writeNewLine (ex 0 true) = (ex 0 true, 0) ∧
    -- no flush callback: the line ending is written, nothing is flushed
    cview (writeNewLine { ex 1 false with interface_flush_nonnull := false }).1 = (1, false, [49, 13, 10], 0) ∧
    (writeSemicolon (ex 1 false)).1.written = [49, 59] ∧ (writeSemicolon (ex 0 false)).1.written = [49] := by decide

/-- SCPI_ResultCharacters(context, data, len) is the hand model's resultCharacters of the first `len` bytes, as long as the item
counter is below the maximum of its C type -/
theorem c_resultCharacters (c : CCtx ρ) (o : Result.Out) (d : Bytes) (len : Int) (hv : cview c = oview o) (hi : IfaceOK c)
    (hc : CountOK c) (h0 : 0 ≤ len) (h1 : len ≤ d.length) :
    cview (SCPI_ResultCharacters c (some d) len).1 = oview (Result.resultCharacters o (d.take len.toNat)) ∧
    (SCPI_ResultCharacters c (some d) len).1.ub = c.ub := by
  obtain ⟨hi1, hc1⟩ := writeDelimiter_ok c hi hc
  obtain ⟨hv1, hu1⟩ := c_writeDelimiter c o hv hi
  obtain ⟨hv2, -, hu2, -⟩ := c_writeData _ _ d len hv1 hi1 h0 h1
  have hc2 : CountOK (writeData (writeDelimiter c).1 (some d) len).1 := by rw [writeData_eq _ hi1 d len h0 h1]; exact hc1
  obtain ⟨hv3, hu3⟩ := bump_refines _ _ hv2 hc2
  rw [resultCharacters_eq]
  exact ⟨hv3, hu3.trans (hu2.trans hu1)⟩
theorem c_resultCharacters_null (c : CCtx ρ) (o : Result.Out) (len : Int) (hv : cview c = oview o) (hi : IfaceOK c) (hc : CountOK c) :
    cview (SCPI_ResultCharacters c none len).1 = oview (Result.resultCharacters o []) ∧
    (SCPI_ResultCharacters c none len).1.ub = c.ub := by
  obtain ⟨hv1, hu1⟩ := c_writeDelimiter c o hv hi
  obtain ⟨hv3, hu3⟩ := bump_refines _ (Result.writeData (Result.writeDelimiter o) [])
    (hv1.trans (by rw [oview, oview, Result.writeData, List.append_nil])) (writeDelimiter_ok c hi hc).2
  rw [resultCharacters_eq, c_writeData_nothing _ none len (Or.inl rfl)]
  exact ⟨hv3, hu3.trans hu1⟩
/-- the only undefined case of the function itself: the increment of a counter that is at the maximum of its type -/
theorem c_resultCharacters_overflow (c : CCtx ρ) (p : Option (List UInt8)) (len : Int) (h : c.output_count = 9223372036854775807) :
    (SCPI_ResultCharacters c p len).1.ub = true := by
  rw [resultCharacters_eq, bump, decide_eq_false (by rw [writeData_count, writeDelimiter_count, if_neg (by omega)]; omega)]
  rfl
/-- three items after a pending separator come out as ";A,BC,D" with the counter at 3 -/
example :
    let c1 := (SCPI_ResultCharacters (ex (-1) false) (some [65, 0]) 1).1
    let c2 := (SCPI_ResultCharacters c1 (some [66, 67, 0]) 2).1
    let c3 := (SCPI_ResultCharacters c2 (some [68, 0]) 1)
    cview c3.1 = (3, false, [49, 59, 65, 44, 66, 67, 44, 68], 0) ∧ c3.2 = 2 ∧ c3.1.ub = false := by decide

end ScpiVerif.Props.C06Gen
