/-
C07 — Every value the library formats as a result decodes back to the same value.  Each round-trip theorem restates
the one of the same name in ScpiVerif/Lemmas/RoundTrip.lean, where the proofs are (there the token type and the base
are spelled as `if`s; `intTokType` and `baseNat` below unfold to them).  Composition of the writer side (C14 canonical
digits, C17 block encoding, the quoting of C18) with the lexer (C13) and the readers.  PARTIAL for floating point: the
text shape is proved to be accepted whole by the decimal recogniser and converted whole by strtod; closeness to 6 / 15
digits then rests on the C library's printf/strtod (trusted, compared on every run — C16 / C04).
-/
import ScpiVerif.Model.Ctx
import ScpiVerif.Spec.Message
import ScpiVerif.Lemmas.RoundTrip
import ScpiVerif.Lemmas.FieldWidths

namespace ScpiVerif.Props.C07
open ScpiVerif ScpiVerif.Lexer ScpiVerif.Spec ScpiVerif.Spec.Message

/-- token type a formatted integer must lex as -/
def intTokType (base : Int) : TokType :=
  if base = 2 then .binnum else if base = 8 then .octnum else if base = 16 then .hexnum else .decimal

def baseNat (base : Int) : Nat := if base = 2 then 2 else if base = 8 then 8 else if base = 16 then 16 else 10

/-- unsigned integers of 32 / 64 bits in bases 2, 8, 10, 16: the emitted text (base prefix + canonical digits)
is one program data element of the right type covering the whole text, and the unsigned reader of that
width converts it back to exactly the value; smaller widths (8, 16 bit) are emitted through the 32-bit path -/
theorem unsigned_roundtrip (w : Nat) (hw : w = 32 ∨ w = 64) (v : Nat) (hv : v < 2^w) (base : Int)
    (hb : base = 2 ∨ base = 8 ∨ base = 10 ∨ base = 16) (tail : Bytes)
    (htail : tail = [] ∨ tail.head? = some 44 ∨ tail.head? = some 59 ∨ tail.head? = some 10 ∨ tail.head? = some 13) :
    let text := intText w v base false
    let mem := text ++ tail
    let (p, tok, _) := Parser.parseProgramData mem 0
    p = text.length ∧ tok.type = intTokType base ∧
    Prim.strtoulTo w mem tok.ptr (baseNat base) = (text.length - tok.ptr, v) :=
  Lemmas.RoundTrip.unsigned_roundtrip w hw v hv base hb tail htail

/-- signed integers (decimal, '-' for negative values including the most negative one): read back exactly
by the signed reader of the same width -/
theorem signed_roundtrip (w : Nat) (hw : w = 32 ∨ w = 64) (pat : Nat) (hv : pat < 2^w) (tail : Bytes)
    (htail : tail = [] ∨ tail.head? = some 44 ∨ tail.head? = some 59 ∨ tail.head? = some 10 ∨ tail.head? = some 13) :
    let text := intText w pat 10 true
    let mem := text ++ tail
    let (p, tok, _) := Parser.parseProgramData mem 0
    p = text.length ∧ tok.type = .decimal ∧ tok.ptr = 0 ∧
    Prim.strtolTo w mem 0 10 = (text.length, Prim.wrapSigned w pat) :=
  Lemmas.RoundTrip.signed_roundtrip w hw pat hv tail htail

/-- 8- and 16-bit values are emitted through the 32-bit writers after sign / zero extension and read back through the 32-bit
readers.  The statement is the arithmetic step only: the extended pattern is a 32-bit pattern of the same signed value, so
`signed_roundtrip` at `w = 32` for `signExtend n 32 pat` delivers `wrapSigned n pat` -/
theorem narrow_roundtrip (n : Nat) (hn : n = 8 ∨ n = 16) (pat : Nat) (hv : pat < 2^n) :
    Prim.wrapSigned 32 (Result.signExtend n 32 pat) = Prim.wrapSigned n pat ∧ Result.signExtend n 32 pat < 2^32 :=
  Lemmas.RoundTrip.narrow_roundtrip n hn pat hv

/-- text with arbitrary 7-bit content (both quote characters included): the emitted string is one string
token covering the whole text, and SCPI_ParamCopyText with a large enough buffer recovers the content -/
theorem text_roundtrip (s : Bytes) (hs : ∀ b ∈ s, 1 ≤ b ∧ b ≤ 127) (cap : Nat) (hcap : (quote s).length < cap) (tail : Bytes)
    (htail : tail = [] ∨ tail.head? = some 44 ∨ tail.head? = some 59 ∨ tail.head? = some 10 ∨ tail.head? = some 13) :
    let text := quote s
    let (p, tok, _) := Lexer.lexString (text ++ tail) 0
    p = text.length ∧ tok = ⟨.doubleQuote, 0, text.length⟩ ∧ Ctx.copyText text 34 cap = (s, true) :=
  Lemmas.RoundTrip.text_roundtrip s hs cap hcap tail htail

/-- arbitrary blocks with arbitrary bytes: the emitted block is one block token whose payload is the data -/
theorem block_roundtrip (d : Bytes) (hd : d.length < 10^9) (tail : Bytes) :
    let text := encodeBlock d
    let (p, tok, _) := Lexer.lexBlock (text ++ tail) 0
    p = text.length ∧ tok.type = .block ∧ ((text ++ tail).drop tok.ptr).take tok.len.toNat = d :=
  Lemmas.RoundTrip.block_roundtrip d hd tail

/-- booleans are emitted as the texts `0` / `1` (the writer's side only; the boolean reader is not in the statement) -/
theorem bool_roundtrip (b : Bool) :
    intText 32 (if b then 1 else 0) 10 false = (if b then [49] else [48]) := Lemmas.RoundTrip.bool_roundtrip b

/-- floating point, shape only: every text of the %g output language  -?d(.d+)?(e[+-]dd+)?  is accepted whole
by the decimal recogniser and converted whole by strtod -/
theorem float_text_accepted (neg : Bool) (ip fp ex : Bytes) (eneg : Bool)
    (hip : ip ≠ [] ∧ ∀ b ∈ ip, 48 ≤ b ∧ b ≤ 57) (hfp : ∀ b ∈ fp, 48 ≤ b ∧ b ≤ 57) (hex : ∀ b ∈ ex, 48 ≤ b ∧ b ≤ 57) (tail : Bytes)
    (htail : tail = [] ∨ tail.head? = some 44 ∨ tail.head? = some 59 ∨ tail.head? = some 10 ∨ tail.head? = some 13) :
    let text : Bytes := (if neg then [45] else []) ++ ip ++ (if fp = [] then [] else [46] ++ fp) ++
                        (if ex = [] then [] else [101] ++ (if eneg then [45] else [43]) ++ ex)
    (Lexer.lexDecimal (text ++ tail) 0).2.2 = text.length ∧ Prim.strtodLen (text ++ tail) 0 = text.length :=
  Lemmas.RoundTrip.float_text_accepted neg ip fp ex eneg hip hfp hex tail htail

/-- ASCII arrays are written element by element through the scalar writers; the element separators depend on the item counter
`context->output_count`, which (as compiled from the current source) is signed and at least 32 bits wide: arrays of fewer than 2^31
elements are separated by commas throughout (widths regenerated by the translator on every run) -/
theorem item_counter_wide_enough :
    Lemmas.FieldWidths.SignedAtLeast Gen.fw_ctx_output_count 32 :=
  Lemmas.FieldWidths.output_count

end ScpiVerif.Props.C07
