/-
C10 — The error queue is a bounded FIFO that marks overflow and owns its texts.
Property theorems only; helper lemmas in ScpiVerif/Lemmas/Fifo.lean.  The theorems about the Lean text GENERATED from fifo.c are in Props/C10Gen.lean.
-/
import ScpiVerif.Model.Fifo
import ScpiVerif.Lemmas.Fifo
import ScpiVerif.Lemmas.FieldWidths

namespace ScpiVerif.Props.C10
open ScpiVerif ScpiVerif.Fifo

/-- the ring buffer invariant is established by fifo_init and kept by every fifo operation -/
theorem fifo_inv_init {α} (n : Nat) (d : α) (hn : 1 ≤ n) : Inv (Fifo.init n d) := Lemmas.Fifo.inv_init n d hn
theorem fifo_inv_add {α} (f : Fifo α) (v : α) (h : Inv f) : Inv (add f v).1 := Lemmas.Fifo.inv_add f v h
theorem fifo_inv_remove {α} (f : Fifo α) (h : Inv f) : Inv (remove f).1 := Lemmas.Fifo.inv_remove f h
theorem fifo_inv_removeLast {α} (f : Fifo α) (h : Inv f) : Inv (removeLast f).1 := Lemmas.Fifo.inv_removeLast f h
theorem fifo_inv_clear {α} (f : Fifo α) (h : Inv f) : Inv (Fifo.clear f) := Lemmas.Fifo.inv_clear f h

/-- each ring operation is the corresponding list operation on the abstraction -/
theorem fifo_abs_init {α} (n : Nat) (d : α) : abs (Fifo.init n d) = [] := Lemmas.Fifo.abs_init n d
theorem fifo_abs_add {α} (f : Fifo α) (v : α) (h : Inv f) :
    (add f v).2 = decide ((abs f).length < f.size) ∧
    abs (add f v).1 = if (abs f).length < f.size then abs f ++ [v] else abs f := Lemmas.Fifo.abs_add f v h
theorem fifo_abs_remove {α} (f : Fifo α) (h : Inv f) :
    (remove f).2 = (abs f).head? ∧ abs (remove f).1 = (abs f).tail := Lemmas.Fifo.abs_remove f h
theorem fifo_abs_removeLast {α} (f : Fifo α) (h : Inv f) :
    (removeLast f).2 = (abs f).getLast? ∧ abs (removeLast f).1 = (abs f).dropLast := Lemmas.Fifo.abs_removeLast f h
theorem fifo_abs_clear {α} (f : Fifo α) : abs (Fifo.clear f) = [] := Lemmas.Fifo.abs_clear f
theorem fifo_abs_count {α} (f : Fifo α) (h : Inv f) : cnt f = (abs f).length := Lemmas.Fifo.abs_count f h

/-- Full statement: for every capacity n ≥ 1, every configuration (with/without device-dependent
text), every history of pushes (any code, any text, any declared length, allocation succeeding or
failing), pops, clears, counts and SYST:ERR? queries, the observable results are exactly those of
the abstract bounded FIFO with overflow marker. -/
theorem queue_refines (n : Nat) (hn : 1 ≤ n) (withInfo : Bool) (ops : List Op) :
    (run (EQ.step withInfo) (EQ.init n) ops).2 = (run (specStep n withInfo) [] ops).2 ∧
    EQ.abs (run (EQ.step withInfo) (EQ.init n) ops).1 = (run (specStep n withInfo) [] ops).1 :=
  Lemmas.Fifo.queue_refines n hn withInfo ops

/-- Ownership: in every reachable state every live allocation is referenced by exactly one queue
entry (no leak), nothing was freed twice, and an empty queue holds no allocation. -/
theorem queue_owns_texts (n : Nat) (hn : 1 ≤ n) (withInfo : Bool) (ops : List Op) :
    let q := (run (EQ.step withInfo) (EQ.init n) ops).1
    EQ.Owned q ∧ (EQ.abs q = [] → q.alloc.live = []) :=
  Lemmas.Fifo.queue_owned n hn withInfo ops

/-- if storing the text fails the error is still queued, without text -/
theorem alloc_failure_still_queues (n : Nat) (q : SpecQ) (c : Int) (s : Bytes) (l : Nat) (h : q.length < n) :
    (specStep n true q (.push c (some s) l false)).1 = q ++ [(c, none)] := by
  simp [specStep, specPush, specText, h]

/-- overflow replaces the newest entry by -350 and keeps everything older -/
theorem overflow_marks_newest (n : Nat) (q : SpecQ) (e : Int × Option Bytes) (h : ¬ q.length < n) :
    specPush n q e = q.dropLast ++ [(-350, none)] := by
  simp [specPush, h, overflowCode]

example : (run (EQ.step true) (EQ.init 2) [.push (-100) (some [65,66]) 0 true, .push 5 none 0 true,
    .push 7 none 0 true, .pop, .pop, .pop]).2 =
    [.pushed [-100], .pushed [5], .pushed [7, -350], .popped (-100) (some [65,66]), .popped (-350) none, .popped 0 none] := by
  decide +kernel

/-- the ring indices and the count of the error queue are 16-bit signed fields in the current source (capacities up to 32767, which is the
range the refinement theorem is meant for), error codes are 16-bit signed (widths regenerated by the translator on every run) -/
theorem ring_fields :
    (Lemmas.FieldWidths.SignedAtLeast Gen.fw_fifo_wr 16 ∧ Lemmas.FieldWidths.SignedAtLeast Gen.fw_fifo_rd 16 ∧
     Lemmas.FieldWidths.SignedAtLeast Gen.fw_fifo_count 16 ∧ Lemmas.FieldWidths.SignedAtLeast Gen.fw_fifo_size 16) ∧ Gen.fw_error_error_code = (16, true) :=
  ⟨Lemmas.FieldWidths.fifo_fields, Lemmas.FieldWidths.error_code⟩

end ScpiVerif.Props.C10
