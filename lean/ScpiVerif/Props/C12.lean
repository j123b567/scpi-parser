/-
C12 — Events are classified, latched and announced as IEEE 488.2 / SCPI prescribe.
Property theorems only; helper lemmas in ScpiVerif/Lemmas/Regs.lean.
-/
import ScpiVerif.Model.Regs
import ScpiVerif.Lemmas.Regs

namespace ScpiVerif.Props.C12
open ScpiVerif ScpiVerif.Regs

/-- the GENERATED class table classifies every 16-bit code as the standard prescribes -/
theorem class_bit (code : Int) (h : -32768 ≤ code ∧ code ≤ 32767) :
    classBits Gen.errClassTable code = specClassBit code := Lemmas.Regs.class_bit code h

/-- a queued error sets exactly the bit of its class in the standard event register -/
theorem push_sets_exactly_class_bit (s : St) (code : Int) (hwf : WF s) (h : -32768 ≤ code ∧ code ≤ 32767) :
    get (errPush s code) ESR = get s ESR ||| specClassBit code := Lemmas.Regs.push_sets_class_bit s code hwf h

/-- a 0→1 change of a condition bit latches the same bit in the event register -/
theorem cond_latches_oper (s : St) (v : Reg) (hwf : WF s) :
    get (regSet s OPERC v) OPER = get s OPER ||| (v &&& ~~~(get s OPERC)) ∧ get (regSet s OPERC v) OPERC = v :=
  Lemmas.Regs.cond_latches_oper s v hwf
theorem cond_latches_ques (s : St) (v : Reg) (hwf : WF s) :
    get (regSet s QUESC v) QUES = get s QUES ||| (v &&& ~~~(get s QUESC)) ∧ get (regSet s QUESC v) QUESC = v :=
  Lemmas.Regs.cond_latches_ques s v hwf

/-- operations defined to clear (bits of) event register `ev` -/
def clears (ev : Nat) : Op → Bool
  | .set n _ => n == ev
  | .clearBits n _ => n == ev
  | .cls => true
  | .esrQ => ev == ESR
  | .operQ => ev == OPER
  | .quesQ => ev == QUES
  | .preset => ev == QUES
  | _ => false

/-- event bits stay set under every other operation -/
theorem event_monotone (s : St) (op : Op) (ev : Nat) (hev : ev = ESR ∨ ev = OPER ∨ ev = QUES)
    (hwf : WF s) (hop : op.ok = true) (hnc : clears ev op = false) :
    get s ev &&& ~~~(get (step s op) ev) = 0 := Lemmas.Regs.event_monotone s op ev hev hwf hop hnc

/-- single register write: the service-request callback fires at most once, only with MSS set in the
value passed, the value passed is the status byte after the write, and it fires whenever MSS rises -/
theorem srq_regset (s : St) (name : Nat) (v : Reg) (hwf : WF s) (hc : Coherent s) :
    let s' := regSet s name v
    (s'.srq = s.srq ∨ (s'.srq = s.srq ++ [get s' STB] ∧ mss s' = true)) ∧
    (mss s = false → mss s' = true → s'.srq = s.srq ++ [get s' STB]) :=
  Lemmas.Regs.srq_regset s name v hwf hc

/-- every operation: callbacks are appended only, each carries MSS, and a rise of MSS across the
operation implies at least one callback -/
theorem srq_step (s : St) (op : Op) (hwf : WF s) (hc : Coherent s) (hop : op.ok = true) :
    ∃ new, (step s op).srq = s.srq ++ new ∧ (∀ v ∈ new, v &&& stbSRQ ≠ 0) ∧
      (mss s = false → mss (step s op) = true → new ≠ []) :=
  Lemmas.Regs.srq_step s op hwf hc hop

example : (([Op.set SRE 0x20, .set ESE 0x20, .errPush (-100)].foldl step (St.init 2)).srq) = [0x60#16, 0x64#16] ∨
          (([Op.set SRE 0x20, .set ESE 0x20, .errPush (-100)].foldl step (St.init 2)).srq) = [0x60#16] := by decide

end ScpiVerif.Props.C12
