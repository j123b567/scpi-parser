/-
C02 — Each message unit runs exactly the first command matching its effective header.
Property theorems only; helper lemmas in ScpiVerif/Lemmas/Dispatch.lean and DispatchCompose.lean.

`Spec.Message.unitsOf` splits the raw message into units with the unit specification of C13,
`Spec.Message.effective` is the statement's rule for the effective header, `Spec.Message.dispatch`
the first table entry whose pattern LANGUAGE (Spec.Pattern.accepts, C03) contains it.
-/
import ScpiVerif.Model.Ctx
import ScpiVerif.Spec.Message
import ScpiVerif.Props.C03
import ScpiVerif.Lemmas.Dispatch

namespace ScpiVerif.Props.C02
open ScpiVerif ScpiVerif.Ctx ScpiVerif.Lexer ScpiVerif.Spec.Message
open ScpiVerif.Spec hiding Expect

-- `TableOK`, `NoScript113`, `dispatchTrace`, `realises` (namespace ScpiVerif.Props.C02) are defined in
-- ScpiVerif/Lemmas/DispatchDefs.lean, so that the helper lemmas can speak about them.

/-- Full statement: for every context, every command table of the grammar (overlapping and duplicate
patterns included), every script assignment and every well-formed message lying in the input buffer,
the handler invocations and -113 errors produced by SCPI_Parse are, in message order and one per unit
that has a header, exactly what the statement prescribes: the handler of the FIRST entry whose pattern
accepts the unit's effective header, entered with that effective header, or else one -113 carrying the
offending text. -/
theorem dispatch_correct (c : Ctx) (base len : Nat) (pats : List Pattern.Pat)
    (hb : base + len ≤ c.buf.length) (ht : TableOK c.cmds pats) (hs : NoScript113 c.cmds)
    (hwf : ∀ u ∈ unitsOf ((c.buf.drop base).take len), u.wellFormed = true ∧ 0 ≤ u.nParams) :
    let msg := (c.buf.drop base).take len
    let us := (unitsOf msg).filter (fun u => !u.header.isEmpty)
    let want := expectDispatch pats (unitsOf msg)
    let got := dispatchTrace ((parse c base len).1.events.drop c.events.length)
    got.length = want.length ∧ us.length = want.length ∧
    ∀ k (hk : k < want.length), ∃ e u, got[k]? = some e ∧ us[k]? = some u ∧ realises c.cmds u.header want[k] e :=
  Lemmas.Dispatch.dispatch_correct c base len pats hb ht hs hwf

/-- the effective-header rule in the statement's words -/
theorem effective_rule (prev : Option Bytes) (hdr : Bytes) :
    effective prev hdr =
      (match prev with
       | none => hdr
       | some p => if hdr.head? = some 58 ∨ hdr.head? = some 42 ∨ p.head? = some 42 then hdr else pathOf p ++ hdr) := by
  unfold effective
  cases prev with
  | none => rfl
  | some p =>
    -- `if a then x else if b then x else y` is `if a ∨ b then x else y`
    simp only [beq_iff_eq, ← or_assoc]
    split
    · rw [if_pos (Or.inl ‹_›)]
    · simp only [or_iff_right ‹¬ _›]

/-! ### non-vacuity: the table ["A:B" -> 7, "A:C" -> 8] and the message "A:B;C;X\n" -/

def exTable : List Cmd := [⟨[65,58,66], 7, []⟩, ⟨[65,58,67], 8, [.ret true]⟩]
def exPats : List Pattern.Pat :=
  [⟨false, false, [⟨[65], [65], false, false⟩, ⟨[66], [66], false, false⟩]⟩,
   ⟨false, false, [⟨[65], [65], false, false⟩, ⟨[67], [67], false, false⟩]⟩]
/-- a context whose input buffer starts with "A:B;C;X\n" -/
def exCtx : Ctx := { Ctx.init exTable [] 16 4 false with buf := [65,58,66,59,67,59,88,10,0,0,0,0,0,0,0,0] }

example : TableOK exCtx.cmds exPats := by
  refine ⟨rfl, ?_⟩
  intro i h
  match i, h with
  | 0, _ => exact ⟨_, rfl, (by show Pattern.parsePattern [65,58,66] = _; decide), by decide⟩
  | 1, _ => exact ⟨_, rfl, (by show Pattern.parsePattern [65,58,67] = _; decide), by decide⟩
example : NoScript113 exCtx.cmds := by
  intro cmd hc op ho code info he
  simp [exCtx, Ctx.init, exTable] at hc
  rcases hc with rfl | rfl <;> simp at ho
  subst ho; cases he
example : ∀ u ∈ unitsOf ((exCtx.buf.drop 0).take 8), u.wellFormed = true ∧ 0 ≤ u.nParams := by decide
-- "C" and "X" are completed to "A:C" and "A:X"
example : expectDispatch exPats (unitsOf ((exCtx.buf.drop 0).take 8)) =
    [.run 0 [65,58,66], .run 1 [65,58,67], .undefined [65,58,88]] := by decide
example : dispatchTrace ((parse exCtx 0 8).1.events.drop exCtx.events.length) =
    [.handler 7 [65,58,66], .handler 8 [65,58,67], .error (-113) (some [88])] := by decide +kernel

/-- SCPI_CmdTag inside a handler: the tag of the matched entry -/
theorem handler_sees_tag (h : HState) (cmd : Cmd) (hd : h.done = false) (hc : h.c.cur = some cmd) :
    (runOp h .iTag).c.events = h.c.events ++ [Ev.tag cmd.tag] := by
  simp [runOp, hd, hc, emit]

/-- SCPI_IsCmd inside a handler (the "pattern test"): for a matched entry whose pattern belongs to the grammar of C03 and a
header text over the header alphabet, the answer is membership of the text in the language of THAT entry's pattern -/
theorem handler_pattern_test (h : HState) (cmd : Cmd) (hd : h.done = false) (hc : h.c.cur = some cmd)
    (p : Pattern.Pat) (hp : Pattern.parsePattern cmd.pattern = some p) (hwf : Pattern.wellFormed p.kws = true)
    (s : Bytes) (hs : (s.takeWhile (· ≠ 0)).all Props.C03.headerAlphabet = true) :
    (runOp h (.iIsCmd s)).c.events = h.c.events ++ [Ev.test (!(Pattern.accepts p (s.takeWhile (· ≠ 0))).isEmpty)] := by
  have hm := (Props.C03.match_iff_language cmd.pattern p hp hwf (s.takeWhile (· ≠ 0)) hs).1
  simp only [runOp, hd, hc, emit, Bool.false_eq_true, if_false, hm]

/-- SCPI_Match(pattern, text, len): membership of the text in the language of the given pattern, whatever the context -/
theorem api_match (h : HState) (hd : h.done = false) (pat : Bytes) (p : Pattern.Pat)
    (hp : Pattern.parsePattern pat = some p) (hwf : Pattern.wellFormed p.kws = true)
    (s : Bytes) (hs : s.all Props.C03.headerAlphabet = true) :
    (runOp h (.iMatch pat s)).c.events = h.c.events ++ [Ev.test (!(Pattern.accepts p s).isEmpty)] := by
  have hm := (Props.C03.match_iff_language pat p hp hwf s hs).1
  simp only [runOp, hd, emit, Bool.false_eq_true, if_false, hm]

-- inside the handler of "A:B": "a:b" is accepted, "A:C" refused
example : (runOp { c := { exCtx with cur := some ⟨[65,58,66], 7, []⟩ } } (.iIsCmd [97,58,98])).c.events = [Ev.test true] ∧
    (runOp { c := { exCtx with cur := some ⟨[65,58,66], 7, []⟩ } } (.iIsCmd [65,58,67])).c.events = [Ev.test false] := by
  decide +kernel

end ScpiVerif.Props.C02
