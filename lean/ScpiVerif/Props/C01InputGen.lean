/-
C01 / C08, generated tie: the Lean text translated from SCPI_Input of libscpi/src/parser.c on every run (Gen/InputC.lean), with
its three library calls (scpiParser_detectProgramMessageUnit, SCPI_Parse, SCPI_ErrorPush) instantiated by the hand model's
functions, computes what the hand model's `Ctx.input` computes, no CHECK of the generated code fails and the emitted fuel
suffices (`c_input_refines`, through Lemmas/InputC.lean); hence C01's `input_wf` and C08's `flush_executes_pending` for the
generated function.  This module is an obligation of C01's and C08's check whenever the translator ACCEPTS the current SCPI_Input.
-/
import ScpiVerif.Model.Ctx
import ScpiVerif.Lemmas.InputC
import ScpiVerif.Lemmas.ChunkingLoop

namespace ScpiVerif.Props.C01InputGen
open ScpiVerif ScpiVerif.Ctx ScpiVerif.Gen.InputC ScpiVerif.Lemmas.InputC
open ScpiVerif.Lexer (Bytes)

/-- the scan loop of the generated SCPI_Input, from every state `Inv` describes and every scan offset inside the pending bytes,
with fuel above the number of pending bytes: it computes what the hand model's `inputLoop` computes (context, return value),
and `Inv` holds afterwards - in particular `ub = false` (every memmove inside the buffer, no wrapping conversion),
`outOfFuel = false`, and position < buffer length (`input_wf` of Props/C01.lean for the loop of the C text) -/
theorem c_input_loop (fuel : Nat) (cc : CC) (res : Bool) (tot cmdlen : Int) (hi : Inv cc) (h0 : 0 ≤ tot)
    (h1 : tot ≤ cc.buffer_position) (hf : (cc.buffer_position - tot).toNat < fuel) :
    (toM (SCPI_Input_loop1 detectM parseM pushM fuel cc res tot cmdlen).1,
      (SCPI_Input_loop1 detectM parseM pushM fuel cc res tot cmdlen).2.1) = inputLoop fuel (toM cc) tot.toNat res ∧
    Inv (SCPI_Input_loop1 detectM parseM pushM fuel cc res tot cmdlen).1 :=
  loop_refines fuel cc res tot cmdlen hi h0 h1 hf

theorem c_input_loop_wf (fuel : Nat) (cc : CC) (res : Bool) (tot cmdlen : Int) (hi : Inv cc) (h0 : 0 ≤ tot)
    (h1 : tot ≤ cc.buffer_position) (hf : (cc.buffer_position - tot).toNat < fuel) :
    WF (toM (SCPI_Input_loop1 detectM parseM pushM fuel cc res tot cmdlen).1) ∧
    (SCPI_Input_loop1 detectM parseM pushM fuel cc res tot cmdlen).1.ub = false ∧
    (SCPI_Input_loop1 detectM parseM pushM fuel cc res tot cmdlen).1.outOfFuel = false :=
  let h := (loop_refines fuel cc res tot cmdlen hi h0 h1 hf).2
  ⟨h.wf, h.ub, h.oof⟩

/-- an over-long chunk (Props/C01.lean `overrun_copies_nothing`, for the generated function): the generated SCPI_Input is the
hand model's `input` (buffer invalidated, -363 pushed, nothing copied), returns FALSE, and no CHECK fails; `hlen`: the chunk length is a C `int` -/
theorem c_overrun_copies_nothing (cc : CC) (hi : Inv cc) (data : Bytes) (hd : data ≠ [])
    (hlen : data.length ≤ 2147483647) (hov : data.length + 1 > (toM cc).bufLen - (toM cc).position) :
    Ctx.input (toM cc) data = emit (toM (SCPI_Input detectM parseM pushM cc (some data) data.length).1)
        (.input (SCPI_Input detectM parseM pushM cc (some data) data.length).2) ∧
    (SCPI_Input detectM parseM pushM cc (some data) data.length).1.ub = false ∧
    (SCPI_Input detectM parseM pushM cc (some data) data.length).1.outOfFuel = false ∧
    (SCPI_Input detectM parseM pushM cc (some data) data.length).2 = false :=
  let h := input_overrun_spec cc hi data hd hlen hov
  ⟨h.1.eq, h.1.inv.ub, h.1.inv.oof, h.2⟩

theorem c_inv_of_wf (c : Ctx) (t ht : Int) (h : WF c) (hl : c.bufLen ≤ 2147483647) : Inv (toC c t ht) ∧ toM (toC c t ht) = c :=
  ⟨inv_toC c t ht h hl, toM_toC c t ht⟩

/-- generated SCPI_Input = hand model `Ctx.input` (the hand model logs the return value as an event): for every well-formed
context whose buffer length fits an `int`, every chunk whose length fits an `int` (the `len` parameter of the C function) - the
empty one (flush) and over-long ones included - and whatever parser_state holds; no CHECK fails, the loop does not run out of fuel -/
theorem c_input_refines (c : Ctx) (data : Bytes) (t ht : Int) (h : WF c) (hl : c.bufLen ≤ 2147483647)
    (hlen : data.length ≤ 2147483647) :
    Ctx.input c data = emit (toM (SCPI_Input detectM parseM pushM (toC c t ht) (some data) data.length).1)
        (.input (SCPI_Input detectM parseM pushM (toC c t ht) (some data) data.length).2) ∧
    (SCPI_Input detectM parseM pushM (toC c t ht) (some data) data.length).1.ub = false ∧
    (SCPI_Input detectM parseM pushM (toC c t ht) (some data) data.length).1.outOfFuel = false := by
  obtain ⟨h1, h2⟩ := input_spec (toC c t ht) (inv_toC c t ht h hl) data hlen
  rw [toM_toC] at h1
  exact ⟨h1, h2.ub, h2.oof⟩

/-- the same from every state `Inv` describes (what a sequence of calls leaves behind) -/
theorem c_input_refines_inv (cc : CC) (hi : Inv cc) (data : Bytes) (hlen : data.length ≤ 2147483647) :
    Ctx.input (toM cc) data = emit (toM (SCPI_Input detectM parseM pushM cc (some data) data.length).1)
        (.input (SCPI_Input detectM parseM pushM cc (some data) data.length).2) ∧
    (SCPI_Input detectM parseM pushM cc (some data) data.length).1.ub = false ∧
    (SCPI_Input detectM parseM pushM cc (some data) data.length).1.outOfFuel = false :=
  let h := input_spec cc hi data hlen
  ⟨h.eq, h.inv.ub, h.inv.oof⟩

/-- Props/C01.lean `input_wf` for the generated function: after SCPI_Input on ANY chunk (zero-length and over-long ones
included) the buffer object has its declared length, position < length, no out-of-bounds access was recorded by the
instantiated library functions, and no CHECK of the generated text failed -/
theorem c_input_wf (c : Ctx) (data : Bytes) (t ht : Int) (h : WF c) (hl : c.bufLen ≤ 2147483647)
    (hlen : data.length ≤ 2147483647) :
    WF (toM (SCPI_Input detectM parseM pushM (toC c t ht) (some data) data.length).1) ∧
    (toM (SCPI_Input detectM parseM pushM (toC c t ht) (some data) data.length).1).position <
      (toM (SCPI_Input detectM parseM pushM (toC c t ht) (some data) data.length).1).bufLen ∧
    (SCPI_Input detectM parseM pushM (toC c t ht) (some data) data.length).1.ub = false := by
  have hi := (input_spec (toC c t ht) (inv_toC c t ht h hl) data hlen).inv
  exact ⟨hi.wf, hi.wf.2.1, hi.ub⟩

/-- Props/C08.lean `flush_executes_pending` for the generated function: the zero-length call hands exactly the pending
bytes to SCPI_Parse as one message (which requires the NUL store behind them), empties the buffer and returns its verdict -/
theorem c_flush_executes_pending (c : Ctx) (t ht : Int) (h : WF c) (hl : c.bufLen ≤ 2147483647) :
    let r := SCPI_Input detectM parseM pushM (toC c t ht) (some []) 0
    (toM r.1).position = 0 ∧
    ((toM r.1).events.drop c.events.length).head? = some (Ev.parseMsg (c.buf.take c.position)) ∧
    r.1.ub = false := by
  intro r
  have hr : Ctx.input c [] = emit (toM r.1) (.input r.2) ∧ r.1.ub = false ∧ r.1.outOfFuel = false :=
    c_input_refines c [] t ht h hl (by decide)
  have hf := Lemmas.Chunking.flush_executes_pending c h
  simp only at hf
  rw [hr.1] at hf
  refine ⟨hf.1, ?_, hr.2.1⟩
  have h2 := hf.2.1
  show ((toM r.1).events.drop c.events.length).head? = _
  have he : (emit (toM r.1) (Ev.input r.2)).events = (toM r.1).events ++ [Ev.input r.2] := rfl
  rw [he, List.drop_append, List.head?_append] at h2
  cases hc : ((toM r.1).events.drop c.events.length).head? with
  | some x => rw [hc] at h2; exact h2
  | none =>
    rw [hc] at h2
    cases hk : (c.events.length - (toM r.1).events.length) with
    | zero => rw [hk] at h2; simp at h2
    | succ k => rw [hk] at h2; simp at h2

/-! ### concrete runs of the generated SCPI_Input (kernel-evaluated) against the hand model: one per path of `c_input_refines`
(fits + scan loop: also `c_input_wf`; overrun; flush: also `c_flush_executes_pending`) -/

/-- 8-byte buffer, one command "A" with a tag-reporting handler -/
def ex0 : Ctx := Ctx.init [⟨[65], 1, [.iTag]⟩] [] 8 4 true

def obs (r : CC × Bool) : Bytes × Nat × Bool × List Ev × Bool × Bool :=
  ((toM r.1).buf, (toM r.1).position, r.2, (toM r.1).events, r.1.ub, r.1.outOfFuel)
def obsM (c : Ctx) : Bytes × Nat × List Ev := (c.buf, c.position, c.events)

-- 7 bytes "A\nA\nAAA" into the empty 8-byte buffer: one byte is left for the NUL; "AAA" stays pending at the front
example :
    let r := SCPI_Input detectM parseM pushM (toC ex0 0 0) (some [65, 10, 65, 10, 65, 65, 65]) 7
    obsM (Ctx.input ex0 [65, 10, 65, 10, 65, 65, 65]) = obsM (emit (toM r.1) (.input r.2)) ∧
    (toM r.1).position = 3 ∧ (toM r.1).buf.take 3 = [65, 65, 65] ∧ r.2 = true ∧ r.1.ub = false ∧ r.1.outOfFuel = false := by
  decide +kernel

-- 8 bytes do not fit (the NUL needs the eighth)
example :
    let r := SCPI_Input detectM parseM pushM (toC ex0 0 0) (some [65, 65, 65, 65, 65, 65, 65, 65]) 8
    obsM (Ctx.input ex0 [65, 65, 65, 65, 65, 65, 65, 65]) = obsM (emit (toM r.1) (.input r.2)) ∧
    (toM r.1).position = 0 ∧ r.2 = false ∧ (toM r.1).events = [Ev.error (-363) none] ∧ r.1.ub = false := by
  decide +kernel

-- a flush: after "A\nAA" the message is executed and "AA" is moved to the front, where the byte behind it (buf[2]) is a stale
-- 'A'; the zero-length call has to store the NUL there, executes "AA" (no such command: -113) and empties the buffer
example :
    let c1 := Ctx.input ex0 [65, 10, 65, 65]
    let r := SCPI_Input detectM parseM pushM (toC c1 0 26) (some []) 0
    c1.position = 2 ∧ c1.buf.take 3 = [65, 65, 65] ∧
    obsM (Ctx.input c1 []) = obsM (emit (toM r.1) (.input r.2)) ∧
    (toM r.1).position = 0 ∧ (toM r.1).buf.take 3 = [65, 65, 0] ∧ r.2 = false ∧ r.1.ub = false := by
  decide +kernel

/-- a sequence of calls (`cstep`: the generated SCPI_Input, the caller appending the return value to the ghost log as the hand
model does): chunk by chunk the generated function computes the hand model's fold, and `Inv` is kept - in every call no CHECK
fails and fuel is left -/
theorem c_inputs_refine (cc : CC) (hi : Inv cc) (chunks : List Bytes) (hl : ∀ d ∈ chunks, d.length ≤ 2147483647) :
    toM (chunks.foldl cstep cc) = chunks.foldl Ctx.input (toM cc) ∧ Inv (chunks.foldl cstep cc) :=
  List.foldl_rel (r := fun a m => toM a = m ∧ Inv a) ⟨rfl, hi⟩ fun d hd a _ h =>
    h.1 ▸ cstep_refines a h.2 d (hl d hd)

/-- Props/C01.lean `inputs_wf` for the generated function: along every history of calls the context stays well formed
(position < length) and nothing undefined happens -/
theorem c_inputs_wf (c : Ctx) (t ht : Int) (h : WF c) (hb : c.bufLen ≤ 2147483647) (chunks : List Bytes)
    (hl : ∀ d ∈ chunks, d.length ≤ 2147483647) :
    WF (toM (chunks.foldl cstep (toC c t ht))) ∧ (chunks.foldl cstep (toC c t ht)).ub = false ∧
    (chunks.foldl cstep (toC c t ht)).outOfFuel = false :=
  let h := (c_inputs_refine (toC c t ht) (inv_toC c t ht h hb) chunks hl).2
  ⟨h.wf, h.ub, h.oof⟩

-- a chunk ending inside a message, its completion, a flush
example :
    let chunks : List Bytes := [[65, 10, 65], [10, 65, 65], []]
    let cc := chunks.foldl cstep (toC ex0 0 0)
    obsM (toM cc) = obsM (chunks.foldl Ctx.input ex0) ∧ (toM cc).position = 0 ∧ cc.ub = false ∧ cc.outOfFuel = false ∧
    (toM cc).events.length = 11 := by
  decide +kernel

end ScpiVerif.Props.C01InputGen
