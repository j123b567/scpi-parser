/-
C09 — Messages and units are isolated: nothing but status and errors carries over.  Proofs in
ScpiVerif/Lemmas/Isolation.lean.  Two contexts are related (`Rel`) when they agree on everything that is MEANT to
persist: command table, input-buffer size and the bytes currently pending in it, status registers, and the error queue
as an abstract FIFO (ring positions and allocation identities may differ).  Every other field of the context —
output_count, first_output, arbitrary_remaining, cmd_error, input_count, the parameter cursor, the matched entry,
cmd_raw, stale bytes of the input buffer beyond the pending data, the event history — is unconstrained.
-/
import ScpiVerif.Model.Ctx
import ScpiVerif.Spec.Isolation
import ScpiVerif.Lemmas.Isolation

namespace ScpiVerif.Props.C09
open ScpiVerif ScpiVerif.Ctx ScpiVerif.Lexer

-- `SameQueue`, `SameRegs`, `Rel`, `newObs` are defined in ScpiVerif/Spec/Isolation.lean (this namespace)

/-- one input call on related contexts: same observations, and the results are related again -/
theorem input_noninterference (c1 c2 : Ctx) (h : Rel c1 c2) (data : Bytes) :
    newObs c1 (input c1 data) = newObs c2 (input c2 data) ∧ Rel (input c1 data) (input c2 data) :=
  Lemmas.Isolation.input_noninterference c1 c2 h data

/-- Full statement: for ANY stream of chunks (messages that fail midway, leave blocks unfinished or end
in an incomplete unit included), a context that has been through any history behaves exactly like a
fresh one that was given the same registers, error queue and pending input -/
theorem stream_noninterference (c1 c2 : Ctx) (h : Rel c1 c2) (chunks : List Bytes) :
    newObs c1 (chunks.foldl input c1) = newObs c2 (chunks.foldl input c2) ∧
    Rel (chunks.foldl input c1) (chunks.foldl input c2) :=
  Lemmas.Isolation.stream_noninterference c1 c2 h chunks

/-- inside a message, the only state a unit inherits from the units before it is whether one of them
has responded (first_output) and the reference header for compound commands: processCommand resets
the rest -/
theorem unit_reset (c : Ctx) :
    let c' := { c with cmdError := true, inputCount := 7, out := { c.out with outputCount := 5, arbRemaining := 9 } }
    newObs c (processCommand c).1 = newObs c' (processCommand c').1 ∧
    (processCommand c).2 = (processCommand c').2 :=
  Lemmas.Isolation.unit_reset c

end ScpiVerif.Props.C09
