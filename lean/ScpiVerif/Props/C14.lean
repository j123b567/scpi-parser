/-
C14 — Integer-to-text conversion is exact for every value, base and buffer size.

The theorems are instances, at the two C widths, of those of ScpiVerif/Lemmas/IntFmt.lean (`toStr_spec`, `canon_ok`,
`canon_length_le`), which hold for any width with a valid divisor table.  `tbl32` / `tbl64` spell the same tables as
`Result.tbl32` / `tbl64` of Model/Result.lean.
The divisor tables and digit alphabets are the GENERATED ones (Gen/Tables.lean), so a change
of a constant in utils.c re-states these theorems about the new constant.
-/
import ScpiVerif.Gen.Tables
import ScpiVerif.Model.IntFmt
import ScpiVerif.Lemmas.IntFmt

namespace ScpiVerif.Props.C14
open ScpiVerif ScpiVerif.IntFmt

def tbl32 : DivTable := ⟨Gen.div32.1, Gen.div32.2.1, Gen.div32.2.2.1, Gen.div32.2.2.2⟩
def tbl64 : DivTable := ⟨Gen.div64.1, Gen.div64.2.1, Gen.div64.2.2.1, Gen.div64.2.2.2⟩

theorem tbl32_ok : Lemmas.IntFmt.tableOK 32 tbl32 = true := Lemmas.IntFmt.div32_ok
theorem tbl64_ok : Lemmas.IntFmt.tableOK 64 tbl64 = true := Lemmas.IntFmt.div64_ok

/-- the digit alphabets in the source are the model's -/
theorem digits_alphabet : Gen.digits32.toList = digitsTable ∧ Gen.digits64.toList = digitsTable := by
  decide

/-- Full statement, 32 bit: for every value, buffer length, base argument and signedness the
function stores exactly the leading `len` characters of the canonical text, returns how many it
stored, writes the NUL iff a byte remains, and no step is undefined (`ub = false`: no division by zero, digit
index < 16).  That `uval -= digit * x`, which the model computes modulo 2^w, never wraps is part of the proof
(`Lemmas.IntFmt.wrap_sub`), not of the statement. -/
theorem toStr32_spec (val len : Nat) (base : Int) (sign : Bool) (hv : val < 2^32) :
    let r := toStrBaseSign 32 tbl32 val len base sign
    r.1.chars = (canon 32 val base sign).take len ∧
    r.1.pos = min len (canon 32 val base sign).length ∧
    r.1.ub = false ∧
    r.2 = decide (min len (canon 32 val base sign).length < len) :=
  Lemmas.IntFmt.toStr_spec 32 tbl32 (.inl rfl) tbl32_ok val len base sign hv

theorem toStr64_spec (val len : Nat) (base : Int) (sign : Bool) (hv : val < 2^64) :
    let r := toStrBaseSign 64 tbl64 val len base sign
    r.1.chars = (canon 64 val base sign).take len ∧
    r.1.pos = min len (canon 64 val base sign).length ∧
    r.1.ub = false ∧
    r.2 = decide (min len (canon 64 val base sign).length < len) :=
  Lemmas.IntFmt.toStr_spec 64 tbl64 (.inr rfl) tbl64_ok val len base sign hv

/-- the canonical text has no leading zero (except "0" itself), only upper-case digits of the
base, and its value is `val` (signed reading when a '-' is present) -/
theorem canon_value32 (val : Nat) (base : Int) (sign : Bool) (hv : val < 2^32) :
    CanonOK 32 val base sign := Lemmas.IntFmt.canon_ok 32 val base sign

theorem canon_value64 (val : Nat) (base : Int) (sign : Bool) (hv : val < 2^64) :
    CanonOK 64 val base sign := Lemmas.IntFmt.canon_ok 64 val base sign

/-- the scratch buffers of the result writers (33 / 65 bytes) hold every text with its NUL -/
theorem scratch_large_enough32 (val : Nat) (base : Int) (sign : Bool) (hv : val < 2^32) :
    (canon 32 val base sign).length < Gen.bufU32 :=
  Nat.lt_of_le_of_lt (Lemmas.IntFmt.canon_length_le (by decide) val base sign hv) (by decide)

theorem scratch_large_enough64 (val : Nat) (base : Int) (sign : Bool) (hv : val < 2^64) :
    (canon 64 val base sign).length < Gen.bufU64 :=
  Nat.lt_of_le_of_lt (Lemmas.IntFmt.canon_length_le (by decide) val base sign hv) (by decide)

example : (toStrBaseSign 32 tbl32 0x80000000 40 10 true).1.chars = "-2147483648".toList := by decide +kernel
example : (toStrBaseSign 32 tbl32 255 3 2 false).1.chars = "111".toList := by decide +kernel
example : (toStrBaseSign 64 tbl64 (2^64-1) 70 16 false).1.chars = "FFFFFFFFFFFFFFFF".toList := by decide +kernel

end ScpiVerif.Props.C14
