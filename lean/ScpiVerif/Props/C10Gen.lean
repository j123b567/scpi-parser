/-
C10, generated tie: the Lean text translated from libscpi/src/fifo.c on every run (Gen/FifoC.lean) refines the hand-written
ring-buffer model (through Lemmas/FifoC.lean), so that the theorems of Props/C10.lean hold of the C text as it is.  The theorems
stand in the namespace `Props.C10`.  This module is an obligation of C10's check whenever the translator ACCEPTS the current
fifo.c.  When it refuses a function (a construct outside its subset, e.g. a local variable without initialiser), the tie
degrades to the differential correspondence of the hand model, which is recorded in the evidence (`generated_tie`), and this
module is not built.
-/
import ScpiVerif.Model.Fifo
import ScpiVerif.Lemmas.Fifo
import ScpiVerif.Lemmas.FifoC

namespace ScpiVerif.Props.C10
open ScpiVerif ScpiVerif.Fifo

/-! In the generated text int16_t arithmetic is `Int` with `Int.tmod` for `%` and `wrap16` for a store into a field; a pointer
parameter the C function tests against NULL is an `Option` (`none` = NULL).  `CWF`, the hypothesis of the refinements:
non-negative indices, capacity 1..32767, the ring invariant of the model; it holds after fifo_init and every function keeps it. -/

open ScpiVerif.Gen.FifoC ScpiVerif.Lemmas.FifoC

/-- fifo_init: whatever the structure held before, the result is the model's initial queue; for 1 ≤ size ≤ 32767 and an
array of that length it is well-formed (`c_fifo_init_wf`) -/
theorem c_fifo_init {α} (f : CFifo α) (n : Nat) (d : α) :
    toModel (fifo_init f (List.replicate n d) (n : Int)) = Fifo.init n d := init_refines f _ _
theorem c_fifo_init_wf {α} (f : CFifo α) (data : List α) (size : Int) (h1 : 1 ≤ size) (h2 : size ≤ 32767)
    (hl : data.length = size.toNat) : CWF (fifo_init f data size) := cwf_init f data size h1 h2 hl
example : toModel (fifo_init (⟨7, -3, 9, 0, []⟩ : CFifo Nat) [0, 0, 0] 3) = Fifo.init 3 0 ∧
    CWF (fifo_init (⟨7, -3, 9, 0, []⟩ : CFifo Nat) [0, 0, 0] 3) := by
  unfold CWF Fifo.Inv; decide +kernel

theorem c_fifo_clear {α} (f : CFifo α) : toModel (fifo_clear f) = Fifo.clear (toModel f) := clear_refines f
theorem c_fifo_clear_wf {α} (f : CFifo α) (h : CWF f) : CWF (fifo_clear f) := cwf_clear f h
example : CWF (⟨0, 1, 2, 3, [10, 20, 30]⟩ : CFifo Nat) ∧
    fifo_clear (⟨0, 1, 2, 3, [10, 20, 30]⟩ : CFifo Nat) = ⟨0, 0, 0, 3, [10, 20, 30]⟩ := by
  unfold CWF Fifo.Inv; decide +kernel

theorem c_fifo_is_empty {α} (f : CFifo α) (h : CWF f) : fifo_is_empty f = isEmpty (toModel f) := is_empty_refines f h
theorem c_fifo_is_full {α} (f : CFifo α) (h : CWF f) : fifo_is_full f = isFull (toModel f) := is_full_refines f h
/-- fifo_count stores the count through its pointer (which it dereferences without a test: NULL is excluded by the C code) -/
theorem c_fifo_count {α} (f : CFifo α) (old : Int) (h : CWF f) :
    fifo_count f old = (Int.ofNat (cnt (toModel f)), true) := count_refines f old h
example : fifo_is_empty (⟨1, 1, 0, 3, [10, 20, 30]⟩ : CFifo Nat) = true ∧ fifo_is_full (⟨1, 1, 3, 3, [10, 20, 30]⟩ : CFifo Nat) = true ∧
    fifo_is_full (⟨0, 1, 2, 3, [10, 20, 30]⟩ : CFifo Nat) = false ∧ fifo_count (⟨0, 1, 2, 3, [10, 20, 30]⟩ : CFifo Nat) (-5) = (2, true) := by
  decide +kernel

theorem c_fifo_add {α} (f : CFifo α) (v : α) (h : CWF f) :
    toModel (fifo_add f (some v)).1 = (add (toModel f) v).1 ∧ (fifo_add f (some v)).2 = (add (toModel f) v).2 := by
  rw [add_eq f h v]; exact ⟨rfl, rfl⟩
theorem c_fifo_add_null {α} (f : CFifo α) : fifo_add f none = (f, false) := add_null f
theorem c_fifo_add_wf {α} (f : CFifo α) (p : Option α) (h : CWF f) : CWF (fifo_add f p).1 := cwf_add f p h
-- the write index wraps from 2 to 0; a full queue refuses
example : fifo_add (⟨2, 1, 1, 3, [10, 20, 30]⟩ : CFifo Nat) (some 7) = (⟨0, 1, 2, 3, [10, 20, 7]⟩, true) ∧
    fifo_add (⟨1, 1, 3, 3, [10, 20, 30]⟩ : CFifo Nat) (some 7) = (⟨1, 1, 3, 3, [10, 20, 30]⟩, false) ∧
    CWF (⟨2, 1, 1, 3, [10, 20, 30]⟩ : CFifo Nat) := by
  unfold CWF Fifo.Inv; decide +kernel

/-- fifo_remove: state and return value as in the model; a non-NULL out pointer receives the oldest entry (and keeps its
content when the queue is empty), a NULL out pointer delivers nothing while the state changes in the same way -/
theorem c_fifo_remove {α} [Inhabited α] (f : CFifo α) (p : Option α) (h : CWF f) :
    toModel (fifo_remove f p).1 = (remove (toModel f)).1 ∧
    (fifo_remove f p).2.2 = (remove (toModel f)).2.isSome ∧
    (fifo_remove f p).2.1 = p.map (fun old => (remove (toModel f)).2.getD old) := by
  rw [remove_eq f h p]; exact ⟨rfl, rfl, rfl⟩
theorem c_fifo_remove_wf {α} [Inhabited α] (f : CFifo α) (p : Option α) (h : CWF f) : CWF (fifo_remove f p).1 := cwf_remove f p h
-- the read index wraps from 2 to 0; NULL out pointer; empty queue
example : fifo_remove (⟨1, 2, 2, 3, [10, 20, 30]⟩ : CFifo Nat) (some 99) = (⟨1, 0, 1, 3, [10, 20, 30]⟩, some 30, true) ∧
    fifo_remove (⟨1, 2, 2, 3, [10, 20, 30]⟩ : CFifo Nat) none = (⟨1, 0, 1, 3, [10, 20, 30]⟩, none, true) ∧
    fifo_remove (⟨1, 1, 0, 3, [10, 20, 30]⟩ : CFifo Nat) (some 99) = (⟨1, 1, 0, 3, [10, 20, 30]⟩, some 99, false) ∧
    CWF (⟨1, 2, 2, 3, [10, 20, 30]⟩ : CFifo Nat) := by
  unfold CWF Fifo.Inv; decide +kernel

theorem c_fifo_remove_last {α} [Inhabited α] (f : CFifo α) (p : Option α) (h : CWF f) :
    toModel (fifo_remove_last f p).1 = (removeLast (toModel f)).1 ∧
    (fifo_remove_last f p).2.2 = (removeLast (toModel f)).2.isSome ∧
    (fifo_remove_last f p).2.1 = p.map (fun old => (removeLast (toModel f)).2.getD old) := by
  rw [remove_last_eq f h p]; exact ⟨rfl, rfl, rfl⟩
theorem c_fifo_remove_last_wf {α} [Inhabited α] (f : CFifo α) (p : Option α) (h : CWF f) :
    CWF (fifo_remove_last f p).1 := cwf_remove_last f p h
-- the write index steps back from 0 to 2
example : fifo_remove_last (⟨0, 1, 2, 3, [10, 20, 30]⟩ : CFifo Nat) (some 99) = (⟨2, 1, 1, 3, [10, 20, 30]⟩, some 30, true) ∧
    fifo_remove_last (⟨0, 1, 2, 3, [10, 20, 30]⟩ : CFifo Nat) none = (⟨2, 1, 1, 3, [10, 20, 30]⟩, none, true) ∧
    CWF (⟨0, 1, 2, 3, [10, 20, 30]⟩ : CFifo Nat) := by
  unfold CWF Fifo.Inv; decide +kernel

/-- every state that calls of the fifo.c functions can produce after fifo_init (capacity 1..32767, array of that length) is
well-formed: the hypothesis of the theorems above is never lost -/
theorem c_fifo_reachable_wf {α} [Inhabited α] {f : CFifo α} (h : Reachable f) : CWF f := reachable_cwf h
example : Reachable (fifo_remove (fifo_add (fifo_init (⟨7, -3, 9, 0, []⟩ : CFifo Nat) [0, 0] 2) (some 5)).1 none).1 :=
  .remove none (.add (some 5) (.init _ _ _ (by decide) (by decide) (by decide)))

/-- transfer: the abstract-queue theorems of Props/C10.lean, read for the C text: fifo_add appends unless full, fifo_remove takes the head,
fifo_remove_last the last entry -/
theorem c_fifo_abs_add {α} (f : CFifo α) (v : α) (h : CWF f) :
    (fifo_add f (some v)).2 = decide ((abs (toModel f)).length < (toModel f).size) ∧
    abs (toModel (fifo_add f (some v)).1) = if (abs (toModel f)).length < (toModel f).size then abs (toModel f) ++ [v] else abs (toModel f) := by
  rw [add_eq f h v]; exact Lemmas.Fifo.abs_add _ v h.inv
theorem c_fifo_abs_remove {α} [Inhabited α] (f : CFifo α) (old : α) (h : CWF f) :
    (fifo_remove f (some old)).2.1 = some ((abs (toModel f)).head?.getD old) ∧
    abs (toModel (fifo_remove f (some old)).1) = (abs (toModel f)).tail := by
  obtain ⟨h1, h2⟩ := Lemmas.Fifo.abs_remove _ h.inv
  rw [remove_eq f h _, ← h1]; exact ⟨rfl, h2⟩
theorem c_fifo_abs_remove_last {α} [Inhabited α] (f : CFifo α) (old : α) (h : CWF f) :
    (fifo_remove_last f (some old)).2.1 = some ((abs (toModel f)).getLast?.getD old) ∧
    abs (toModel (fifo_remove_last f (some old)).1) = (abs (toModel f)).dropLast := by
  obtain ⟨h1, h2⟩ := Lemmas.Fifo.abs_removeLast _ h.inv
  rw [remove_last_eq f h _, ← h1]; exact ⟨rfl, h2⟩
example : abs (toModel (⟨0, 1, 2, 3, [10, 20, 30]⟩ : CFifo Nat)) = [20, 30] ∧
    abs (toModel (fifo_add (⟨0, 1, 2, 3, [10, 20, 30]⟩ : CFifo Nat) (some 7)).1) = [20, 30, 7] ∧
    abs (toModel (fifo_remove (⟨0, 1, 2, 3, [10, 20, 30]⟩ : CFifo Nat) (some 0)).1) = [30] := by
  decide +kernel

end ScpiVerif.Props.C10
