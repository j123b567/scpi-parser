/-
C11, generated tie: the Lean text translated from the status-register functions of libscpi/src/ieee488.c on every run
(Gen/RegsC.lean: SCPI_RegGet, writeControl, SCPI_RegSet, SCPI_RegSetBits, SCPI_RegClearBits) computes what the hand-written
register model computes (through Lemmas/RegsC.lean), so that the theorems of Props/C11.lean hold of the C text as it is.  The
theorems stand in the namespace `Props.C11`.  This module is an obligation of C11's check whenever the translator ACCEPTS the
current ieee488.c.  When it refuses a function (a construct outside its subset), the tie degrades to the differential
correspondence of the hand model, which is recorded in the evidence (`generated_tie`), and this module is not built.
-/
import ScpiVerif.Model.Regs
import ScpiVerif.Lemmas.RegsC
import ScpiVerif.Props.C11

namespace ScpiVerif.Props.C11
open ScpiVerif ScpiVerif.Regs ScpiVerif.Gen.RegsC ScpiVerif.Lemmas.RegsC

/-! ### The C text of the register functions refines the model

`ScpiVerif.Gen.RegsC` is GENERATED from ieee488.c (clang's typed AST; `uint16_t` as `BitVec 16`, enum values as `Nat`, the
`do … while` of SCPI_RegSet as a recursion on fuel, the control callback as an append to `ctrlLog`).  `toSt c b` reads a context
as a state of the hand model: its registers, the service requests among its logged control calls, and the error-queue
counters of `b`, which these functions do not touch.  `CB c`: the control callback is installed, as the hand model assumes. -/

/-- SCPI_RegGet, for every context and every name (0 outside the register file) -/
theorem c_regGet (c : CCtx) (b : St) (name : Nat) : SCPI_RegGet c name = get (toSt c b) name := regGet_refines c b name

/-- SCPI_RegSet, for every context with the callback installed and a register file of SCPI_REG_COUNT entries (what the C
type of `registers` says), every name (out-of-range names included: nothing changes) and every 16-bit value: registers
and service-request log as in the model -/
theorem c_regSet (c : CCtx) (b : St) (name : Nat) (val : Reg) (hcb : CB c) (hlen : c.registers.length = regCount) :
    toSt (SCPI_RegSet c name val) b = regSet (toSt c b) name val := regSet_refines c b name val hcb hlen
theorem c_regSetBits (c : CCtx) (b : St) (name : Nat) (bits : Reg) (hcb : CB c) (hlen : c.registers.length = regCount) :
    toSt (SCPI_RegSetBits c name bits) b = regSetBits (toSt c b) name bits := regSetBits_refines c b name bits hcb hlen
theorem c_regClearBits (c : CCtx) (b : St) (name : Nat) (bits : Reg) (hcb : CB c) (hlen : c.registers.length = regCount) :
    toSt (SCPI_RegClearBits c name bits) b = regClearBits (toSt c b) name bits := regClearBits_refines c b name bits hcb hlen

/-- both hypotheses are kept by SCPI_RegSet, so the theorems apply call after call -/
theorem c_regSet_keeps (c : CCtx) (b : St) (name : Nat) (val : Reg) (hcb : CB c) (hlen : c.registers.length = regCount) :
    CB (SCPI_RegSet c name val) ∧ (SCPI_RegSet c name val).registers.length = regCount :=
  ⟨regSet_cb c name val hcb, regSet_length c name val hlen⟩

/-- without an installed callback (`context->interface` or `context->interface->control` NULL, which the hand model does
not cover): the registers are still those of the model and no control call is made -/
theorem c_regSet_nocb (c : CCtx) (b : St) (name : Nat) (val : Reg) (h : ¬ CB c) (hlen : c.registers.length = regCount) :
    (SCPI_RegSet c name val).registers = (regSet (toSt c b) name val).regs ∧
    (SCPI_RegSet c name val).ctrlLog = c.ctrlLog := regSet_nocb c b name val h hlen

/-- the fuel the translator gives the loop of SCPI_RegSet suffices for the generated tables: the out-of-fuel flag is never
set (any context, any name, any value), and the interface pointers / the callback's answer are left alone -/
theorem c_regSet_fuel (c : CCtx) (name : Nat) (val : Reg) :
    (SCPI_RegSet c name val).oof = c.oof ∧ flags (SCPI_RegSet c name val) = flags c :=
  regSet_fuel c name val

-- ESE = 0x20, then ESR |= 0x20: the summary bit 5 of the status byte is set, no service request; with SRE = 0x20 first:
-- one callback carrying 0x60 (ESB + MSS); an out-of-range name changes nothing; fuel never runs out
example : let c := SCPI_RegSetBits (SCPI_RegSet (ofSt (St.init 2)) 3 0x20#16) 2 0x20#16
    aget16 c.registers 0 = 0x20#16 ∧ c.ctrlLog = [] ∧ c.oof = false := by decide
example : let c := SCPI_RegSetBits (SCPI_RegSet (SCPI_RegSet (ofSt (St.init 2)) 1 0x20#16) 3 0x20#16) 2 0x20#16
    c.registers.take 4 = [0x60#16, 0x20#16, 0x20#16, 0x20#16] ∧ c.ctrlLog = [(SCPI_CTRL_SRQ, 0x60#16)] ∧ c.oof = false := by decide
example : SCPI_RegSet (ofSt (St.init 2)) 10 0xFFFF#16 = ofSt (St.init 2) ∧ SCPI_RegGet (ofSt (St.init 2)) 11 = 0#16 := by decide
example : let c := SCPI_RegSetBits (SCPI_RegSet (SCPI_RegSet { ofSt (St.init 2) with hasInterface := false } 1 0x20#16) 3 0x20#16) 2 0x20#16
    c.registers.take 4 = [0x60#16, 0x20#16, 0x20#16, 0x20#16] ∧ c.ctrlLog = [] := by decide
-- the three-level walk: a condition bit rises, is latched in the event register and summarised in the status byte
example : let c := SCPI_RegSet (SCPI_RegSet (ofSt (St.init 2)) 5 0x0100#16) 6 0x0100#16
    c.registers = [0x80#16, 0, 0, 0, 0x0100#16, 0x0100#16, 0x0100#16, 0, 0, 0] ∧ c.oof = false := by decide

/-- the operations of `Regs.step` that are calls of the translated functions, run through the GENERATED text
(the others - error queue, *CLS - stay with the hand model) -/
def gstep (s : St) : Op → St
  | .set n v => toSt (SCPI_RegSet (ofSt s) n v) s
  | .setBits n v => toSt (SCPI_RegSetBits (ofSt s) n v) s
  | .clearBits n v => toSt (SCPI_RegClearBits (ofSt s) n v) s
  | .esrQ => toSt (SCPI_RegSet (ofSt s) ESR 0) s
  | .operQ => toSt (SCPI_RegSet (ofSt s) OPER 0) s
  | .quesQ => toSt (SCPI_RegSet (ofSt s) QUES 0) s
  | .preset => toSt (SCPI_RegSet (ofSt s) QUES 0) s
  | op => step s op

theorem c_gstep (s : St) (op : Op) (hwf : WF s) : gstep s op = step s op := by
  have hl : (ofSt s).registers.length = regCount := hwf.1
  cases op <;> simp only [gstep, step, c_regSet _ _ _ _ (cb_ofSt s) hl, c_regSetBits _ _ _ _ (cb_ofSt s) hl,
    c_regClearBits _ _ _ _ (cb_ofSt s) hl, toSt_ofSt]

/-- one call of a generated function keeps coherence (any well-formed context with the callback, all 16-bit values, any
register but the status byte itself) -/
theorem c_coherent_step (c : CCtx) (b : St) (name : Nat) (val : Reg) (hcb : CB c) (hwf : WF (toSt c b))
    (hc : Coherent (toSt c b)) (hn : name ≠ STB) :
    Coherent (toSt (SCPI_RegSet c name val) b) ∧ Coherent (toSt (SCPI_RegSetBits c name val) b) ∧
    Coherent (toSt (SCPI_RegClearBits c name val) b) := by
  rw [c_regSet _ _ _ _ hcb hwf.1, c_regSetBits _ _ _ _ hcb hwf.1, c_regClearBits _ _ _ _ hcb hwf.1]
  have h : ∀ op : Op, op.ok = true → Coherent (step (toSt c b) op) := fun op h => coherent_step _ op hwf hc h
  exact ⟨h (.set name val) (by simpa [Op.ok] using hn), h (.setBits name val) (by simpa [Op.ok] using hn),
    h (.clearBits name val) (by simpa [Op.ok] using hn)⟩

/-- application writes to the status byte through the generated functions, under the condition of `coherent_step_app` -/
theorem c_coherent_step_app (s : St) (op : Op) (hwf : WF s) (hc : Coherent s) (hop : op.okIn s = true) :
    Coherent (gstep s op) := by
  rw [c_gstep s op hwf]; exact coherent_step_app s op hwf hc hop

theorem c_gstep_foldl (ops : List Op) : ∀ (s : St), WF s → ops.foldl gstep s = ops.foldl step s := by
  induction ops with
  | nil => intros; rfl
  | cons op ops ih =>
    intro s hwf
    simp only [List.foldl_cons, c_gstep s op hwf]
    exact ih _ (wf_step s op hwf)

/-- C11's `coherent_reachable` with the register operations run through the generated text -/
theorem c_coherent_reachable (cap : Nat) (hcap : 1 ≤ cap) (ops : List Op) (hops : ∀ op ∈ ops, op.ok = true) :
    Coherent (ops.foldl gstep (St.init cap)) := by
  rw [c_gstep_foldl ops _ (wf_init cap hcap)]; exact coherent_reachable cap hcap ops hops

/-- what a direct SCPI_RegSet on the status byte leaves there (generated text) -/
theorem c_stb_after_set (c : CCtx) (b : St) (v : Reg) (hcb : CB c) (hwf : WF (toSt c b)) (hc : Coherent (toSt c b)) :
    SCPI_RegGet (SCPI_RegSet c STB v) STB =
      if (v &&& ~~~bit Gen.STB_SRQ) &&& (SCPI_RegGet c SRE &&& ~~~bit Gen.STB_SRQ) ≠ 0 then v ||| bit Gen.STB_SRQ
      else v &&& ~~~bit Gen.STB_SRQ := by
  rw [c_regGet _ b, c_regGet _ b, c_regSet _ _ _ _ hcb hwf.1]
  exact stb_after_set (toSt c b) v hwf hc

example : Coherent ([Op.set ESR 0x20, .set ESE 0x20, .errPush (-100), .set SRE 0x24, .errPop, .esrQ].foldl gstep (St.init 2)) := by
  decide
example : get ([Op.set ESR 0x20, .set ESE 0x20].foldl gstep (St.init 2)) STB = 0x20#16 := by decide

end ScpiVerif.Props.C11
