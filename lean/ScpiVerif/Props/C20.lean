/-
C20 — The allocation-free build stores error texts intact or not at all.
Property theorems only; helper lemmas in ScpiVerif/Lemmas/Heap.lean.
-/
import ScpiVerif.Model.Heap
import ScpiVerif.Lemmas.Heap
import ScpiVerif.Lemmas.FieldWidths

namespace ScpiVerif.Props.C20
open ScpiVerif ScpiVerif.Heap

/-- Full statement: for every queue capacity >= 1, every heap size (including 0 and 1) and every
history of pushes (any code, any NUL-free text of any length, any declared length), SYST:ERR?
pops, clears and counts — overflows included — every observation equals that of the abstract
bounded FIFO which remembers the full text of every push, except that a reported text may be
absent: never truncated, merged or foreign.  No load or store touches an index outside the heap. -/
theorem text_intact_or_absent (cap heapSize : Nat) (hcap : 1 ≤ cap) (ops : List Op)
    (hwf : ∀ op ∈ ops, op.wf = true) :
    let impl := run EQH.step (EQH.init cap heapSize) ops
    let spec := run (specStep cap) [] ops
    impl.2.length = spec.2.length ∧
    (∀ p ∈ impl.2.zip spec.2, obsOK p.1 p.2 = true) ∧
    impl.1.heap.oob = false ∧ impl.1.heap.data.length = heapSize ∧ impl.1.heap.size = heapSize :=
  Lemmas.Heap.text_intact_or_absent cap heapSize hcap ops hwf

/-- heap space is completely reusable once the queue is empty -/
theorem empty_means_reusable (cap heapSize : Nat) (hcap : 1 ≤ cap) (ops : List Op)
    (hwf : ∀ op ∈ ops, op.wf = true) :
    let q := (run EQH.step (EQH.init cap heapSize) ops).1
    q.fifo.count = 0 → q.heap.count = heapSize ∧ q.heap.wr = 0 ∧ q.heap.data = List.replicate heapSize 0 :=
  Lemmas.Heap.empty_means_reusable cap heapSize hcap ops hwf

/-- a text that fits an empty heap is stored and comes back unmodified -/
theorem fits_means_stored (cap heapSize : Nat) (hcap : 1 ≤ cap) (c : Int) (s : Bytes)
    (hs : s.all (· ≠ 0) = true) (hne : s ≠ []) (hfit : s.length < heapSize) (h255 : s.length ≤ 255) :
    (run EQH.step (EQH.init cap heapSize) [.push c (some s) 0, .sysErr]).2 = [.pushed [c], .popped c (some s)] :=
  Lemmas.Heap.fits_means_stored cap heapSize hcap c s hs hne hfit h255

-- wrap-around, overflow with rollback, refusal when full
example : (run EQH.step (EQH.init 2 8) [.push 1 (some [65,66,67]) 0, .push 2 (some [68,69]) 0, .sysErr,
    .push 3 (some [70,71,72,73]) 0, .push 4 (some [74]) 0, .sysErr, .sysErr, .count]).2 =
    [.pushed [1], .pushed [2], .popped 1 (some [65,66,67]), .pushed [3], .pushed [4, -350], .popped 2 (some [68,69]),
     .popped (-350) none, .counted 0] := by decide +kernel

/-- write offset, free count and size of the static heap are, as compiled from the current source, unsigned and at least 32 bits wide (widths regenerated by the translator on every run) -/
theorem heap_fields_wide_enough :
    Lemmas.FieldWidths.UnsignedAtLeast Gen.fw_error_info_heap_wr 32 ∧ Lemmas.FieldWidths.UnsignedAtLeast Gen.fw_error_info_heap_count 32 ∧
    Lemmas.FieldWidths.UnsignedAtLeast Gen.fw_error_info_heap_size 32 :=
  Lemmas.FieldWidths.heap_fields

end ScpiVerif.Props.C20
