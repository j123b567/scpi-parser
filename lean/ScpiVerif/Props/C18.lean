/-
C18 — The error query always yields one well-formed, bounded error response.
Property theorems only; helper lemmas in ScpiVerif/Lemmas/ErrorString.lean.
`Result.resultError` is the model of SCPI_ResultError; `Spec.ErrorString.response` the specification:
<code>,"<description>[;<text>]" with doubled quotes, content cut to the longest prefix whose
escaped form has at most 255 characters.
-/
import ScpiVerif.Model.Result
import ScpiVerif.Spec.ErrorString
import ScpiVerif.Lemmas.ErrorString

namespace ScpiVerif.Props.C18
open ScpiVerif ScpiVerif.Lexer ScpiVerif.Result ScpiVerif.Spec.ErrorString

def emitted (o o' : Out) : Bytes := o'.written.drop o.written.length

/-- Full statement, malloc build (the text is one part or absent): for every 16-bit code, every
description and every device-dependent text of any length and content (no NUL: C strings), the model
writes exactly the specified response (after the item separator that the output state calls for).
`o.outputCount = 0` is the state in which the SYST:ERR? handler runs when it is the first responding unit. -/
theorem resultError_one_part (o : Out) (code : Int) (hc : -32768 ≤ code ∧ code ≤ 32767) (desc : Bytes) (text : Option Bytes)
    (hd : desc.all (· ≠ 0) = true) (hdne : desc ≠ []) (ht : ∀ t, text = some t → t.all (· ≠ 0) = true) (ho : o.outputCount = 0) :
    emitted o (resultError o code desc [text]) = response code desc text :=
  Lemmas.ErrorString.resultError_one_part o code hc desc text hd hdne ht ho

/-- static-heap build: the text may be stored in two parts (wrapped around the end of the heap) -/
theorem resultError_two_parts (o : Out) (code : Int) (hc : -32768 ≤ code ∧ code ≤ 32767) (desc a b : Bytes)
    (hd : desc.all (· ≠ 0) = true) (hdne : desc ≠ []) (ha : a.all (· ≠ 0) = true) (hane : a ≠ []) (hb : b.all (· ≠ 0) = true)
    (ho : o.outputCount = 0) :
    emitted o (resultError o code desc [some a, if b.isEmpty then none else some b]) = response code desc (some (a ++ b)) :=
  Lemmas.ErrorString.resultError_two_parts o code hc desc a b hd hdne ha hane hb ho

/-- the specified response is a single IEEE 488.2 string after the code: its unescaped content is a
prefix of description;text, the escaped content has at most 255 characters, and no longer prefix fits -/
theorem response_shape (code : Int) (desc : Bytes) (text : Option Bytes) :
    let full := desc ++ (match text with | some t => [59] ++ t | none => [])
    let c := cut full 255
    response code desc text = signedDecimal code ++ [44, 34] ++ escape c ++ [34] ∧
    c = full.take c.length ∧ (escape c).length ≤ 255 ∧
    (c.length < full.length → (escape (full.take (c.length + 1))).length > 255) :=
  Lemmas.ErrorString.response_shape code desc text

/-- un-escaping recovers the content: every quote inside is doubled and nothing else is changed -/
theorem escape_injective (a b : Bytes) (h : escape a = escape b) : a = b := Lemmas.ErrorString.escape_injective a b h

/-- codes without a table entry use the fallback description; every code has one (generated list) -/
theorem description_total (code : Int) :
    errorTranslate code = (match Gen.errorList.find? (fun p => p.1 == code) with
      | some p => bytesOf p.2 | none => bytesOf Gen.errFallback) ∧ errorTranslate code ≠ [] :=
  Lemmas.ErrorString.description_total code

example : emitted {} (resultError {} (-113) (bytesOf "Undefined header") [some (bytesOf "a\"b")]) =
    bytesOf "-113,\"Undefined header;a\"\"b\"" := by decide +kernel

end ScpiVerif.Props.C18
