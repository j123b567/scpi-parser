/-
C12, generated tie: latching of condition changes and the service-request callback, restated for the Lean text translated
from SCPI_RegSet (libscpi/src/ieee488.c) on every run (Gen/RegsC.lean), through Lemmas/RegsC.lean and Props/C11Gen.lean.  The
theorems stand in the namespace `Props.C12`.  Built and audited by C12's check whenever the translator accepts the current
ieee488.c (see Props/C11Gen.lean).
-/
import ScpiVerif.Model.Regs
import ScpiVerif.Lemmas.RegsC
import ScpiVerif.Props.C12
import ScpiVerif.Props.C11Gen

namespace ScpiVerif.Props.C12
open ScpiVerif ScpiVerif.Regs ScpiVerif.Gen.RegsC ScpiVerif.Lemmas.RegsC ScpiVerif.Props.C11

/-- a 0→1 change of a condition bit latches the same bit in the event register (generated SCPI_RegSet / SCPI_RegGet) -/
theorem c_cond_latches_oper (c : CCtx) (b : St) (v : Reg) (hcb : CB c) (hwf : WF (toSt c b)) :
    SCPI_RegGet (SCPI_RegSet c OPERC v) OPER = SCPI_RegGet c OPER ||| (v &&& ~~~(SCPI_RegGet c OPERC)) ∧
    SCPI_RegGet (SCPI_RegSet c OPERC v) OPERC = v := by
  simp only [c_regGet _ b, c_regSet _ _ _ _ hcb hwf.1]
  exact cond_latches_oper (toSt c b) v hwf
theorem c_cond_latches_ques (c : CCtx) (b : St) (v : Reg) (hcb : CB c) (hwf : WF (toSt c b)) :
    SCPI_RegGet (SCPI_RegSet c QUESC v) QUES = SCPI_RegGet c QUES ||| (v &&& ~~~(SCPI_RegGet c QUESC)) ∧
    SCPI_RegGet (SCPI_RegSet c QUESC v) QUESC = v := by
  simp only [c_regGet _ b, c_regSet _ _ _ _ hcb hwf.1]
  exact cond_latches_ques (toSt c b) v hwf
-- bit 8 was set and stays, bit 9 rises and is latched, bit 10 falls and is not
example : let c := SCPI_RegSet (SCPI_RegSet (ofSt (St.init 2)) 6 0x0500#16) 6 0x0300#16
    SCPI_RegGet c 4 = 0x0700#16 ∧ SCPI_RegGet c 6 = 0x0300#16 := by decide

/-- event bits stay set under every operation that is not defined to clear them (register operations through the
generated text) -/
theorem c_event_monotone (s : St) (op : Op) (ev : Nat) (hev : ev = ESR ∨ ev = OPER ∨ ev = QUES)
    (hwf : WF s) (hop : op.ok = true) (hnc : clears ev op = false) :
    get s ev &&& ~~~(get (gstep s op) ev) = 0 := by
  rw [c_gstep s op hwf]; exact event_monotone s op ev hev hwf hop hnc

/-- single register write through the generated SCPI_RegSet: the control callback is called at most once, only with MSS
set in the value passed, the value passed is the status byte after the write, and it is called whenever MSS rises -/
theorem c_srq_regset (c : CCtx) (b : St) (name : Nat) (v : Reg) (hcb : CB c) (hwf : WF (toSt c b)) (hc : Coherent (toSt c b)) :
    let c' := SCPI_RegSet c name v
    (srqOf c'.ctrlLog = srqOf c.ctrlLog ∨
      (srqOf c'.ctrlLog = srqOf c.ctrlLog ++ [SCPI_RegGet c' STB] ∧ SCPI_RegGet c' STB &&& stbSRQ ≠ 0)) ∧
    (SCPI_RegGet c STB &&& stbSRQ = 0 → SCPI_RegGet c' STB &&& stbSRQ ≠ 0 →
      srqOf c'.ctrlLog = srqOf c.ctrlLog ++ [SCPI_RegGet c' STB]) := by
  have h := srq_regset (toSt c b) name v hwf hc
  simp only [← c_regSet _ _ _ _ hcb hwf.1, mss, ← c_regGet, decide_eq_true_eq, decide_eq_false_iff_not, Decidable.not_not] at h
  exact h

/-- every operation (register operations through the generated text): callbacks are appended only, each carries MSS, a
rise of MSS implies at least one -/
theorem c_srq_step (s : St) (op : Op) (hwf : WF s) (hc : Coherent s) (hop : op.ok = true) :
    ∃ new, (gstep s op).srq = s.srq ++ new ∧ (∀ v ∈ new, v &&& stbSRQ ≠ 0) ∧
      (mss s = false → mss (gstep s op) = true → new ≠ []) := by
  rw [c_gstep s op hwf]; exact srq_step s op hwf hc hop

example : (([Op.set SRE 0x20, .set ESE 0x20, .errPush (-100)].foldl gstep (St.init 2)).srq) = [0x60#16, 0x64#16] ∨
          (([Op.set SRE 0x20, .set ESE 0x20, .errPush (-100)].foldl gstep (St.init 2)).srq) = [0x60#16] := by decide

end ScpiVerif.Props.C12
